import Garr.Num.F64
import Garr.Conc
import Garr.Retry.Model
import Garr.Retry.Lemmas
import Garr.Validate.Model
import Garr.SpecParse.Model
import Garr.Queue.Model
import Garr.Queue.Step
import Garr.Queue.Inv
import Garr.Props.C05
import Garr.Props.C18
import Garr.Props.C20
import Garr.Num.Wrap
import Garr.Num.F64Bits
import Garr.Adder.Heap
import Garr.Adder.Model
import Garr.Queue.Term
import Garr.Lin
import Garr.Queue.LP
import Garr.Breaker.Seq
import Garr.Props.C01
import Garr.Breaker.Conc
import Garr.Queue.Iter
import Garr.Breaker.Bucket
import Garr.Breaker.Doc
import Garr.Props.C06
import Garr.Pool.Model
import Garr.Adder.StepRun
import Garr.Adder.Inv
import Garr.Adder.Solo
import Garr.Breaker.Step
import Garr.Breaker.ConcInv
import Garr.Props.C03
import Garr.Locked.Model
import Garr.Disc.Model
import Garr.Disc.Table
import Garr.SpecParse.Grammar
import Garr.Num.F64Order
import Garr.Breaker.WindowInv
import Garr.Props.C10
import Garr.Adder.Simple
import Garr.Adder.SumBounds
import Garr.Queue.Quiescent
import Garr.Props.C15
import Garr.Locked.Inv
import Garr.Disc.Theory
import Garr.Props.C19
import Garr.Props.C14
import Garr.Num.F64Lemmas
import Garr.Retry.SatLemmas
import Garr.Adder.SimpleInv
import Garr.Props.SimpleAdders
import Garr.Pool.Mono
import Garr.Pool.Inv
import Garr.Props.Pool
import Garr.Pool.OldStartRace
import Garr.Props.PoolExpand
import Garr.Queue.LockFree
import Garr.Props.C07LockFree
import Garr.Num.F64Exact
import Garr.Adder.FloatStruct
import Garr.Adder.FloatInv
import Garr.Props.C02Float
import Garr.Pool.Progress
import Garr.Props.PoolProgress
import Garr.Props.C10Fine
import Garr.Adder.UnitSum
import Garr.Props.C09Unit
import Garr.Pool.Mono
import Garr.Pool.Fair
import Garr.Props.PoolLive
import Garr.Pool.FairSubmit
import Garr.Props.PoolLiveSubmit
import Garr.Pool.Starve
import Garr.Props.PoolNoExpiry
import Garr.Props.PoolLiveExpiry
import Garr.Props.PoolLiveStop
