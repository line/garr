import Garr.Adder.FloatStruct
import Garr.Adder.Solo
import Garr.Adder.SimpleInv
import Garr.Num.F64Exact
import Mathlib.Algebra.BigOperators.Group.Multiset.Basic
/-!
# The float adders are exact when all partial sums are representable (C02, float clause)

`AllPartialSumsExact xs`: every operand of `xs` (a list of binary64 bit patterns) is finite and the exact
rational sum of every sublist (hence of every sub-multiset) of `xs` is the value of a finite binary64.

Ghost state is carried by an *existential* invariant, not by changing the model: `ExactHeap g live` says that
the multiset `live` of operands applied so far can be split into one sub-multiset per location (base, each
cell) such that every location holds a finite float whose rational value is the exact sum of its share
(`Holds`).  `Eff` classifies what a non-maintenance step does to base / cells together with the `lp` markers it
emits; `exact_eff` shows that `ExactHeap` follows the `lp`s as long as the hypothesis holds.

Two machines: the simple float adder (`Simple.M P`, `P.alg = floatAlg`, one cell — `atomicF64P`) and the striped
float adder (`M floatAlg mc`, any `mc`; structural invariant from `Garr.Adder.FloatStruct`, solo runs of `Sum` /
`Store` from `Garr.Adder.Solo`).  What a `Sum` running alone computes is the exact total, since its own
left-to-right additions are partial sums again (`sumRes_exact`).  When no `Add` is in flight the `lp` operands are,
as a multiset, the operands of the accepted `Add` invocations (`lps_invoked`, `simple_lps_invoked`, by the generic
accounting `acct_run`).  `QuantumBounded`: bounded integer multiples of a common quantum, whose partial sums are
again such multiples; that they satisfy the hypothesis is `Garr.Props.C02Float.hypothesis_of_quantum`.  The
statements about schedules are assembled in `Garr.Props.C02Float`.

(Proof file: imports single Mathlib modules.)
-/
namespace Garr.Adder.Float
open Garr.Conc Garr.Adder Garr.F64Exact

def lps : List Obs → List Int
  | [] => []
  | .lp x :: r => x :: lps r
  | .ret _ :: r => lps r

/-- operands of the linearization points of a log, oldest first -/
def lpsLog : List (Tid × Obs) → List Int
  | [] => []
  | (_, .lp x) :: r => x :: lpsLog r
  | (_, .ret _) :: r => lpsLog r

theorem lpsLog_append (a b : List (Tid × Obs)) : lpsLog (a ++ b) = lpsLog a ++ lpsLog b := by
  induction a with
  | nil => rfl
  | cons e r ih =>
    obtain ⟨t, o⟩ := e
    cases o <;> simp [lpsLog, ih]

theorem lpsLog_tag (t : Tid) (obs : List Obs) : lpsLog (obs.map (fun o => (t, o))) = lps obs := by
  induction obs with
  | nil => rfl
  | cons o r ih => cases o <;> simp [lpsLog, lps, ih]

def qsumL (xs : List Int) : ℚ := (xs.map fval).sum

def qsum (s : Multiset Int) : ℚ := (s.map fval).sum

/-- **The hypothesis of the float clause of C02**: all operands are finite floats and every partial sum —
    the exact rational sum of any sublist, i.e. of any sub-multiset, of the operands — is the value of a
    finite binary64.  (Decidable in principle: finitely many sublists, and representability of a given
    dyadic rational is a bounded search.) -/
def AllPartialSumsExact (xs : List Int) : Prop :=
  (∀ x ∈ xs, IsFinBits x) ∧ ∀ s : List Int, s.Sublist xs → Representable (qsumL s)

/-- multiset form of the hypothesis -/
def PSE (m : Multiset Int) : Prop :=
  (∀ x ∈ m, IsFinBits x) ∧ ∀ s : Multiset Int, s ≤ m → Representable (qsum s)

theorem qsum_coe (xs : List Int) : qsum (xs : Multiset Int) = qsumL xs := by
  unfold qsum qsumL
  rw [Multiset.map_coe, Multiset.sum_coe]

theorem qsum_zero : qsum 0 = 0 := by simp [qsum]

theorem qsum_add (s t : Multiset Int) : qsum (s + t) = qsum s + qsum t := by
  unfold qsum; rw [Multiset.map_add, Multiset.sum_add]

theorem qsum_singleton (x : Int) : qsum {x} = fval x := by
  unfold qsum; rw [Multiset.map_singleton, Multiset.sum_singleton]

theorem qsumL_perm {l1 l2 : List Int} (h : l1.Perm l2) : qsumL l1 = qsumL l2 :=
  (h.map fval).sum_eq

theorem pse_of_list {xs : List Int} (h : AllPartialSumsExact xs) : PSE (xs : Multiset Int) := by
  refine ⟨fun x hx => h.1 x (Multiset.mem_coe.1 hx), fun s hs => ?_⟩
  induction s using Quot.inductionOn with
  | h l =>
    have hs' : (l : Multiset Int) ≤ (xs : Multiset Int) := hs
    rw [Multiset.coe_le] at hs'
    obtain ⟨l', hp, hsub⟩ := hs'
    show Representable (qsum (l : Multiset Int))
    rw [qsum_coe, ← qsumL_perm hp]
    exact h.2 l' hsub

theorem list_of_pse {xs : List Int} (h : PSE (xs : Multiset Int)) : AllPartialSumsExact xs := by
  refine ⟨fun x hx => h.1 x (Multiset.mem_coe.2 hx), fun s hs => ?_⟩
  rw [← qsum_coe]
  exact h.2 _ (Multiset.coe_le.2 hs.subperm)

theorem PSE.mono {m m' : Multiset Int} (h : PSE m) (hle : m' ≤ m) : PSE m' :=
  ⟨fun x hx => h.1 x (Multiset.mem_of_le hle hx), fun s hs => h.2 s (le_trans hs hle)⟩

theorem AllPartialSumsExact.sublist {xs ys : List Int} (h : AllPartialSumsExact xs) (hs : ys.Sublist xs) :
    AllPartialSumsExact ys :=
  ⟨fun x hx => h.1 x (hs.subset hx), fun s hsy => h.2 s (hsy.trans hs)⟩

theorem pse_zero : PSE 0 := by
  refine ⟨fun x hx => by simp at hx, fun s hs => ?_⟩
  have : s = 0 := by simpa using hs
  rw [this, qsum_zero]; exact representable_zero

def Holds (b : Int) (s : Multiset Int) : Prop := IsFinBits b ∧ fval b = qsum s

theorem floatAlg_float : floatAlg.float = true := rfl
theorem floatAlg_view (x : Int) : floatAlg.view x = x := rfl
theorem floatAlg_add (a b : Int) : floatAlg.add a b = addBits a b := rfl

theorem holds_zero : Holds 0 0 := ⟨isFinBits_zero, by rw [fval_zero, qsum_zero]⟩

theorem holds_single {x : Int} (h : IsFinBits x) : Holds x {x} := ⟨h, (qsum_singleton x).symm⟩

theorem Holds.add {a b : Int} {s u : Multiset Int} (ha : Holds a s) (hb : Holds b u)
    (hr : Representable (qsum (s + u))) : Holds (floatAlg.add a b) (s + u) := by
  rw [qsum_add, ← ha.2, ← hb.2] at hr
  obtain ⟨h1, h2⟩ := addBits_exact ha.1 hb.1 hr
  exact ⟨h1, by rw [floatAlg_add, h2, qsum_add, ha.2, hb.2]⟩

theorem Holds.addOp {b x : Int} {s m : Multiset Int} (h : Holds b s) (hm : PSE m) (hle : s + {x} ≤ m) :
    Holds (floatAlg.add b x) (s + {x}) := by
  have hx : IsFinBits x := hm.1 x (Multiset.mem_of_le hle (by simp))
  exact h.add (holds_single hx) (hm.2 _ hle)

def sumN {α : Type} [AddCommMonoid α] (f : Nat → α) : Nat → α
  | 0 => 0
  | n+1 => sumN f n + f n

section SumN
variable {α : Type} [AddCommMonoid α]

theorem sumN_congr {f g : Nat → α} {n : Nat} (h : ∀ k, k < n → f k = g k) : sumN f n = sumN g n := by
  induction n with
  | zero => rfl
  | succ n ih =>
    simp only [sumN]
    rw [ih (fun k hk => h k (by omega)), h n (by omega)]

theorem sumN_zero (n : Nat) : sumN (fun _ => (0 : α)) n = 0 := by
  induction n with
  | zero => rfl
  | succ n ih => simp [sumN, ih]

theorem sumN_add (f g : Nat → α) (n : Nat) : sumN (fun k => f k + g k) n = sumN f n + sumN g n := by
  induction n with
  | zero => simp [sumN]
  | succ n ih => simp only [sumN, ih]; rw [add_add_add_comm]

theorem sumN_single (c n : Nat) (d : α) (hc : c < n) : sumN (fun k => if k = c then d else 0) n = d := by
  induction n with
  | zero => omega
  | succ n ih =>
    simp only [sumN]
    by_cases hcn : c = n
    · subst hcn
      rw [sumN_congr (g := fun _ => 0) (fun k hk => if_neg (Nat.ne_of_lt hk)), sumN_zero, if_pos rfl, zero_add]
    · rw [ih (by omega), if_neg (fun h => hcn h.symm), add_zero]

theorem sumN_update (f : Nat → α) (n c : Nat) (d : α) (hc : c < n) :
    sumN (fun k => if k = c then f k + d else f k) n = sumN f n + d := by
  have h := sumN_add f (fun k => if k = c then d else 0) n
  rw [sumN_single c n d hc] at h
  rw [← h]
  exact sumN_congr fun k _ => by by_cases h : k = c <;> simp [h]

theorem sumN_replace (f : Nat → α) (n c : Nat) (a : α) (hc : c < n) :
    sumN (fun k => if k = c then a else f k) n + f c = sumN f n + a := by
  have h1 := sumN_add (fun k => if k = c then a else f k) (fun k => if k = c then f c else 0) n
  have h2 := sumN_add f (fun k => if k = c then a else 0) n
  rw [sumN_single c n _ hc] at h1 h2
  rw [← h1, ← h2]
  exact sumN_congr fun k _ => by by_cases h : k = c <;> simp [h, add_comm]

def slotG (s : Nat → Option Nat) (f : Nat → α) (j : Nat) : α :=
  match s j with | none => 0 | some c => f c

/-- `Garr.Adder.sum_slots_eq` (core-only, about `Int`) for any commutative monoid -/
theorem sumN_slots_eq (f : Nat → α) : ∀ (n : Nat) (s : Nat → Option Nat) (len : Nat), SlotEnum s n len →
    sumN (slotG s f) len = sumN f n := by
  intro n
  induction n with
  | zero =>
    intro s len h
    have : ∀ j, j < len → slotG s f j = (fun _ => (0:α)) j := by
      intro j _
      unfold slotG
      cases hs : s j with
      | none => rfl
      | some c => exact absurd (h.valid j c hs) (by omega)
    rw [sumN_congr this, sumN_zero]
    rfl
  | succ n ih =>
    intro s len h
    obtain ⟨j0, hj0, hs0, h'⟩ := h.peel
    have : ∀ k, k < len → slotG s f k = (fun k => if k = j0 then slotG (fun j => if j = j0 then none else s j) f k + f n
        else slotG (fun j => if j = j0 then none else s j) f k) k := by
      intro k _
      by_cases hk : k = j0
      · subst hk; simp [slotG, hs0]
      · simp [slotG, hk]
    rw [sumN_congr this, sumN_update _ len j0 (f n) hj0, ih _ len h']
    rfl

end SumN

theorem sumN_le {f : Nat → Multiset Int} {i n : Nat} (h : i ≤ n) : sumN f i ≤ sumN f n := by
  induction n with
  | zero =>
    have : i = 0 := by omega
    subst this; exact le_refl _
  | succ n ih =>
    by_cases hi : i = n + 1
    · subst hi; exact le_refl _
    · exact le_trans (ih (by omega)) (Multiset.le_add_right _ _)

theorem qsum_sumN (cm : Nat → Multiset Int) (n : Nat) : qsum (sumN cm n) = sumN (fun k => qsum (cm k)) n := by
  induction n with
  | zero => exact qsum_zero
  | succ n ih => simp only [sumN, qsum_add, ih]

section SimpleFloat
open Garr.Adder.Simple

/-- the float instances of the simple adder: float algebra, one cell (`atomicF64P`; Go `AtomicF64Adder`, a
    load / CAS retry loop) -/
structure FloatInst (P : Params) : Prop where
  alg : P.alg = floatAlg
  one : P.n = 1

theorem atomicF64_inst : FloatInst atomicF64P := ⟨rfl, rfl⟩

def SExact (P : Params) (c : Config (Simple.M P)) (live : Multiset Int) : Prop :=
  Holds (cellAt c.g 0) live ∧ ∀ t, inMaint (c.l t) = false

theorem cellAt_applyAdd0 (P : Params) (g : SG) (x : Int) (h : 0 < g.cells.length) :
    cellAt (applyAdd P g 0 x) 0 = P.alg.add (cellAt g 0) x := by
  simp only [cellAt, applyAdd, setCell]
  rw [List.getElem?_set_self h]; rfl

theorem simple_exact_step {P : Params} (hP : FloatInst P) {t : Tid} {g : SG} {l : SL} {a : SAct}
    {g' : SG} {l' : SL} {obs : List Obs} (hlen : g.cells.length = P.n) (hwf : sWf P l)
    (hm : inMaint l = false) (ha : isMaintAct a = false)
    (hs : (Simple.M P).step t g l a = some (g', l', obs)) {live : Multiset Int}
    (hH : Holds (cellAt g 0) live) (hpse : PSE (live + (lps obs : Multiset Int))) :
    Holds (cellAt g' 0) (live + (lps obs : Multiset Int)) ∧ inMaint l' = false := by
  have hlen0 : 0 < g.cells.length := by rw [hlen, hP.one]; exact Nat.one_pos
  have eff : ∀ (x : Int) (j : Nat), j < P.n → PSE (live + ({x} : Multiset Int)) →
      Holds (cellAt (applyAdd P g j x) 0) (live + {x}) := by
    intro x j hj hp
    have hj0 : j = 0 := by rw [hP.one] at hj; omega
    subst hj0
    rw [cellAt_applyAdd0 P g x hlen0, hP.alg]
    exact hH.addOp hp (le_refl _)
  have same : Holds (cellAt g 0) (live + (([] : List Int) : Multiset Int)) := by
    rw [Multiset.coe_nil, add_zero]; exact hH
  cases sstep_of_step (t := t) hs with
  | invAdd x => exact ⟨same, inMaint_entry _ _⟩
  | draw x w => exact ⟨same, inMaint_drawn _ _ _⟩
  | invSum | addLd x j | casFail x j old | sumNext i acc | sumRet i acc => exact ⟨same, rfl⟩
  | addAt x j | casOk x j old =>
    simp only [lps, Multiset.coe_singleton] at hpse ⊢
    exact ⟨eff x j hwf.1 hpse, rfl⟩
  | invReset | invSar | invStore v => cases ha
  | resetNext i | resetRet i | sarLd i acc | sarStNext i acc | sarStRet i acc | storeNext i v | storeRet i v =>
    cases hm

/-- **Simple float adder, conservation.**  From a reachable configuration whose cell holds the exact total
    of `live0` and in which no maintenance operation is in progress, along any schedule that invokes none:
    if the operands applied so far (`live0` plus the `lp`s of the log) satisfy the hypothesis, the cell is a
    finite float whose rational value is their exact total. -/
theorem simple_exact_run {P : Params} (hP : FloatInst P) {c0 : Config (Simple.M P)} (hr : Reach (Simple.M P) c0)
    {live0 : Multiset Int} (h0 : SExact P c0 live0)
    (s : List (Tid × SAct)) (hs : ∀ e ∈ s, isMaintAct e.2 = false)
    (hpse : PSE (live0 + (lpsLog (run (Simple.M P) c0 s).2 : Multiset Int))) :
    SExact P (run (Simple.M P) c0 s).1 (live0 + (lpsLog (run (Simple.M P) c0 s).2 : Multiset Int)) := by
  have hn : 0 < P.n := by rw [hP.one]; exact Nat.one_pos
  have key := run_ind_raw (fun _ a => isMaintAct a = false)
    (fun lg g ls => PSE (live0 + (lpsLog lg : Multiset Int)) →
      (Holds (cellAt g 0) (live0 + (lpsLog lg : Multiset Int)) ∧ ∀ t, inMaint (ls t) = false))
    (by
      intro lg g ls t a g' l' obs hrc hQ ha hst hp
      rw [lpsLog_append, lpsLog_tag, ← Multiset.coe_add, ← add_assoc] at hp ⊢
      obtain ⟨h1, h2⟩ := hQ (hp.mono (Multiset.le_add_right _ _))
      have hI := Simple.sinv_reach P hn _ hrc
      obtain ⟨k1, k2⟩ := simple_exact_step hP (t := t) hI.len (hI.wf t) (h2 t) ha hst h1 hp
      refine ⟨k1, fun u => ?_⟩
      by_cases hu : u = t
      · subst hu; rw [upd_same]; exact k2
      · rw [upd_other _ _ _ _ hu]; exact h2 u)
    s c0 hr (fun _ => by simpa [lpsLog, SExact] using h0) hs
  exact key hpse

theorem simple_exact_init {P : Params} (hP : FloatInst P) : SExact P (Config.init (Simple.M P)) 0 := by
  refine ⟨?_, fun _ => rfl⟩
  show Holds (cellAt { cells := List.replicate P.n 0 } 0) 0
  rw [hP.one]
  exact holds_zero

/-- **Simple float adder, `Sum`.**  `Sum` run by an idle thread returns, after one step, the content of the
    cell and leaves the configuration as it was. -/
theorem simple_sum_solo {P : Params} (hP : FloatInst P) {c : Config (Simple.M P)} (t : Tid)
    (hidle : c.l t = SL.idle) :
    (Simple.M P).step t c.g (c.l t) SAct.sum = some (c.g, SL.sum 0 0, []) ∧
      soloRun (Simple.M P) SAct.tau t 1 ⟨c.g, upd c.l t (SL.sum 0 0)⟩ =
        (c, [Obs.ret (some (cellAt c.g 0))]) := by
  refine ⟨by rw [hidle]; rfl, ?_⟩
  have h := STau.step1 (t := t) (SStep.sumRet (P := P) (g := c.g) 0 0 (by rw [hP.one]; omega))
  have e : P.alg.view (sacc P c.g 0 0) = cellAt c.g 0 := by
    unfold sacc; rw [hP.alg]; rfl
  rw [e] at h
  exact soloRun_back hidle h

end SimpleFloat

/-- **Ghost assignment, existentially.**  The operands `live` applied so far split into one share for
    `base` and one per materialised cell; every location is a finite float whose rational value is the
    exact total of its share. -/
def ExactHeap (g : G) (live : Multiset Int) : Prop :=
  ∃ (b : Multiset Int) (cm : Nat → Multiset Int), b + sumN cm g.ncell = live ∧ Holds g.base b ∧
    ∀ k, k < g.ncell → Holds (g.cell k) (cm k)

theorem ExactHeap.congr {g g' : G} {live : Multiset Int} (h : ExactHeap g live) (hb : g'.base = g.base)
    (hc : g'.cell = g.cell) (hn : g'.ncell = g.ncell) : ExactHeap g' live := by
  obtain ⟨b, cm, hsplit, hb', hc'⟩ := h
  exact ⟨b, cm, by rw [hn]; exact hsplit, by rw [hb]; exact hb', fun k hk => by rw [hc]; exact hc' k (by omega)⟩

/-- what a step that is not part of a maintenance operation does to the values, indexed by the operands of
    the `lp`s it emits: nothing; a successful CAS on `base`; a successful CAS on an existing cell; the
    attachment of a fresh cell pre-filled with the operand -/
inductive Eff (g g' : G) : List Int → Prop
  | same : g'.base = g.base → g'.cell = g.cell → g'.ncell = g.ncell → Eff g g' []
  | base (x : Int) : g'.base = floatAlg.add g.base x → g'.cell = g.cell → g'.ncell = g.ncell → Eff g g' [x]
  | cell (x : Int) (c : Nat) : c < g.ncell → g'.base = g.base →
      g'.cell = (fun k => if k = c then floatAlg.add (g.cell k) x else g.cell k) → g'.ncell = g.ncell → Eff g g' [x]
  | fresh (x : Int) : g'.base = g.base → g'.cell = (fun k => if k = g.ncell then x else g.cell k) →
      g'.ncell = g.ncell + 1 → Eff g g' [x]

theorem exact_eff {g g' : G} {live : Multiset Int} {xs : List Int} (hE : ExactHeap g live) (he : Eff g g' xs)
    (hp : PSE (live + (xs : Multiset Int))) : ExactHeap g' (live + (xs : Multiset Int)) := by
  cases he with
  | same h1 h2 h3 =>
    rw [Multiset.coe_nil, add_zero]
    exact hE.congr h1 h2 h3
  | base x h1 h2 h3 =>
    obtain ⟨b, cm, hsplit, hb, hc⟩ := hE
    rw [Multiset.coe_singleton] at hp ⊢
    refine ⟨b + {x}, cm, ?_, ?_, ?_⟩
    · rw [h3, ← hsplit]; exact add_right_comm _ _ _
    · rw [h1]
      refine hb.addOp hp ?_
      rw [← hsplit, add_right_comm]
      exact Multiset.le_add_right _ _
    · intro k hk; rw [h2]; exact hc k (by omega)
  | cell x c hcn h1 h2 h3 =>
    obtain ⟨b, cm, hsplit, hb, hc⟩ := hE
    rw [Multiset.coe_singleton] at hp ⊢
    refine ⟨b, fun k => if k = c then cm k + {x} else cm k, ?_, ?_, ?_⟩
    · rw [h3, sumN_update cm g.ncell c {x} hcn, ← add_assoc, hsplit]
    · rw [h1]; exact hb
    · intro k hk
      rw [h2]
      by_cases hkc : k = c
      · subst hkc
        simp only [if_true]
        refine (hc k hcn).addOp hp ?_
        have h1 : cm k ≤ sumN cm g.ncell := le_trans (Multiset.le_add_left _ _) (sumN_le (i := k + 1) hcn)
        have h2 : cm k ≤ live := by rw [← hsplit]; exact le_trans h1 (Multiset.le_add_left _ _)
        exact Multiset.add_le_add_right h2
      · simp only [hkc, if_false]
        exact hc k (by omega)
  | fresh x h1 h2 h3 =>
    obtain ⟨b, cm, hsplit, hb, hc⟩ := hE
    rw [Multiset.coe_singleton] at hp ⊢
    have hx : IsFinBits x := hp.1 x (by simp)
    refine ⟨b, fun k => if k = g.ncell then {x} else cm k, ?_, ?_, ?_⟩
    · rw [h3]
      simp only [sumN, if_true]
      have : sumN (fun k => if k = g.ncell then ({x} : Multiset Int) else cm k) g.ncell = sumN cm g.ncell :=
        sumN_congr (fun k hk => by
          have : k ≠ g.ncell := by omega
          simp [this])
      rw [this, ← add_assoc, hsplit]
    · rw [h1]; exact hb
    · intro k hk
      rw [h2]
      by_cases hkc : k = g.ncell
      · subst hkc
        simp only [if_true]
        exact holds_single hx
      · simp only [hkc, if_false]
        exact hc k (by omega)

/-- **Conservation over ℚ.**  `value(base) + Σ value(cell k) = Σ value(applied operands)`, every term
    being the value of a finite float. -/
theorem ExactHeap.conservation {g : G} {live : Multiset Int} (h : ExactHeap g live) :
    fval g.base + sumN (fun k => fval (g.cell k)) g.ncell = qsum live := by
  obtain ⟨b, cm, hsplit, hb, hc⟩ := h
  rw [← hsplit, qsum_add, qsum_sumN, hb.2]
  congr 1
  exact sumN_congr (fun k hk => (hc k hk).2)

theorem ExactHeap.finite {g : G} {live : Multiset Int} (h : ExactHeap g live) :
    IsFinBits g.base ∧ ∀ k, k < g.ncell → IsFinBits (g.cell k) := by
  obtain ⟨b, cm, _, hb, hc⟩ := h
  exact ⟨hb.1, fun k hk => (hc k hk).1⟩

theorem exactHeap_init : ExactHeap initG 0 :=
  ⟨0, fun _ => 0, by simp [initG, sumN], holds_zero, fun k hk => absurd hk (Nat.not_lt_zero _)⟩

theorem eff_leave (t : Tid) (g : G) (v : V) : Eff g (leave t g v) [] :=
  .same (leave_base _ _ _) (leave_cell _ _ _) (leave_ncell _ _ _)

theorem eff_busy (g : G) (b : Bool) : Eff g { g with busy := b } [] := .same rfl rfl rfl

theorem eff_leave_busy (t : Tid) (g : G) (b : Bool) (v : V) : Eff g (leave t { g with busy := b } v) [] :=
  .same (leave_base _ _ _) (leave_cell _ _ _) (leave_ncell _ _ _)

theorem eff_casBase (t : Tid) (g : G) (v : V) (x : Int) : Eff g (leave t (casBaseA floatAlg g x) v) [x] :=
  .base x (leave_base _ _ _) (leave_cell _ _ _) (leave_ncell _ _ _)

theorem eff_casCell (t : Tid) (g : G) (v : V) (c : Nat) (x : Int) (hc : c < g.ncell) :
    Eff g (leave t (casCellA floatAlg g c x) v) [x] :=
  .cell x c hc (leave_base _ _ _) (leave_cell _ _ _) (leave_ncell _ _ _)

theorem eff_attach (g : G) (a j : Nat) (x : Int) : Eff g (attach g a j x) [x] := .fresh x rfl rfl rfl

theorem eff_initTable (g : G) (j : Nat) (x : Int) : Eff g (initTable g j x) [x] := .fresh x rfl rfl rfl

local macro "fin " h:ident : tactic =>
  `(tactic| (simp only [Prod.mk.injEq] at $h:ident; obtain ⟨h1, h2, h3⟩ := $h:ident; subst h1 h2 h3))

theorem stepRun_eff {mc : Nat} {t : Tid} {g : G} {pc : PC} {v : V} {w : Nat} {g' : G} {l' : L} {obs : List Obs}
    (hL : LInvPC g v pc) (hm : v.mnt = false) (hs : stepRun floatAlg mc t g pc v w = (g', l', obs)) :
    Eff g g' (lps obs) := by
  cases Step.of_eq hs with
  | tau | reslice | realloc => exact .same rfl rfl rfl
  | acquire | release => exact eff_busy _ _
  | releaseRet => exact eff_leave_busy _ _ _ _
  | casBase => exact eff_casBase _ _ _ _
  | casCell hp => exact eff_casCell _ _ _ _ _ (by rcases hp with rfl | rfl <;> exact hL)
  | attach => exact eff_attach _ _ _ _
  | init => exact eff_initTable _ _ _
  | storeBase hp => subst hp; rw [hL] at hm; cases hm
  | storeTable r hp => subst hp; rw [hL.1] at hm; cases hm
  | ret => exact eff_leave _ _ _

def isMaintActA : Act → Bool
  | .store _ | .reset | .sumAndReset => true
  | _ => false

theorem step_eff {mc : Nat} {t : Tid} {g : G} {l : L} {a : Act} {g' : G} {l' : L} {obs : List Obs}
    (hL : LInv g l) (hnm : isMnt l = false) (hm : g.maint = false) (ha : isMaintActA a = false)
    (hs : step floatAlg mc t g l a = some (g', l', obs)) : Eff g g' (lps obs) ∧ g'.maint = false := by
  rcases step_cases hs with ⟨rfl, h⟩ | ⟨pc, v, w, rfl, h⟩
  · cases h with
    | add | sum => exact ⟨.same rfl rfl rfl, hm⟩
    | store | reset | sumAndReset => cases ha
  · refine ⟨stepRun_eff hL hnm h, ?_⟩
    cases stepRun_ghost h with
    | stay _ _ _ _ h5 | leaveN _ _ _ _ h5 => rw [h5]; exact hm
    | leaveM _ _ _ h4 => exact h4
    | startN h1 | startM h1 => cases h1

def FExact {mc : Nat} (c : Config (M floatAlg mc)) (live : Multiset Int) : Prop :=
  Reach (M floatAlg mc) c ∧ G.maint c.g = false ∧ ExactHeap c.g live

theorem fexact_init (mc : Nat) : FExact (Config.init (M floatAlg mc)) 0 :=
  ⟨Reach.init, rfl, exactHeap_init⟩

theorem accFrom_exact {slot : Nat → Option Nat} {cell : Nat → Int} {nc : Nat} {live b : Multiset Int}
    {cm : Nat → Multiset Int} (hp : PSE live) (hvalid : ∀ j c, slot j = some c → c < nc)
    (hc : ∀ k, k < nc → Holds (cell k) (cm k)) :
    ∀ (n i : Nat) (acc : Int), b + sumN (slotG slot cm) (i + n) ≤ live →
      Holds acc (b + sumN (slotG slot cm) i) →
      Holds (accFrom floatAlg slot cell n i acc) (b + sumN (slotG slot cm) (i + n)) := by
  intro n
  induction n with
  | zero => intro i acc _ h; exact h
  | succ n ih =>
    intro i acc hle h
    have e : i + (n + 1) = (i + 1) + n := by omega
    rw [e] at hle ⊢
    simp only [accFrom]
    apply ih (i + 1) _ hle
    have hle1 : b + sumN (slotG slot cm) (i + 1) ≤ live :=
      le_trans (Multiset.add_le_add_left (sumN_le (by omega))) hle
    cases hsl : slot i with
    | none =>
      have : slotG slot cm i = 0 := by simp only [slotG, hsl]
      simp only [sumN, this, add_zero]
      exact h
    | some c =>
      have hs : slotG slot cm i = cm c := by simp only [slotG, hsl]
      have hadd := h.add (hc c (hvalid i c hsl)) (by
        have := hp.2 _ hle1
        simp only [sumN, hs, ← add_assoc] at this
        exact this)
      simp only [sumN, hs, ← add_assoc]
      exact hadd

/-- **The value computed by a solo `Sum` is exact**: if the heap holds exactly `live` and the hypothesis
    holds for `live`, `sumRes floatAlg g` is a finite float whose rational value is the exact total of `live`. -/
theorem sumRes_exact {g : G} {live : Multiset Int} (hG : TInv g) (hE : ExactHeap g live) (hp : PSE live) :
    Holds (sumRes floatAlg g) live := by
  obtain ⟨b, cm, hsplit, hb, hc⟩ := hE
  unfold sumRes
  cases htb : g.tbl with
  | none =>
    have hn0 := tinv_ncell0 hG htb
    rw [hn0] at hsplit
    simp only [sumN, add_zero] at hsplit
    rw [← hsplit]; exact hb
  | some tb =>
    have e := hG.slots (a := tb.1) (len := tb.2) htb
    have hslots := sumN_slots_eq cm _ _ _ e
    have key := accFrom_exact (b := b) hp e.valid hc tb.2 0 g.base (by rw [Nat.zero_add, hslots, hsplit])
      (by simpa [sumN] using hb)
    rwa [Nat.zero_add, hslots, hsplit] at key

/-- a heap left by `Store x`: `base = x`, all cells zero -/
theorem exactHeap_stored {g : G} {x : Int} (hb : g.base = x) (hc : ∀ k, k < g.ncell → g.cell k = 0)
    (hx : IsFinBits x) : ExactHeap g {x} :=
  ⟨{x}, fun _ => 0, by rw [sumN_zero, add_zero], by rw [hb]; exact holds_single hx,
    fun k hk => by rw [hc k hk]; exact holds_zero⟩

/-- a heap left by `Reset` / `SumAndReset`: everything zero -/
theorem exactHeap_reset {g : G} (hb : g.base = 0) (hc : ∀ k, k < g.ncell → g.cell k = 0) : ExactHeap g 0 :=
  ⟨0, fun _ => 0, by rw [sumN_zero, add_zero], by rw [hb]; exact holds_zero,
    fun k hk => by rw [hc k hk]; exact holds_zero⟩

section Acct
variable (Mch : Machine) (pend : Mch.L → Multiset Int)

/-- operands of the invocations accepted along a schedule, in schedule order (`invl l a` = the operands the
    invocation `a` from local state `l` contributes) -/
def invokedL (invl : Mch.L → Mch.Act → List Int) : Mch.G → (Tid → Mch.L) → List (Tid × Mch.Act) → List Int
  | _, _, [] => []
  | g, ls, (t, a) :: rest =>
    match Mch.step t g (ls t) a with
    | none => invokedL invl g ls rest
    | some (g', l', _) => invl (ls t) a ++ invokedL invl g' (upd ls t l') rest

variable {Mch pend} {invl : Mch.L → Mch.Act → List Int}

theorem sumN_pend_upd (l : Tid → Mch.L) (t : Tid) (l' : Mch.L) (N : Nat) (ht : t < N) :
    sumN (fun u => pend (upd l t l' u)) N + pend (l t) = sumN (fun u => pend (l u)) N + pend l' := by
  rw [← sumN_replace (fun u => pend (l u)) N t (pend l') ht]
  congr 1
  apply sumN_congr
  intro k _
  unfold upd
  split <;> rfl

/-- one step of the accounting: the mover's law `hL`, the rest of the run `hIH`, and the change of the
    pending total `hR` -/
theorem acct_arith {I0 I' S S' P P' O Lr Sf : Multiset Int} (hL : I0 + P = O + P') (hIH : I' + S' = Lr + Sf)
    (hR : S' + P = S + P') : I0 + I' + S = O + Lr + Sf := by
  apply add_right_cancel (b := P')
  calc I0 + I' + S + P' = I0 + I' + (S' + P) := by rw [add_assoc, hR]
    _ = (I0 + P) + (I' + S') := by rw [add_comm S' P, add_add_add_comm]
    _ = (O + P') + (Lr + Sf) := by rw [hL, hIH]
    _ = O + Lr + Sf + P' := by rw [add_right_comm, ← add_assoc]

/-- accounting along a run: accepted invocations + initially pending = `lp`s + finally pending.  `ops` gives
    the `lp` operands of one step's observations, `logops` those of a log. -/
theorem acct_run {ops : List Mch.Obs → Multiset Int} {logops : List (Tid × Mch.Obs) → Multiset Int}
    (hnil : logops [] = 0)
    (hcons : ∀ t obs lg, logops (obs.map (fun o => (t, o)) ++ lg) = ops obs + logops lg)
    (hlaw : ∀ t g l a g' l' obs, Mch.step t g l a = some (g', l', obs) →
      (invl l a : Multiset Int) + pend l = ops obs + pend l') (N : Nat) :
    ∀ (s : List (Tid × Mch.Act)) (c : Config Mch), (∀ e ∈ s, e.1 < N) →
      (invokedL Mch invl c.g c.l s : Multiset Int) + sumN (fun u => pend (c.l u)) N =
        logops (run Mch c s).2 + sumN (fun u => pend ((run Mch c s).1.l u)) N := by
  intro s
  induction s with
  | nil => intro c _; simp [invokedL, hnil, run]
  | cons ta rest ih =>
    intro c hN
    obtain ⟨t, a⟩ := ta
    have ht : t < N := hN (t, a) (List.mem_cons_self ..)
    have hrest : ∀ e ∈ rest, e.1 < N := fun e he => hN e (List.mem_cons_of_mem _ he)
    cases h : Mch.step t c.g (c.l t) a with
    | none =>
      rw [run_cons_none h]
      simp only [invokedL, h]
      exact ih c hrest
    | some r =>
      obtain ⟨g', l', obs⟩ := r
      rw [run_cons_some h]
      simp only [invokedL, h]
      have hIH := ih ⟨g', upd c.l t l'⟩ hrest
      have hL := hlaw t c.g (c.l t) a g' l' obs h
      have hR := sumN_pend_upd (pend := pend) c.l t l' N ht
      rw [hcons, ← Multiset.coe_add]
      exact acct_arith hL hIH hR

theorem sumN_pend_zero (l : Tid → Mch.L) (N : Nat) (h : ∀ u, pend (l u) = 0) :
    sumN (fun u => pend (l u)) N = 0 := by
  rw [sumN_congr (g := fun _ => (0 : Multiset Int)) (fun k _ => h k), sumN_zero]

theorem acct_quiescent {ops : List Mch.Obs → Multiset Int} {logops : List (Tid × Mch.Obs) → Multiset Int}
    (hnil : logops [] = 0)
    (hcons : ∀ t obs lg, logops (obs.map (fun o => (t, o)) ++ lg) = ops obs + logops lg)
    (hlaw : ∀ t g l a g' l' obs, Mch.step t g l a = some (g', l', obs) →
      (invl l a : Multiset Int) + pend l = ops obs + pend l')
    (c0 : Config Mch) (s : List (Tid × Mch.Act)) (hq0 : ∀ u, pend (c0.l u) = 0)
    (hq : ∀ u, pend ((run Mch c0 s).1.l u) = 0) :
    logops (run Mch c0 s).2 = (invokedL Mch invl c0.g c0.l s : Multiset Int) := by
  obtain ⟨N, hN⟩ := exists_tid_bound s
  have h := acct_run hnil hcons hlaw N s c0 hN
  rw [sumN_pend_zero _ N hq, sumN_pend_zero _ N hq0, add_zero, add_zero] at h
  exact h.symm

end Acct

theorem coe_lpsLog_cons (t : Tid) (obs : List Obs) (lg : List (Tid × Obs)) :
    ((lpsLog (obs.map (fun o => (t, o)) ++ lg) : List Int) : Multiset Int) =
      (lps obs : Multiset Int) + (lpsLog lg : Multiset Int) := by
  rw [lpsLog_append, lpsLog_tag, Multiset.coe_add]

/-- the operand of an `Add` that has not reached its linearization point yet -/
def pendA : L → Multiset Int
  | .idle => 0
  | .run pc v => if preLP pc then {v.x} else 0

def invAL : L → Act → List Int
  | .idle, .add x => [x]
  | _, _ => []

/-- the operands (bit patterns, in schedule order) of the `Add` invocations accepted along schedule `s`, run
    from heap `g` and locals `ls` -/
def invokedAdds (mc : Nat) (g : G) (ls : Tid → L) (s : List (Tid × Act)) : List Int :=
  invokedL (M floatAlg mc) invAL g ls s

theorem stepRun_pendA {alg : Alg} {mc : Nat} {t : Tid} {g : G} {pc : PC} {v : V} {w : Nat} {g' : G} {l' : L}
    {obs : List Obs} (hs : stepRun alg mc t g pc v w = (g', l', obs)) :
    pendA (.run pc v) = (lps obs : Multiset Int) + pendA l' := by
  rcases step_obs hs with
    ⟨rfl, pc', v', rfl, q⟩ | ⟨rfl, rfl, hp⟩ | ⟨rfl, ⟨rfl, rfl⟩ | ⟨rfl, rfl⟩⟩ | ⟨r, rfl, rfl, hp⟩
  · show (if preLP pc then ({v.x} : Multiset Int) else 0) = 0 + if preLP pc' then {v'.x} else 0
    rw [zero_add, q.pre]
    split
    · rw [(q.keep ‹preLP pc = true›).2]
    · rfl
  · rcases hp with rfl | rfl | rfl | rfl <;> rfl
  · rfl
  · rfl
  · rcases hp with ⟨_, rfl | rfl⟩ | rfl | rfl | rfl | rfl | rfl <;> rfl

theorem step_lawA {alg : Alg} {mc : Nat} (t : Tid) (g : G) (l : L) (a : Act) (g' : G) (l' : L) (obs : List Obs)
    (hs : step alg mc t g l a = some (g', l', obs)) :
    (invAL l a : Multiset Int) + pendA l = (lps obs : Multiset Int) + pendA l' := by
  rcases step_cases hs with ⟨rfl, h⟩ | ⟨pc, v, w, rfl, h⟩
  · cases h <;> rfl
  · rw [stepRun_pendA h]; exact zero_add _

/-- **Every `Add` takes effect exactly once (striped adder, any value algebra).**  Between two configurations in
    which no `Add` is waiting for its linearization point (e.g. every thread idle), the operands of the `lp`s of
    the log are — as a multiset — exactly the operands of the `Add` invocations accepted in between (for
    `floatAlg`: `invokedAdds`). -/
theorem lps_invoked {alg : Alg} {mc : Nat} (c0 : Config (M alg mc)) (s : List (Tid × Act))
    (hq0 : ∀ u, pendA (c0.l u) = 0) (hq : ∀ u, pendA ((run (M alg mc) c0 s).1.l u) = 0) :
    (lpsLog (run (M alg mc) c0 s).2 : Multiset Int) = (invokedL (M alg mc) invAL c0.g c0.l s : Multiset Int) := by
  exact acct_quiescent (Mch := M alg mc) (invl := invAL) (pend := pendA)
    (ops := fun obs => (lps obs : Multiset Int)) (logops := fun lg => (lpsLog lg : Multiset Int))
    rfl coe_lpsLog_cons step_lawA c0 s hq0 hq

section SimpleAcct
open Garr.Adder.Simple

def pendS (l : SL) : Multiset Int :=
  match addArg l with
  | some x => {x}
  | none => 0

def invSL : SL → SAct → List Int
  | .idle, .add x => [x]
  | _, _ => []

/-- the operands (in schedule order) of the `Add` invocations accepted along schedule `s` -/
def invokedAddsS (P : Params) (g : SG) (ls : Tid → SL) (s : List (Tid × SAct)) : List Int :=
  invokedL (Simple.M P) invSL g ls s

theorem pendS_entry (P : Params) (x : Int) :
    pendS (if P.draws then .addDraw x else (if P.casLoop then .addLd x 0 else .addAt x 0)) = {x} := by
  simp [pendS, addArg_entry]

theorem pendS_drawn (P : Params) (x : Int) (j : Nat) :
    pendS (if P.casLoop then .addLd x j else .addAt x j) = {x} := by
  simp [pendS, addArg_drawn]

theorem step_lawS {P : Params} (t : Tid) (g : SG) (l : SL) (a : SAct) (g' : SG) (l' : SL) (obs : List Obs)
    (hs : (Simple.M P).step t g l a = some (g', l', obs)) :
    (invSL l a : Multiset Int) + pendS l = (lps obs : Multiset Int) + pendS l' := by
  -- for each kind of step both sides compute to the same multiset
  cases sstep_of_step (t := t) hs
  case invAdd x => rw [pendS_entry]; rfl
  case draw x w => rw [pendS_drawn]; rfl
  all_goals rfl

/-- **Every `Add` takes effect exactly once (simple adders, any parameters).** -/
theorem simple_lps_invoked {P : Params} (c0 : Config (Simple.M P)) (s : List (Tid × SAct))
    (hq0 : ∀ u, addArg (c0.l u) = none) (hq : ∀ u, addArg ((run (Simple.M P) c0 s).1.l u) = none) :
    (lpsLog (run (Simple.M P) c0 s).2 : Multiset Int) = (invokedAddsS P c0.g c0.l s : Multiset Int) := by
  exact acct_quiescent (Mch := Simple.M P) (invl := invSL) (pend := pendS)
    (ops := fun obs => (lps obs : Multiset Int)) (logops := fun lg => (lpsLog lg : Multiset Int))
    rfl coe_lpsLog_cons step_lawS c0 s (fun u => by unfold pendS; rw [hq0 u]) (fun u => by unfold pendS; rw [hq u])

end SimpleAcct

/-- every operand of `xs` is a finite float of the form `k x · 2^e` (`k x` an integer, `2^e` a common quantum in
    the binary64 exponent range) and the magnitudes `|k x|` add up to less than `2^53`.  Typical instance:
    integer-valued increments (`e = 0`) whose absolute values sum to less than `2^53`.  (A finite binary64 is an
    integer of magnitude below `2^53` times `2^e` with `-1074 ≤ e ≤ 971`: `2^-1074` is the least subnormal,
    `(2^53 - 1) · 2^971` the greatest finite value.) -/
def QuantumBounded (e : ℤ) (k : Int → ℤ) (xs : List Int) : Prop :=
  -1074 ≤ e ∧ e ≤ 971 ∧ (∀ x ∈ xs, IsFinBits x ∧ fval x = (k x : ℚ) * (2:ℚ)^e) ∧
    (xs.map (fun x => (k x).natAbs)).sum < 2^53

theorem natAbs_sum_map_le (k : Int → ℤ) (s : List Int) :
    ((s.map k).sum).natAbs ≤ (s.map (fun x => (k x).natAbs)).sum := by
  induction s with
  | nil => simp
  | cons a r ih =>
    simp only [List.map_cons, List.sum_cons]
    exact le_trans (Int.natAbs_add_le _ _) (Nat.add_le_add_left ih _)

theorem sublist_sum_map_le (f : Int → ℕ) {s xs : List Int} (h : s.Sublist xs) :
    (s.map f).sum ≤ (xs.map f).sum := by
  induction h with
  | slnil => exact le_refl _
  | cons a _ ih => simp only [List.map_cons, List.sum_cons]; omega
  | cons_cons a _ ih => simp only [List.map_cons, List.sum_cons]; omega

theorem qsumL_quantum (e : ℤ) (k : Int → ℤ) (s : List Int) (h : ∀ x ∈ s, fval x = (k x : ℚ) * (2:ℚ)^e) :
    qsumL s = (((s.map k).sum : ℤ) : ℚ) * (2:ℚ)^e := by
  induction s with
  | nil => simp [qsumL]
  | cons a r ih =>
    have h1 := h a (List.mem_cons_self ..)
    have h2 := ih (fun x hx => h x (List.mem_cons_of_mem _ hx))
    unfold qsumL at h2 ⊢
    simp only [List.map_cons, List.sum_cons, h1, h2]
    push_cast; ring

end Garr.Adder.Float
