import Garr.Adder.StepRun
/-!
# The structural invariant of the striped adder, for any value algebra

Nothing here depends on the value algebra, although the declarations live in the namespace `Garr.Adder.Float`
(as does the table invariant `Float.TInv` of `Garr.Adder.Heap`).
`SInvAt`: table well-formedness `TInv` (= `GInv` without the integer conservation law, which is meaningless
for the float algebra, whose heap holds bit patterns), the thread-local invariants `LInv`, the lock discipline
of `cellsBusy` and the maintenance discipline of the ghost fields `actv` / `maint`.  It holds in every reachable
configuration of `M alg mc` for **any** `alg` (`sinv_reach`); the float steps differ from the integer ones
only by the two private-cell stores `c2f`, `k3f` and by which CASes succeed.  The proof is rely/guarantee:
`SSum` collects what one machine step guarantees (`TInv` again, the acting thread's `LInv`, `Frame` for a
thread that does not hold the lock and `Mono` for the holder, under which the other threads' `LInv` is stable,
and how the step moves the lock and the ghost state); `sinv_of_ssum` derives the invariant from that summary.
`Garr.Adder.Inv` builds the invariant of the integer adder on it by adding the conservation law.  Core-only.
-/
namespace Garr.Adder.Float
open Garr.Conc Garr.Adder

structure SSum (t : Tid) (g : G) (l : L) (g' : G) (l' : L) : Prop where
  tinv : TInv g'
  linv : LInv g' l'
  mono : isMnt l = false → Mono g g'
  frame : isMnt l = false → holds l = false → Frame g g'
  lock : LockTr g l g' l'
  ghost : GhostTr t g l g' l'

theorem SSum.ofRun {alg : Alg} {mc : Nat} {t : Tid} {g : G} {pc : PC} {v : V} {w : Nat} {g' : G} {l' : L}
    {obs : List Obs}
    (hG : TInv g) (hL : LInv g (.run pc v)) (hs : stepRun alg mc t g pc v w = (g', l', obs)) :
    SSum t g (.run pc v) g' l' :=
  have h := stepRun_ok hG hL hs
  ⟨h.tinv, h.linv, h.mono, h.frame, stepRun_lock hs, stepRun_ghost hs⟩

theorem SSum.startN {t : Tid} {g : G} {pc : PC} {v : V} (hm : g.maint = false) (hv : v.mnt = false)
    (hh : holdsPC pc = false) (hl : LInvPC g v pc) (hG : TInv g) :
    SSum t g .idle { g with actv := t :: g.actv } (.run pc v) :=
  ⟨hG.congr rfl rfl rfl rfl, hl, fun _ => ⟨Nat.le_refl _, Nat.le_refl _⟩, fun _ _ => ⟨rfl, rfl, rfl, rfl⟩,
    .out rfl hh rfl, .startN rfl (fun h => by cases h) hv hm rfl hm⟩

theorem SSum.startM {t : Tid} {g : G} {pc : PC} {v : V} (hm : g.maint = false) (ha : g.actv = [])
    (hv : v.mnt = true) (hh : holdsPC pc = false) (hl : LInvPC g v pc) (hG : TInv g) :
    SSum t g .idle { g with actv := [t], maint := true } (.run pc v) :=
  ⟨hG.congr rfl rfl rfl rfl, hl, fun _ => ⟨Nat.le_refl _, Nat.le_refl _⟩, fun _ _ => ⟨rfl, rfl, rfl, rfl⟩,
    .out rfl hh rfl, .startM rfl (fun h => by cases h) hv hm ha rfl rfl⟩

local macro "fin " h:ident : tactic =>
  `(tactic| (simp only [Prod.mk.injEq] at $h:ident; obtain ⟨h1, h2, h3⟩ := $h:ident; subst h1 h2 h3))

theorem step_ssum {alg : Alg} {mc : Nat} {t : Tid} {g : G} {l : L} {a : Act} {g' : G} {l' : L} {obs : List Obs}
    (hG : TInv g) (hL : LInv g l) (hs : step alg mc t g l a = some (g', l', obs)) : SSum t g l g' l' := by
  rcases step_cases hs with ⟨rfl, h⟩ | ⟨pc, v, w, rfl, h⟩
  · cases h with
    | add x hm => exact .startN hm rfl rfl trivial hG
    | sum hm => exact .startN hm rfl rfl (fun h => by cases h) hG
    | store x hm ha => exact .startM hm ha rfl rfl rfl hG
    | reset hm ha => exact .startM hm ha rfl rfl rfl hG
    | sumAndReset hm ha => exact .startM hm ha rfl rfl (fun _ => rfl) hG
  · exact .ofRun hG hL h

/-- table well-formedness, the thread-local invariants, the lock discipline (`lock_*`, `busy_held`) and the
    maintenance discipline (`actv_iff`, `maint_iff`, `mnt_excl`), on the raw components of a configuration -/
structure SInvAt (g : G) (l : Tid → L) : Prop where
  tinv : TInv g
  linv : ∀ t, LInv g (l t)
  lock_busy : ∀ t, holds (l t) = true → g.busy = true
  lock_excl : ∀ t u, holds (l t) = true → holds (l u) = true → t = u
  busy_held : g.busy = true → ∃ t, holds (l t) = true
  actv_iff : ∀ t, t ∈ g.actv ↔ l t ≠ L.idle
  maint_iff : g.maint = true ↔ ∃ t, isMnt (l t) = true
  mnt_excl : ∀ t u, isMnt (l t) = true → u ≠ t → l u = L.idle

theorem sinv_init : SInvAt initG (fun _ => L.idle) := by
  refine ⟨⟨?_, ?_, ?_, ?_⟩, fun _ => trivial, ?_, ?_, ?_, ?_, ?_, ?_⟩
  · intro a len h; cases h
  · intro a j c h; exact absurd h (Nat.not_lt_zero _)
  · intro c h; exact absurd h (Nat.not_lt_zero _)
  · intro a len j1 j2 c h; cases h
  · intro t h; cases h
  · intro t u h; cases h
  · intro h; cases h
  · intro t; constructor
    · intro h; cases h
    · intro h; exact absurd rfl h
  · constructor
    · intro h; cases h
    · intro ⟨t, h⟩; cases h
  · intro t u h; cases h

/-- the other threads keep their thread-local invariant: a maintainer runs alone, the lock holder only adds
    arrays and cells and is the only holder, anybody else leaves the table alone -/
theorem linv_step {g : G} {l : Tid → L} {t : Tid} {g' : G} {l' : L}
    (hI : SInvAt g l) (S : SSum t g (l t) g' l') : ∀ u, LInv g' (upd l t l' u) := by
  refine forall_upd S.linv (fun u hut hu => ?_) hI.linv
  cases hm : isMnt (l t)
  · cases hh : holds (l t)
    · exact LInv_frame (S.frame hm hh) _ hu
    · refine LInv_mono (S.mono hm) _ (Bool.eq_false_iff.2 fun h => hut (hI.lock_excl u t h hh)) hu
  · rw [hI.mnt_excl t u hm hut]; trivial

/-- mutual exclusion: a step that keeps its lock status keeps the set of holders; a release leaves none,
    since the releasing thread was the only one; an acquisition finds none, since `busy` was clear -/
theorem lock_step {g : G} {l : Tid → L} {t : Tid} {g' : G} {l' : L}
    (hI : SInvAt g l) (T : LockTr g (l t) g' l') :
    (∀ u, holds (upd l t l' u) = true → g'.busy = true) ∧
    (∀ u w, holds (upd l t l' u) = true → holds (upd l t l' w) = true → u = w) ∧
    (g'.busy = true → ∃ u, holds (upd l t l' u) = true) := by
  cases T with
  | keep h1 h2 h3 | out h1 h2 h3 =>
    have same : ∀ u, holds (upd l t l' u) = holds (l u) := fun u => by
      by_cases hu : u = t
      · rw [hu, upd_same, h1, h2]
      · rw [upd_other _ _ _ _ hu]
    simp only [same, h3]
    exact ⟨hI.lock_busy, hI.lock_excl, hI.busy_held⟩
  | release h1 h2 h3 =>
    have none : ∀ u, holds (upd l t l' u) = false := fun u => by
      by_cases hu : u = t
      · rw [hu, upd_same, h2]
      · rw [upd_other _ _ _ _ hu]; exact Bool.eq_false_iff.2 fun h => hu (hI.lock_excl u t h h1)
    simp only [none, h3]
    exact ⟨nofun, nofun, nofun⟩
  | acquire h1 h2 h3 h4 =>
    have only : ∀ u, holds (upd l t l' u) = true → u = t := fun u h => by
      by_cases hu : u = t
      · exact hu
      · rw [upd_other _ _ _ _ hu] at h
        have := hI.lock_busy u h
        rw [h3] at this; cases this
    exact ⟨fun _ _ => h4, fun u w hu hw => (only u hu).trans (only w hw).symm,
      fun _ => ⟨t, by rw [upd_same]; exact h2⟩⟩

theorem SInvAt.no_mnt {g : G} {l : Tid → L} (hI : SInvAt g l) (hm : g.maint = false) (t : Tid) :
    isMnt (l t) = false := by
  cases h : isMnt (l t)
  · rfl
  · have := hI.maint_iff.2 ⟨t, h⟩
    rw [hm] at this; cases this

/-- the ghost maintenance state follows the threads: `actv` lists the running threads, `maint` flags the
    maintainer, and a maintainer runs alone -/
theorem ghost_step {g : G} {l : Tid → L} {t : Tid} {g' : G} {l' : L}
    (hI : SInvAt g l) (T : GhostTr t g (l t) g' l') :
    (∀ u, u ∈ g'.actv ↔ upd l t l' u ≠ L.idle) ∧
    (g'.maint = true ↔ ∃ u, isMnt (upd l t l' u) = true) ∧
    (∀ u w, isMnt (upd l t l' u) = true → w ≠ u → upd l t l' w = L.idle) := by
  -- if `t` keeps being (or not being) a maintainer, the maintainers are the same threads
  have mnt_same : isMnt l' = isMnt (l t) → ∀ u, isMnt (upd l t l' u) = isMnt (l u) := fun he u => by
    by_cases hu : u = t
    · rw [hu, upd_same, he]
    · rw [upd_other _ _ _ _ hu]
  cases T with
  | stay h1 h2 h3 h4 h5 =>
    have idle_same : ∀ u, upd l t l' u = L.idle ↔ l u = L.idle := fun u => by
      by_cases hu : u = t
      · rw [hu, upd_same]; exact ⟨fun h => absurd h h2, fun h => absurd h h1⟩
      · rw [upd_other _ _ _ _ hu]
    simp only [ne_eq, idle_same, mnt_same h3, h4, h5]
    exact ⟨hI.actv_iff, hI.maint_iff, hI.mnt_excl⟩
  | leaveM h1 h2 h3 h4 =>
    -- the maintainer was alone, so everybody is idle
    have all : ∀ u, upd l t l' u = L.idle := fun u => by
      by_cases hu : u = t
      · rw [hu, upd_same]; exact h2
      · rw [upd_other _ _ _ _ hu]; exact hI.mnt_excl t u h1 hu
    simp only [all, h3, h4]
    exact ⟨fun _ => ⟨nofun, fun h => absurd rfl h⟩, ⟨nofun, fun ⟨_, h⟩ => nomatch h⟩,
      fun _ _ _ _ => trivial⟩
  | leaveN h1 h2 h3 h4 h5 =>
    have hm := mnt_same (by rw [h3, h1]; rfl)
    refine ⟨fun u => ?_, by rw [h5]; simp only [hm]; exact hI.maint_iff, fun u w hu hwu => ?_⟩
    · rw [h4, List.mem_filter, hI.actv_iff u]
      by_cases hu : u = t
      · rw [hu, upd_same, h3]; simp
      · rw [upd_other _ _ _ _ hu]; simp [hu]
    · rw [hm] at hu
      by_cases hw : w = t
      · rw [hw, upd_same]; exact h3
      · rw [upd_other _ _ _ _ hw]; exact hI.mnt_excl u w hu hwu
  | startN h1 h2 h3 h4 h5 h6 =>
    have hm := mnt_same (by rw [h3, h1]; rfl)
    refine ⟨fun u => ?_, by rw [h6]; simp only [hm]; rw [← h4]; exact hI.maint_iff, fun u w hu _ => ?_⟩
    · rw [h5, List.mem_cons, hI.actv_iff u]
      by_cases hu : u = t
      · rw [hu, upd_same]; simp [h2]
      · rw [upd_other _ _ _ _ hu]; simp [hu]
    · rw [hm, hI.no_mnt h4 u] at hu; cases hu
  | startM h1 h2 h3 h4 h5 h6 h7 =>
    -- nothing was running
    have allidle : ∀ u, l u = L.idle := fun u => by
      cases hl : l u with
      | idle => rfl
      | run pc v =>
        have := (hI.actv_iff u).2 (by rw [hl]; exact L.noConfusion)
        rw [h5] at this; cases this
    have others : ∀ u, u ≠ t → upd l t l' u = L.idle := fun u hu => by rw [upd_other _ _ _ _ hu]; exact allidle u
    refine ⟨fun u => ?_, by rw [h7]; exact ⟨fun _ => ⟨t, by rw [upd_same]; exact h3⟩, fun _ => rfl⟩,
      fun u w hu hwu => ?_⟩
    · rw [h6, List.mem_singleton]
      by_cases hu : u = t
      · rw [hu, upd_same]; exact ⟨fun _ => h2, fun _ => rfl⟩
      · rw [others u hu]; exact ⟨fun h => absurd h hu, fun h => absurd rfl h⟩
    · have hut : u = t := Classical.byContradiction fun hne => by rw [others u hne] at hu; cases hu
      exact others w (hut ▸ hwu)

theorem sinv_of_ssum {g : G} {l : Tid → L} {t : Tid} {g' : G} {l' : L}
    (hI : SInvAt g l) (S : SSum t g (l t) g' l') : SInvAt g' (upd l t l') :=
  have ⟨h1, h2, h3⟩ := lock_step hI S.lock
  have ⟨h4, h5, h6⟩ := ghost_step hI S.ghost
  ⟨S.tinv, linv_step hI S, h1, h2, h3, h4, h5, h6⟩

theorem sinv_step {alg : Alg} {mc : Nat} {g : G} {l : Tid → L} {t : Tid} {a : Act} {g' : G} {l' : L} {obs : List Obs}
    (hI : SInvAt g l) (hs : step alg mc t g (l t) a = some (g', l', obs)) :
    SInvAt g' (upd l t l') :=
  sinv_of_ssum hI (step_ssum hI.tinv (hI.linv t) hs)

def SInv {alg : Alg} {mc : Nat} (c : Config (M alg mc)) : Prop := SInvAt c.g c.l

/-- **Every reachable configuration of the striped adder satisfies the structural invariant, whatever the
    value algebra** (integer or float). -/
theorem sinv_reach (alg : Alg) (mc : Nat) : ∀ (c : Config (M alg mc)), Reach (M alg mc) c → SInv c := by
  apply inv_of_reach
  · exact sinv_init
  · intro c t a g' l' obs hI hs
    exact sinv_step (alg := alg) (mc := mc) hI hs

theorem squiet_of_idle {g : G} {l : Tid → L} (hI : SInvAt g l) (hidle : ∀ u, l u = L.idle) :
    g.actv = [] ∧ g.maint = false := by
  constructor
  · apply List.eq_nil_iff_forall_not_mem.2
    intro u hu
    exact (hI.actv_iff u).1 hu (hidle u)
  · cases hm : g.maint
    · rfl
    · obtain ⟨u, hu⟩ := hI.maint_iff.1 hm
      rw [hidle u] at hu; cases hu

end Garr.Adder.Float
