/-!
# Heap of the striped adder (`adder/striped64.go`): base, spin flag, backing arrays with capacity,
published table = (backing array, len), cells; ghost `applied` = Σ x over updates whose
linearization point has occurred.  Arrays and cells are materialised at publication time
(array at the `cells.Store`, cell at the slot store that attaches it).  Invariants: `Float.TInv`, the
well-formedness of the table, which does not depend on what the cells hold, and `GInv`, which adds the
integer conservation law; both are preserved by every state-changing operation, incl. both Go-specific
growth forms.  `quiescent_sum`: adding up the cells slot by slot through the published table gives the
ghost total, since the slots of a well-formed table enumerate the cells.
-/
namespace Garr.Adder

structure Arr where
  cap : Nat
  slot : Nat → Option Nat          -- cell id; total function, `none` beyond the exposed length

structure G where
  base : Int
  busy : Bool
  narr : Nat
  arr : Nat → Arr
  tbl : Option (Nat × Nat)          -- published table: (backing array id, len)
  ncell : Nat                       -- cells materialised so far (at attachment time)
  cell : Nat → Int
  applied : Int                     -- ghost: Σ x over updates whose linearization point has occurred
  actv : List Nat := []             -- ghost: ids of the threads inside an operation
  maint : Bool := false             -- ghost: a maintenance operation (Store/Reset/SumAndReset) is running

def sumTo (f : Nat → Int) : Nat → Int
  | 0 => 0
  | n+1 => sumTo f n + f n

theorem sumTo_congr {f g : Nat → Int} {n : Nat} (h : ∀ k, k < n → f k = g k) : sumTo f n = sumTo g n := by
  induction n with
  | zero => rfl
  | succ n ih =>
    simp only [sumTo]
    rw [ih (fun k hk => h k (by omega)), h n (by omega)]

theorem sumTo_zero (n : Nat) : sumTo (fun _ => (0 : Int)) n = 0 := by
  induction n with
  | zero => rfl
  | succ n ih => simp [sumTo, ih]

theorem sumTo_update (f : Nat → Int) (n c : Nat) (d : Int) (hc : c < n) :
    sumTo (fun k => if k = c then f k + d else f k) n = sumTo f n + d := by
  induction n with
  | zero => omega
  | succ n ih =>
    simp only [sumTo]
    by_cases hcn : c = n
    · subst hcn
      have : sumTo (fun k => if k = c then f k + d else f k) c = sumTo f c :=
        sumTo_congr (fun k hk => by have : k ≠ c := by omega
                                    simp [this])
      rw [this]; simp; omega
    · rw [ih (by omega)]
      have : n ≠ c := fun h => hcn h.symm
      simp [this]; omega

structure SlotEnum (s : Nat → Option Nat) (n len : Nat) : Prop where
  valid : ∀ j c, s j = some c → c < n
  inj : ∀ j1 j2 c, s j1 = some c → s j2 = some c → j1 = j2
  surj : ∀ c, c < n → ∃ j, j < len ∧ s j = some c

theorem SlotEnum.peel {s : Nat → Option Nat} {n len : Nat} (h : SlotEnum s (n + 1) len) :
    ∃ j0, j0 < len ∧ s j0 = some n ∧ SlotEnum (fun j => if j = j0 then none else s j) n len := by
  obtain ⟨j0, hj0, hs0⟩ := h.surj n (Nat.lt_succ_self n)
  refine ⟨j0, hj0, hs0, ?_, ?_, ?_⟩
  · intro j c hs
    split at hs
    · cases hs
    · rename_i hne
      have h1 := h.valid j c hs
      have : c ≠ n := fun hcn => by subst hcn; exact hne (h.inj j j0 _ hs hs0)
      omega
  · intro j1 j2 c h1 h2
    split at h1
    · cases h1
    · split at h2
      · cases h2
      · exact h.inj j1 j2 c h1 h2
  · intro c hc
    obtain ⟨j, hj, hs⟩ := h.surj c (by omega)
    refine ⟨j, hj, ?_⟩
    have : j ≠ j0 := fun e => by subst e; rw [hs0] at hs; cases hs; omega
    simp [this, hs]

def inTable (g : G) (c : Nat) : Prop :=
  ∃ a len j, g.tbl = some (a, len) ∧ j < len ∧ (g.arr a).slot j = some c

structure GInv (g : G) : Prop where
  tbl_wf : ∀ a len, g.tbl = some (a, len) → a < g.narr ∧ 2 ≤ len ∧ len ≤ (g.arr a).cap ∧
            (∀ j, len ≤ j → (g.arr a).slot j = none)
  slot_valid : ∀ a j c, a < g.narr → (g.arr a).slot j = some c → c < g.ncell
  all_in : ∀ c, c < g.ncell → inTable g c
  inj : ∀ a len j1 j2 c, g.tbl = some (a, len) → (g.arr a).slot j1 = some c → (g.arr a).slot j2 = some c → j1 = j2
  conserve : g.base + sumTo g.cell g.ncell = g.applied

/-- successful CAS on base (linearization point of an update by `x`) -/
def casBase (g : G) (x : Int) : G := { g with base := g.base + x, applied := g.applied + x }

/-- successful CAS on an existing cell -/
def casCell (g : G) (c : Nat) (x : Int) : G :=
  { g with cell := fun k => if k = c then g.cell k + x else g.cell k, applied := g.applied + x }

def setSlot (ar : Arr) (j : Nat) (c : Nat) : Arr := { ar with slot := fun k => if k = j then some c else ar.slot k }

/-- attach a pre-filled cell to empty slot `j` of the published backing array `a` -/
def attach (g : G) (a j : Nat) (x : Int) : G :=
  { g with arr := fun k => if k = a then setSlot (g.arr a) j g.ncell else g.arr k,
           ncell := g.ncell + 1,
           cell := fun k => if k = g.ncell then x else g.cell k,
           applied := g.applied + x }

/-- growth, Go style 1: same backing array, resliced to its capacity -/
def growReslice (g : G) (a : Nat) : G := { g with tbl := some (a, (g.arr a).cap) }

/-- growth, Go style 2: fresh backing array of len 2n / cap 4n holding a copy of the n slots -/
def growRealloc (g : G) (a n : Nat) : G :=
  { g with narr := g.narr + 1,
           arr := fun k => if k = g.narr then { cap := 4*n, slot := fun j => if j < n then (g.arr a).slot j else none } else g.arr k,
           tbl := some (g.narr, 2*n) }

/-- initial publication: fresh array len 2 / cap 4 with one pre-filled cell at slot `j` (j < 2) -/
def initTable (g : G) (j : Nat) (x : Int) : G :=
  { g with narr := g.narr + 1,
           arr := fun k => if k = g.narr then { cap := 4, slot := fun i => if i = j then some g.ncell else none } else g.arr k,
           tbl := some (g.narr, 2),
           ncell := g.ncell + 1,
           cell := fun k => if k = g.ncell then x else g.cell k,
           applied := g.applied + x }

/-- `Store(v)`, first access: `base := v`.  The abstract value changes by `v - base`. -/
def storeBase (g : G) (v : Int) : G := { g with base := v, applied := g.applied - g.base + v }

/-- `Store(v)`, publication of a fresh table of the same length whose slots all hold fresh zero cells.
Runs only at quiescence, so the old arrays and cells are unreachable garbage: the heap is renumbered. -/
def storeTable (g : G) (len : Nat) : G :=
  { g with narr := 1,
           arr := fun _ => { cap := len, slot := fun j => if j < len then some j else none },
           tbl := some (0, len),
           ncell := len,
           cell := fun _ => 0,
           applied := g.base }

end Garr.Adder

namespace Garr.Adder.Float

/-- table well-formedness: `GInv` without the (integer) conservation law, so valid for any value algebra -/
structure TInv (g : G) : Prop where
  tbl_wf : ∀ a len, g.tbl = some (a, len) → a < g.narr ∧ 2 ≤ len ∧ len ≤ (g.arr a).cap ∧
            (∀ j, len ≤ j → (g.arr a).slot j = none)
  slot_valid : ∀ a j c, a < g.narr → (g.arr a).slot j = some c → c < g.ncell
  all_in : ∀ c, c < g.ncell → inTable g c
  inj : ∀ a len j1 j2 c, g.tbl = some (a, len) → (g.arr a).slot j1 = some c → (g.arr a).slot j2 = some c → j1 = j2

theorem TInv.ofGInv {g : G} (h : GInv g) : TInv g := ⟨h.tbl_wf, h.slot_valid, h.all_in, h.inj⟩

theorem TInv.congr {g g' : G} (h : TInv g) (hn : g'.narr = g.narr) (ha : g'.arr = g.arr)
    (ht : g'.tbl = g.tbl) (hc : g'.ncell = g.ncell) : TInv g' := by
  obtain ⟨b, bu, n, ar, tb, nc, ce, ap, ac, ma⟩ := g'
  simp only at hn ha ht hc
  subst hn ha ht hc
  exact ⟨h.tbl_wf, h.slot_valid, h.all_in, h.inj⟩

theorem tinv_ncell0 {g : G} (h : TInv g) (ht : g.tbl = none) : g.ncell = 0 := by
  cases hn : g.ncell with
  | zero => rfl
  | succ m =>
    obtain ⟨a, len, i, ht', _, _⟩ := h.all_in 0 (by omega)
    rw [ht] at ht'; cases ht'

theorem TInv.slots {g : G} (h : TInv g) {a len : Nat} (ht : g.tbl = some (a, len)) :
    SlotEnum (g.arr a).slot g.ncell len := by
  refine ⟨fun j c => h.slot_valid a j c (h.tbl_wf a len ht).1, fun j1 j2 c => h.inj a len j1 j2 c ht, fun c hc => ?_⟩
  obtain ⟨a', len', i, ht', hi, hs⟩ := h.all_in c hc
  rw [ht] at ht'; cases ht'
  exact ⟨i, hi, hs⟩

theorem attach_slot (g : G) (a j : Nat) (x : Int) (a' k : Nat) :
    ((attach g a j x).arr a').slot k = if a' = a ∧ k = j then some g.ncell else (g.arr a').slot k := by
  show (if a' = a then setSlot (g.arr a) j g.ncell else g.arr a').slot k = _
  by_cases h1 : a' = a
  · subst h1
    rw [if_pos rfl]
    show (if k = j then some g.ncell else (g.arr a').slot k) = _
    by_cases h2 : k = j
    · rw [if_pos h2, if_pos ⟨rfl, h2⟩]
    · rw [if_neg h2, if_neg fun h => h2 h.2]
  · rw [if_neg h1, if_neg fun h => h1 h.1]

theorem attach_cap (g : G) (a j : Nat) (x : Int) (a' : Nat) : ((attach g a j x).arr a').cap = (g.arr a').cap := by
  show (if a' = a then setSlot (g.arr a) j g.ncell else g.arr a').cap = _
  by_cases h1 : a' = a
  · subst h1; rw [if_pos rfl]; rfl
  · rw [if_neg h1]

theorem tinv_attach {g : G} (h : TInv g) (a len j : Nat) (x : Int)
    (ht : g.tbl = some (a, len)) (hj : j < len) (hnone : (g.arr a).slot j = none) : TInv (attach g a j x) := by
  refine ⟨?_, ?_, ?_, ?_⟩
  · intro a' len' ht'
    obtain ⟨ha, h2, hcap, hbeyond⟩ := h.tbl_wf a' len' ht'
    obtain ⟨rfl, rfl⟩ := Prod.mk.inj (Option.some.inj (ht.symm.trans ht'))
    refine ⟨ha, h2, (attach_cap ..).symm ▸ hcap, fun i hi => ?_⟩
    rw [attach_slot, if_neg fun hh => by omega]
    exact hbeyond i hi
  · intro a' i c ha' hs
    rw [attach_slot] at hs
    split at hs
    · cases hs; exact Nat.lt_succ_self _
    · exact Nat.lt_succ_of_lt (h.slot_valid a' i c ha' hs)
  · intro c hc
    by_cases hcn : c = g.ncell
    · exact ⟨a, len, j, ht, hj, by rw [attach_slot, if_pos ⟨rfl, rfl⟩, hcn]⟩
    · obtain ⟨a', len', i, ht', hi, hs⟩ := h.all_in c (Nat.lt_of_le_of_ne (Nat.le_of_lt_succ hc) hcn)
      refine ⟨a', len', i, ht', hi, ?_⟩
      rw [attach_slot, if_neg]
      · exact hs
      · rintro ⟨rfl, rfl⟩
        rw [hnone] at hs; cases hs
  · intro a' len' j1 j2 c ht' h1 h2'
    have ha := (h.tbl_wf a' len' ht').1
    rw [attach_slot] at h1 h2'
    split at h1 <;> split at h2'
    · omega
    · cases h1; exact absurd (h.slot_valid a' j2 _ ha h2') (Nat.lt_irrefl _)
    · cases h2'; exact absurd (h.slot_valid a' j1 _ ha h1) (Nat.lt_irrefl _)
    · exact h.inj a' len' j1 j2 c ht' h1 h2'

theorem tinv_growReslice {g : G} (h : TInv g) (a len : Nat) (ht : g.tbl = some (a, len)) :
    TInv (growReslice g a) := by
  obtain ⟨ha, h2, hcap, hbeyond⟩ := h.tbl_wf a len ht
  refine ⟨?_, h.slot_valid, ?_, ?_⟩
  · intro a' len' ht'
    cases ht'
    exact ⟨ha, Nat.le_trans h2 hcap, Nat.le_refl _, fun j hj => hbeyond j (Nat.le_trans hcap hj)⟩
  · intro c hc
    obtain ⟨i, hi, hs⟩ := (h.slots ht).surj c hc
    exact ⟨a, (g.arr a).cap, i, rfl, Nat.lt_of_lt_of_le hi hcap, hs⟩
  · intro a' len' j1 j2 c ht' h1 h2'
    cases ht'
    exact h.inj a len j1 j2 c ht h1 h2'

theorem tinv_publish {g g' : G} (h : TInv g) {a0 len : Nat} (A : Arr) (ha0 : a0 ≤ g.narr)
    (hn : g'.narr = a0 + 1) (harr : g'.arr a0 = A) (hold : ∀ k, k < a0 → g'.arr k = g.arr k)
    (ht : g'.tbl = some (a0, len)) (hnc : g.ncell ≤ g'.ncell) (h2 : 2 ≤ len) (hcap : len ≤ A.cap)
    (hbeyond : ∀ j, len ≤ j → A.slot j = none) (hvalid : ∀ j c, A.slot j = some c → c < g'.ncell)
    (hall : ∀ c, c < g'.ncell → ∃ j, j < len ∧ A.slot j = some c)
    (hinj : ∀ j1 j2 c, A.slot j1 = some c → A.slot j2 = some c → j1 = j2) : TInv g' := by
  refine ⟨?_, ?_, ?_, ?_⟩
  · intro a l hh
    obtain ⟨rfl, rfl⟩ := Prod.mk.inj (Option.some.inj (ht.symm.trans hh))
    rw [harr]
    exact ⟨by omega, h2, hcap, hbeyond⟩
  · intro a j c ha hs
    by_cases e : a = a0
    · rw [e, harr] at hs; exact hvalid j c hs
    · have hlt : a < a0 := by omega
      rw [hold a hlt] at hs
      exact Nat.lt_of_lt_of_le (h.slot_valid a j c (by omega) hs) hnc
  · intro c hc
    obtain ⟨j, hj, hs⟩ := hall c hc
    exact ⟨a0, len, j, ht, hj, by rw [harr]; exact hs⟩
  · intro a l j1 j2 c hh h1 h2'
    obtain ⟨rfl, rfl⟩ := Prod.mk.inj (Option.some.inj (ht.symm.trans hh))
    rw [harr] at h1 h2'
    exact hinj j1 j2 c h1 h2'

/-- growth by reallocation copying `n ≥ len` slots (those beyond `len` are empty) -/
theorem tinv_growRealloc {g : G} (h : TInv g) (a len n : Nat) (ht : g.tbl = some (a, len)) (hn : len ≤ n) :
    TInv (growRealloc g a n) := by
  obtain ⟨ha, h2, hcap, hbeyond⟩ := h.tbl_wf a len ht
  refine tinv_publish h { cap := 4*n, slot := fun j => if j < n then (g.arr a).slot j else none }
    (Nat.le_refl _) rfl (if_pos rfl) (fun k hk => if_neg (Nat.ne_of_lt hk)) rfl (Nat.le_refl _)
    (by omega) (by show 2*n ≤ 4*n; omega) (fun j hj => if_neg (by omega)) ?_ ?_ ?_
  · intro j c hs
    dsimp only at hs
    split at hs
    · exact h.slot_valid a j c ha hs
    · cases hs
  · intro c hc
    obtain ⟨i, hi, hs⟩ := (h.slots ht).surj c hc
    exact ⟨i, by omega, (if_pos (by omega)).trans hs⟩
  · intro j1 j2 c h1 h2'
    dsimp only at h1 h2'
    split at h1 <;> split at h2' <;> try contradiction
    exact h.inj a len j1 j2 c ht h1 h2'

theorem tinv_initTable {g : G} (h : TInv g) (j : Nat) (x : Int) (ht : g.tbl = none) (hj : j < 2) :
    TInv (initTable g j x) := by
  have hn0 : g.ncell = 0 := tinv_ncell0 h ht
  refine tinv_publish h { cap := 4, slot := fun i => if i = j then some g.ncell else none }
    (Nat.le_refl _) rfl (if_pos rfl) (fun k hk => if_neg (Nat.ne_of_lt hk)) rfl (Nat.le_succ _)
    (Nat.le_refl _) (by show 2 ≤ 4; omega) (fun i hi => if_neg (by omega)) ?_ ?_ ?_
  · intro i c hs
    dsimp only at hs
    split at hs
    · cases hs; exact Nat.lt_succ_self _
    · cases hs
  · intro c hc
    have hc : c < g.ncell + 1 := hc
    have hc0 : c = g.ncell := by omega
    exact ⟨j, hj, by rw [hc0]; exact if_pos rfl⟩
  · intro j1 j2 c h1 h2'
    dsimp only at h1 h2'
    split at h1 <;> split at h2' <;> try contradiction
    omega

theorem tinv_storeTable {g : G} (len : Nat) (h2 : 2 ≤ len) : TInv (storeTable g len) := by
  refine ⟨?_, ?_, ?_, ?_⟩
  · intro a l ht
    cases ht
    exact ⟨Nat.zero_lt_one, h2, Nat.le_refl _, fun j hj => if_neg (Nat.not_lt.2 hj)⟩
  · intro a j c _ hs
    have hs : (if j < len then some j else none) = some c := hs
    split at hs
    · cases hs; assumption
    · cases hs
  · intro c hc
    exact ⟨0, len, c, rfl, hc, if_pos hc⟩
  · intro a l j1 j2 c _ h1 h2'
    have h1 : (if j1 < len then some j1 else none) = some c := h1
    have h2' : (if j2 < len then some j2 else none) = some c := h2'
    split at h1 <;> split at h2' <;> try contradiction
    cases h1; cases h2'; rfl

end Garr.Adder.Float

namespace Garr.Adder
theorem GInv.of_tinv {g : G} (h : Float.TInv g) (hc : g.base + sumTo g.cell g.ncell = g.applied) : GInv g :=
  ⟨h.tbl_wf, h.slot_valid, h.all_in, h.inj, hc⟩

theorem sumTo_fresh (f : Nat → Int) (n : Nat) (x : Int) :
    sumTo (fun k => if k = n then x else f k) (n + 1) = sumTo f n + x := by
  simp only [sumTo, if_true]
  rw [sumTo_congr (g := f) (fun k hk => if_neg (Nat.ne_of_lt hk))]

theorem inv_casBase {g : G} (h : GInv g) (x : Int) : GInv (casBase g x) := by
  refine .of_tinv (.congr (.ofGInv h) rfl rfl rfl rfl) ?_
  have := h.conserve
  simp only [casBase]; omega

theorem inv_casCell {g : G} (h : GInv g) (c : Nat) (x : Int) (hc : c < g.ncell) : GInv (casCell g c x) := by
  refine .of_tinv (.congr (.ofGInv h) rfl rfl rfl rfl) ?_
  have := h.conserve
  simp only [casCell]
  rw [sumTo_update g.cell g.ncell c x hc]; omega

theorem inv_attach {g : G} (h : GInv g) (a len j : Nat) (x : Int)
    (ht : g.tbl = some (a, len)) (hj : j < len) (hnone : (g.arr a).slot j = none) : GInv (attach g a j x) := by
  refine .of_tinv (Float.tinv_attach (.ofGInv h) a len j x ht hj hnone) ?_
  have := h.conserve
  simp only [attach]
  rw [sumTo_fresh]; omega

theorem inv_growReslice {g : G} (h : GInv g) (a len : Nat) (ht : g.tbl = some (a, len)) : GInv (growReslice g a) :=
  .of_tinv (Float.tinv_growReslice (.ofGInv h) a len ht) h.conserve

theorem inv_growRealloc' {g : G} (h : GInv g) (a len n : Nat) (ht : g.tbl = some (a, len)) (hn : len ≤ n) :
    GInv (growRealloc g a n) :=
  .of_tinv (Float.tinv_growRealloc (.ofGInv h) a len n ht hn) h.conserve

theorem inv_growRealloc {g : G} (h : GInv g) (a len : Nat) (ht : g.tbl = some (a, len)) :
    GInv (growRealloc g a len) :=
  inv_growRealloc' h a len len ht (Nat.le_refl _)

theorem inv_initTable {g : G} (h : GInv g) (j : Nat) (x : Int) (ht : g.tbl = none) (hj : j < 2) :
    GInv (initTable g j x) := by
  refine .of_tinv (Float.tinv_initTable (.ofGInv h) j x ht hj) ?_
  have := h.conserve
  simp only [initTable]
  rw [sumTo_fresh]; omega

theorem inv_storeBase {g : G} (h : GInv g) (v : Int) : GInv (storeBase g v) := by
  refine .of_tinv (.congr (.ofGInv h) rfl rfl rfl rfl) ?_
  have := h.conserve
  simp only [storeBase]; omega

theorem inv_storeTable {g : G} (len : Nat) (h2 : 2 ≤ len) : GInv (storeTable g len) := by
  refine .of_tinv (Float.tinv_storeTable len h2) ?_
  simp only [storeTable]
  rw [sumTo_zero]; omega

def slotVal (s : Nat → Option Nat) (f : Nat → Int) (j : Nat) : Int :=
  match s j with | none => 0 | some c => f c

theorem sum_slots_eq (f : Nat → Int) : ∀ (n : Nat) (s : Nat → Option Nat) (len : Nat),
    (∀ j c, s j = some c → c < n) →
    (∀ j1 j2 c, s j1 = some c → s j2 = some c → j1 = j2) →
    (∀ c, c < n → ∃ j, j < len ∧ s j = some c) →
    sumTo (slotVal s f) len = sumTo f n := by
  intro n
  induction n with
  | zero =>
    intro s len hv _ _
    have : ∀ j, j < len → slotVal s f j = (fun _ => (0:Int)) j := by
      intro j _
      unfold slotVal
      cases hs : s j with
      | none => rfl
      | some c => exact absurd (hv j c hs) (by omega)
    rw [sumTo_congr this, sumTo_zero]
    rfl
  | succ n ih =>
    intro s len hv hinj hsurj
    obtain ⟨j0, hj0, hs0, h'⟩ := SlotEnum.peel ⟨hv, hinj, hsurj⟩
    -- the two slot sums differ exactly at `j0`, by `f n`
    have : ∀ k, k < len → slotVal s f k = (fun k => if k = j0 then slotVal (fun j => if j = j0 then none else s j) f k + f n
        else slotVal (fun j => if j = j0 then none else s j) f k) k := by
      intro k _
      by_cases hk : k = j0
      · subst hk; simp [slotVal, hs0]
      · simp [slotVal, hk]
    rw [sumTo_congr this, sumTo_update _ len j0 (f n) hj0, ih _ len h'.valid h'.inj h'.surj]
    rfl

def tableSum (g : G) : Int :=
  match g.tbl with
  | none => 0
  | some (a, len) => sumTo (slotVal (g.arr a).slot g.cell) len

/-- What a solo `Sum` computes (base plus every slot's cell) is the abstract value. -/
theorem quiescent_sum {g : G} (h : GInv g) : g.base + tableSum g = g.applied := by
  rw [← h.conserve]
  congr 1
  unfold tableSum
  cases ht : g.tbl with
  | none =>
    simp [Float.tinv_ncell0 (.ofGInv h) ht, sumTo]
  | some p =>
    have e := (Float.TInv.ofGInv h).slots ht
    exact sum_slots_eq _ _ _ _ e.valid e.inj e.surj

end Garr.Adder
