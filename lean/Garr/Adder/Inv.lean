import Garr.Adder.FloatStruct
/-!
# The invariant of the integer striped adder, built on the structural invariant

`AInv` is the machine-level invariant of `M intAlg mc`: the heap invariant `GInv`, the per-thread
invariant `LInv` (relative to the heap), the lock discipline of `cellsBusy`, and the maintenance
discipline of the ghost fields `actv` / `maint`.  It is the structural invariant `Float.SInvAt` of
`Garr.Adder.FloatStruct`, which holds for every value algebra, together with the integer conservation law,
which every step preserves (`step_ginv`).  `ainv_reach` lifts it to every reachable configuration;
`conservation` and `applied_step` (C02) follow.  Last, what the steps of an `Add` make observable: silent
steps up to exactly one linearization point, then the response (`stepRun_obs`, `add_start`, `add_pre_step`,
`add_post_step`, all read off `step_obs`).
-/
namespace Garr.Adder
open Garr.Conc

theorem casBaseA_int (g : G) (x : Int) : casBaseA intAlg g x = casBase g x := rfl
theorem casCellA_int (g : G) (c : Nat) (x : Int) : casCellA intAlg g c x = casCell g c x := rfl
theorem intAlg_float : intAlg.float = false := rfl
theorem intAlg_view (x : Int) : intAlg.view x = wrap64 x := rfl
theorem intAlg_add (a b : Int) : intAlg.add a b = a + b := rfl

theorem GInv_ghost {g : G} (h : GInv g) (bu : Bool) (ac : List Nat) (ma : Bool) :
    GInv { g with busy := bu, actv := ac, maint := ma } :=
  ⟨h.tbl_wf, h.slot_valid, h.all_in, h.inj, h.conserve⟩

theorem GInv_leave {g : G} (h : GInv g) (t : Tid) (v : V) : GInv (leave t g v) := by
  unfold leave
  split <;> exact GInv_ghost h _ _ _

theorem GInv_busy {g : G} (h : GInv g) (b : Bool) : GInv { g with busy := b } :=
  GInv_ghost h b _ _

theorem stepRun_ginv {mc : Nat} {t : Tid} {g : G} {pc : PC} {v : V} {w : Nat} {g' : G} {l' : L} {obs : List Obs}
    (hG : GInv g) (hL : LInvPC g v pc) (hs : stepRun intAlg mc t g pc v w = (g', l', obs)) : GInv g' := by
  cases Step.of_eq hs with
  | tau => exact hG
  | acquire | release => exact GInv_busy hG _
  | releaseRet => exact GInv_leave (GInv_busy hG _) _ _
  | casBase => exact GInv_leave (inv_casBase hG _) _ _
  | casCell hp => exact GInv_leave (inv_casCell hG _ _ (by rcases hp with rfl | rfl <;> exact hL)) _ _
  | attach hp => subst hp; exact inv_attach hG _ _ _ _ hL.1 hL.2.1 hL.2.2
  | init hp => subst hp; exact inv_initTable hG _ _ hL.1 hL.2
  | reslice hp =>
    subst hp
    exact inv_growReslice hG _ v.rs.2 (by rw [hL.1, ← hL.2])
  | realloc hp =>
    subst hp
    have htb : g.tbl = some (v.as.1, v.rs.2) := by rw [hL.1, ← hL.2]
    exact inv_growRealloc' hG _ _ _ htb (hG.tbl_wf _ _ htb).2.2.1
  | storeBase => exact inv_storeBase hG _
  | storeTable r hp => subst hp; exact GInv_leave (inv_storeTable _ hL.2) _ _
  | ret => exact GInv_leave hG _ _

theorem step_ginv {mc : Nat} {t : Tid} {g : G} {l : L} {a : Act} {g' : G} {l' : L} {obs : List Obs}
    (hG : GInv g) (hL : LInv g l) (hs : step intAlg mc t g l a = some (g', l', obs)) : GInv g' := by
  rcases step_cases hs with ⟨rfl, h⟩ | ⟨pc, v, w, rfl, h⟩
  · cases h <;> exact GInv_ghost hG _ _ _
  · exact stepRun_ginv hG hL h

structure AInvAt (g : G) (l : Tid → L) : Prop where
  ginv : GInv g
  linv : ∀ t, LInv g (l t)
  lock_busy : ∀ t, holds (l t) = true → g.busy = true
  lock_excl : ∀ t u, holds (l t) = true → holds (l u) = true → t = u
  busy_held : g.busy = true → ∃ t, holds (l t) = true
  actv_iff : ∀ t, t ∈ g.actv ↔ l t ≠ L.idle
  maint_iff : g.maint = true ↔ ∃ t, isMnt (l t) = true
  mnt_excl : ∀ t u, isMnt (l t) = true → u ≠ t → l u = L.idle

def AInv {mc : Nat} (c : Config (M intAlg mc)) : Prop := AInvAt c.g c.l

theorem AInvAt.sinv {g : G} {l : Tid → L} (h : AInvAt g l) : Float.SInvAt g l :=
  ⟨.ofGInv h.ginv, h.linv, h.lock_busy, h.lock_excl, h.busy_held, h.actv_iff, h.maint_iff, h.mnt_excl⟩

theorem AInvAt.of_sinv {g : G} {l : Tid → L} (h : Float.SInvAt g l) (hG : GInv g) : AInvAt g l :=
  ⟨hG, h.linv, h.lock_busy, h.lock_excl, h.busy_held, h.actv_iff, h.maint_iff, h.mnt_excl⟩

theorem ainv_init (mc : Nat) : AInv (Config.init (M intAlg mc)) :=
  .of_sinv Float.sinv_init (.of_tinv Float.sinv_init.tinv rfl)

theorem ainv_step {mc : Nat} {g : G} {l : Tid → L} {t : Tid} {a : Act} {g' : G} {l' : L} {obs : List Obs}
    (hI : AInvAt g l) (hs : step intAlg mc t g (l t) a = some (g', l', obs)) :
    AInvAt g' (upd l t l') :=
  .of_sinv (Float.sinv_step hI.sinv hs) (step_ginv hI.ginv (hI.linv t) hs)

theorem ainv_reach : ∀ (mc : Nat) (c : Config (M intAlg mc)), Reach (M intAlg mc) c → AInv c := by
  intro mc
  apply inv_of_reach
  · exact ainv_init mc
  · intro c t a g' l' obs hI hs
    exact ainv_step hI hs

theorem AInvAt.mnt_unique {g : G} {l : Tid → L} (h : AInvAt g l) {t u : Tid}
    (ht : isMnt (l t) = true) (hu : isMnt (l u) = true) : t = u := by
  by_cases hut : u = t
  · exact hut.symm
  · rw [h.mnt_excl t u ht hut] at hu; cases hu

theorem AInvAt.maint_all {g : G} {l : Tid → L} (h : AInvAt g l) (hm : g.maint = true) (u : Tid)
    (hu : l u ≠ L.idle) : isMnt (l u) = true := by
  obtain ⟨t, ht⟩ := h.maint_iff.1 hm
  by_cases hut : u = t
  · rw [hut]; exact ht
  · exact absurd (h.mnt_excl t u ht hut) hu

theorem AInvAt.maint_alone {g : G} {l : Tid → L} (h : AInvAt g l) {t : Tid} (ht : isMnt (l t) = true) :
    ∀ u, u ≠ t → l u = L.idle := fun u hu => h.mnt_excl t u ht hu

/-- **C02.**  In every reachable configuration, base plus the cells of the published table is the ghost total -/
theorem conservation {mc : Nat} {c : Config (M intAlg mc)} (h : Reach (M intAlg mc) c) :
    G.base c.g + tableSum c.g = G.applied c.g :=
  quiescent_sum (ainv_reach mc c h).ginv

def lpSum : List Obs → Int
  | [] => 0
  | .lp x :: r => x + lpSum r
  | .ret _ :: r => lpSum r

theorem lpSum_append (a b : List Obs) : lpSum (a ++ b) = lpSum a + lpSum b := by
  induction a with
  | nil => simp [lpSum]
  | cons o r ih => cases o <;> simp [lpSum, ih]; omega

theorem stepRun_applied {mc : Nat} {t : Tid} {g : G} {pc : PC} {v : V} {w : Nat} {g' : G} {l' : L} {obs : List Obs}
    (hL : LInvPC g v pc) (hm : v.mnt = false) (hs : stepRun intAlg mc t g pc v w = (g', l', obs)) :
    g'.applied = g.applied + lpSum obs := by
  cases Step.of_eq hs with
  | tau | acquire | release | reslice | realloc => exact (Int.add_zero _).symm
  | releaseRet | ret => simp [lpSum]
  | casBase => simp [lpSum, casBaseA]
  | casCell => simp [lpSum, casCellA]
  | attach => simp [lpSum, attach]
  | init => simp [lpSum, initTable]
  | storeBase hp => subst hp; rw [hL] at hm; cases hm
  | storeTable r hp => subst hp; rw [hL.1] at hm; cases hm

/-- **C02, step form.**  A step of a thread that is not running a maintenance operation changes the
    ghost total by exactly the operands of the linearization points it emits. -/
theorem applied_step {mc : Nat} {c : Config (M intAlg mc)} {t : Tid} {a : Act} {g' : G} {l' : L} {obs : List Obs}
    (hr : Reach (M intAlg mc) c) (hs : step intAlg mc t c.g (c.l t) a = some (g', l', obs))
    (hm : isMnt (c.l t) = false) : g'.applied = G.applied c.g + lpSum obs := by
  have hL := (ainv_reach mc c hr).linv t
  rcases step_cases hs with ⟨_, h⟩ | ⟨pc, v, w, hl, h⟩
  · cases h <;> exact (Int.add_zero _).symm
  · rw [hl] at hL hm
    exact stepRun_applied hL hm h

theorem stepRun_obs {mc : Nat} {t : Tid} {g : G} {pc : PC} {v : V} {w : Nat} {g' : G} {l' : L} {obs : List Obs}
    (hs : stepRun intAlg mc t g pc v w = (g', l', obs)) :
    (obs = [] ∧ ∃ pc' v', l' = .run pc' v' ∧ (v'.x = v.x ∨ pc' = .t0)) ∨
    (obs = [.lp v.x, .ret none] ∧ l' = .idle ∧ (pc = .a2 ∨ pc = .a5 ∨ pc = .c7 ∨ pc = .kb2)) ∨
    (obs = [.lp v.x] ∧ ((pc = .c5c ∧ l' = .run .c5d v) ∨ (pc = .k4b ∧ l' = .run .k4c v))) ∨
    (∃ r, obs = [.ret r] ∧ l' = .idle ∧
      ((r = none ∧ (pc = .c5d ∨ pc = .k4c)) ∨ pc = .s1 ∨ pc = .s2 ∨ pc = .s3 ∨ pc = .t1 ∨ pc = .t3)) := by
  rcases step_obs hs with ⟨h, pc', v', hl, q⟩ | h
  · exact .inl ⟨h, pc', v', hl, q.x⟩
  · exact .inr h

/-! ### Exactly one linearization point per `Add`

An `Add x` starts at `a0` with `v.x = x` (a `preLP` pc).  `preLP` pcs are closed under silent steps,
which keep `x`; the only other steps from a `preLP` pc emit exactly `lp x`, either together with the
response, or moving to a `postLP` pc (`c5d` / `k4c`), whose only step emits the response alone.  Along a run this
adds up to `Float.lps_invoked` (`Garr.Adder.FloatInv`, any value algebra): the `lp`s are the accepted `Add`s. -/

theorem add_start {mc : Nat} {t : Tid} {g g' : G} {l' : L} {obs : List Obs} {x : Int}
    (hs : step intAlg mc t g .idle (.add x) = some (g', l', obs)) :
    obs = [] ∧ l' = .run .a0 { x := x } := by
  rcases step_cases hs with ⟨_, h⟩ | ⟨_, _, _, h, _⟩
  · cases h; exact ⟨rfl, rfl⟩
  · cases h

theorem add_pre_step {mc : Nat} {t : Tid} {g : G} {pc : PC} {v : V} {w : Nat} {g' : G} {l' : L} {obs : List Obs}
    (hp : preLP pc = true) (hs : stepRun intAlg mc t g pc v w = (g', l', obs)) :
    (obs = [] ∧ ∃ pc' v', l' = .run pc' v' ∧ preLP pc' = true ∧ v'.x = v.x) ∨
    (obs = [.lp v.x, .ret none] ∧ l' = .idle) ∨
    (obs = [.lp v.x] ∧ ∃ pc', l' = .run pc' v ∧ postLP pc' = true) := by
  rcases step_obs hs with ⟨h, pc', v', hl, q⟩ | h | ⟨h, ⟨_, hl⟩ | ⟨_, hl⟩⟩ | ⟨r, _, _, h⟩
  · exact .inl ⟨h, pc', v', hl, q.keep hp⟩
  · exact .inr (.inl ⟨h.1, h.2.1⟩)
  · exact .inr (.inr ⟨h, _, hl, rfl⟩)
  · exact .inr (.inr ⟨h, _, hl, rfl⟩)
  · rcases h with ⟨_, rfl | rfl⟩ | rfl | rfl | rfl | rfl | rfl <;> cases hp

local macro "fin " h:ident : tactic =>
  `(tactic| (simp only [Prod.mk.injEq] at $h:ident; obtain ⟨h1, h2, h3⟩ := $h:ident; subst h1 h2 h3))

theorem add_post_step {mc : Nat} {t : Tid} {g : G} {pc : PC} {v : V} {w : Nat} {g' : G} {l' : L} {obs : List Obs}
    (hp : postLP pc = true) (hs : stepRun intAlg mc t g pc v w = (g', l', obs)) :
    obs = [.ret none] ∧ l' = .idle :=
  match pc, hp, hs with
  | .c5d, _, hs | .k4c, _, hs => by
    simp only [stepRun] at hs
    fin hs
    exact ⟨rfl, rfl⟩

end Garr.Adder
