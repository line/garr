import Garr.Adder.Simple
import Garr.Adder.Solo
/-!
# Invariants and solo runs of the simple adders (`Garr.Adder.Simple.M P`)

`SStep`, `sstep_iff`: the transition relation of `step P`, one constructor per kind of step, on which every
case analysis below rests.  Whatever the value algebra, an `Add` is entered only by invoking it, the
`atomic.AddInt64` step is its effect step, and every step changes the ghost `applied` by exactly the `lp`s it
emits (`Garr.Props.SimpleAdders.add_once`: each `Add x` takes effect once).  For the integer algebra a step that
is not part of a maintenance operation changes `total` (the exact sum of the cells) by the same amount.

The ghost `applied` tracks updates only: maintenance steps do not touch it, so everything about
`Store`/`Reset`/`SumAndReset` is phrased with `total`.
-/
namespace Garr.Adder.Simple
open Garr.Conc Garr.Adder

def total (g : SG) : Int := g.cells.sum

theorem ssum_set (l : List Int) (j : Nat) (v : Int) (h : j < l.length) :
    (l.set j v).sum = l.sum - (l[j]?).getD 0 + v := by
  induction l generalizing j with
  | nil => simp at h
  | cons a l ih =>
    cases j with
    | zero => simp only [List.set_cons_zero, List.sum_cons, List.getElem?_cons_zero, Option.getD_some]; omega
    | succ j =>
      have hj : j < l.length := by simpa using h
      simp only [List.set_cons_succ, List.sum_cons, List.getElem?_cons_succ, ih j hj]; omega

theorem ssum_take_succ (l : List Int) (i : Nat) :
    (l.take (i + 1)).sum = (l.take i).sum + (l[i]?).getD 0 := by
  induction l generalizing i with
  | nil => simp
  | cons a l ih =>
    cases i with
    | zero => simp
    | succ i => simp only [List.take_succ_cons, List.sum_cons, List.getElem?_cons_succ, ih i]; omega

theorem ssum_replicate_zero (n : Nat) : (List.replicate n (0 : Int)).sum = 0 := by
  induction n with
  | zero => rfl
  | succ n ih => simp [List.replicate_succ, ih]

def lpVal : Obs → Int
  | .lp x => x
  | .ret _ => 0

def lpSumLog : List (Tid × Obs) → Int
  | [] => 0
  | e :: r => lpVal e.2 + lpSumLog r

theorem lpSumLog_append (a b : List (Tid × Obs)) : lpSumLog (a ++ b) = lpSumLog a + lpSumLog b := by
  induction a with
  | nil => simp [lpSumLog]
  | cons e r ih => simp only [List.cons_append, lpSumLog, ih]; omega

theorem lpSumLog_tag (t : Tid) (obs : List Obs) : lpSumLog (obs.map (fun o => (t, o))) = lpSum obs := by
  induction obs with
  | nil => rfl
  | cons o r ih => cases o <;> simp only [List.map_cons, lpSumLog, lpVal, lpSum, ih, Int.zero_add]

def sWf (P : Params) : SL → Prop
  | .idle => True
  | .addDraw _ => P.draws = true
  | .addAt _ j => j < P.n ∧ P.casLoop = false
  | .addLd _ j => j < P.n ∧ P.casLoop = true
  | .addCas _ j _ => j < P.n ∧ P.casLoop = true
  | .sum i _ => i < P.n
  | .reset i => i < P.n
  | .sarLd i _ => i < P.n
  | .sarSt i _ => i < P.n
  | .store i _ => i < P.n

structure SInv (P : Params) (c : Config (M P)) : Prop where
  len : c.g.cells.length = P.n
  wf : ∀ t, sWf P (c.l t)

theorem length_setCell (g : SG) (j : Nat) (v : Int) : (setCell g j v).cells.length = g.cells.length := by
  simp [setCell]

theorem ite_some_eq {α : Type} {c : Prop} [Decidable c] {a b r : α}
    (h : (if c then some a else some b) = some r) : (c ∧ a = r) ∨ (¬ c ∧ b = r) := by
  split at h
  · exact Or.inl ⟨‹c›, Option.some.inj h⟩
  · exact Or.inr ⟨‹¬ c›, Option.some.inj h⟩

/-- the accumulator after reading cell `i` (the first read initialises it) -/
def sacc (P : Params) (g : SG) (i : Nat) (acc : Int) : Int :=
  if i = 0 then P.alg.view (cellAt g i) else P.alg.add acc (P.alg.view (cellAt g i))

def applyAdd (P : Params) (g : SG) (j : Nat) (x : Int) : SG :=
  { (setCell g j (P.alg.add (cellAt g j) x)) with applied := g.applied + x }

inductive SStep (P : Params) (g : SG) : SL → SAct → SG → SL → List Obs → Prop
  | invAdd (x : Int) : SStep P g .idle (.add x) g
      (if P.draws then .addDraw x else (if P.casLoop then .addLd x 0 else .addAt x 0)) []
  | invSum : SStep P g .idle .sum g (.sum 0 0) []
  | invReset : SStep P g .idle .reset g (.reset 0) []
  | invSar : SStep P g .idle .sumAndReset g (.sarLd 0 0) []
  | invStore (v : Int) : SStep P g .idle (.store v) g (.store 0 v) []
  | draw (x : Int) (w : Nat) : SStep P g (.addDraw x) (.rnd w) g
      (if P.casLoop then .addLd x (rint w % P.n) else .addAt x (rint w % P.n)) []
  | addAt (x : Int) (j : Nat) : SStep P g (.addAt x j) .tau (applyAdd P g j x) .idle [.lp x, .ret none]
  | addLd (x : Int) (j : Nat) : SStep P g (.addLd x j) .tau g (.addCas x j (P.alg.view (cellAt g j))) []
  | casOk (x : Int) (j : Nat) (old : Int) : P.alg.view (cellAt g j) = old →
      SStep P g (.addCas x j old) .tau (applyAdd P g j x) .idle [.lp x, .ret none]
  | casFail (x : Int) (j : Nat) (old : Int) : P.alg.view (cellAt g j) ≠ old →
      SStep P g (.addCas x j old) .tau g (.addLd x j) []
  | sumNext (i : Nat) (acc : Int) : i + 1 < P.n → SStep P g (.sum i acc) .tau g (.sum (i + 1) (sacc P g i acc)) []
  | sumRet (i : Nat) (acc : Int) : ¬ i + 1 < P.n →
      SStep P g (.sum i acc) .tau g .idle [.ret (some (P.alg.view (sacc P g i acc)))]
  | resetNext (i : Nat) : i + 1 < P.n → SStep P g (.reset i) .tau (setCell g i 0) (.reset (i + 1)) []
  | resetRet (i : Nat) : ¬ i + 1 < P.n → SStep P g (.reset i) .tau (setCell g i 0) .idle [.ret none]
  | sarLd (i : Nat) (acc : Int) : SStep P g (.sarLd i acc) .tau g (.sarSt i (sacc P g i acc)) []
  | sarStNext (i : Nat) (acc : Int) : i + 1 < P.n →
      SStep P g (.sarSt i acc) .tau (setCell g i 0) (.sarLd (i + 1) acc) []
  | sarStRet (i : Nat) (acc : Int) : ¬ i + 1 < P.n →
      SStep P g (.sarSt i acc) .tau (setCell g i 0) .idle [.ret (some (P.alg.view acc))]
  | storeNext (i : Nat) (v : Int) : i + 1 < P.n →
      SStep P g (.store i v) .tau (setCell g i (if i = 0 then v else 0)) (.store (i + 1) v) []
  | storeRet (i : Nat) (v : Int) : ¬ i + 1 < P.n →
      SStep P g (.store i v) .tau (setCell g i (if i = 0 then v else 0)) .idle [.ret none]

theorem sstep_of_step {P : Params} {t : Tid} {g : SG} {l : SL} {a : SAct} {g' : SG} {l' : SL} {obs : List Obs}
    (hs : step P t g l a = some (g', l', obs)) : SStep P g l a g' l' obs := by
  unfold step at hs
  split at hs
  next x => cases hs; exact .invAdd x
  next => cases hs; exact .invSum
  next => cases hs; exact .invReset
  next => cases hs; exact .invSar
  next v => cases hs; exact .invStore v
  next x w => cases hs; exact .draw x w
  next x j => cases hs; exact .addAt x j
  next x j => cases hs; exact .addLd x j
  next x j old =>
    rcases ite_some_eq hs with ⟨hc, h⟩ | ⟨hc, h⟩ <;> cases h
    · exact .casOk x j old hc
    · exact .casFail x j old hc
  next i acc =>
    rcases ite_some_eq hs with ⟨hc, h⟩ | ⟨hc, h⟩ <;> cases h
    · exact .sumNext i acc hc
    · exact .sumRet i acc hc
  next i =>
    rcases ite_some_eq hs with ⟨hc, h⟩ | ⟨hc, h⟩ <;> cases h
    · exact .resetNext i hc
    · exact .resetRet i hc
  next i acc => cases hs; exact .sarLd i acc
  next i acc =>
    rcases ite_some_eq hs with ⟨hc, h⟩ | ⟨hc, h⟩ <;> cases h
    · exact .sarStNext i acc hc
    · exact .sarStRet i acc hc
  next i v =>
    rcases ite_some_eq hs with ⟨hc, h⟩ | ⟨hc, h⟩ <;> cases h
    · exact .storeNext i v hc
    · exact .storeRet i v hc
  next => cases hs

theorem step_of_sstep {P : Params} (t : Tid) {g : SG} {l : SL} {a : SAct} {g' : SG} {l' : SL} {obs : List Obs}
    (h : SStep P g l a g' l' obs) : step P t g l a = some (g', l', obs) := by
  induction h <;> simp [step, sacc, applyAdd, *]

theorem sstep_iff {P : Params} {t : Tid} {g : SG} {l : SL} {a : SAct} {g' : SG} {l' : SL} {obs : List Obs} :
    (M P).step t g l a = some (g', l', obs) ↔ SStep P g l a g' l' obs :=
  ⟨fun h => sstep_of_step (t := t) h, step_of_sstep t⟩

theorem length_applyAdd (P : Params) (g : SG) (j : Nat) (x : Int) :
    (applyAdd P g j x).cells.length = g.cells.length := by
  simp [applyAdd, setCell]

theorem step_sinv (P : Params) (hn : 0 < P.n) {t : Tid} {g : SG} {l : SL} {a : SAct} {g' : SG} {l' : SL}
    {obs : List Obs} (hlen : g.cells.length = P.n) (hwf : sWf P l)
    (hs : step P t g l a = some (g', l', obs)) : g'.cells.length = P.n ∧ sWf P l' := by
  have hmod : ∀ w : Nat, rint w % P.n < P.n := fun w => Nat.mod_lt _ hn
  have hA : ∀ j x, (applyAdd P g j x).cells.length = P.n := fun j x => (length_applyAdd P g j x).trans hlen
  have hS : ∀ i v, (setCell g i v).cells.length = P.n := fun i v => (length_setCell g i v).trans hlen
  induction sstep_of_step hs with
  | invAdd x => exact ⟨hlen, by cases hd : P.draws <;> cases hc : P.casLoop <;> simp [sWf, hd, hc, hn]⟩
  | draw x w => exact ⟨hlen, by cases hc : P.casLoop <;> simp [sWf, hc, hmod w]⟩
  | invSum | invReset | invSar | invStore => exact ⟨hlen, hn⟩
  | addAt | casOk => exact ⟨hA _ _, trivial⟩
  | addLd | casFail | sarLd => exact ⟨hlen, hwf⟩
  | sumNext _ _ h => exact ⟨hlen, h⟩
  | sumRet => exact ⟨hlen, trivial⟩
  | resetNext _ h | sarStNext _ _ h | storeNext _ _ h => exact ⟨hS _ _, h⟩
  | resetRet | sarStRet | storeRet => exact ⟨hS _ _, trivial⟩

/-- **Structural invariant**: every reachable configuration has exactly `P.n` cells
    and every thread's cell / loop index is in range. -/
theorem sinv_reach (P : Params) (hn : 0 < P.n) : ∀ c, Reach (M P) c → SInv P c := by
  apply inv_of_reach
  · exact ⟨by simp [Config.init, M], fun _ => trivial⟩
  · intro c t a g' l' obs hI hs
    obtain ⟨h1, h2⟩ := step_sinv P hn (t := t) hI.len (hI.wf t) hs
    exact ⟨h1, forall_upd h2 (fun _ _ h => h) hI.wf⟩

def addArg : SL → Option Int
  | .addDraw x => some x
  | .addAt x _ => some x
  | .addLd x _ => some x
  | .addCas x _ _ => some x
  | _ => none

theorem addArg_entry (P : Params) (x : Int) :
    addArg (if P.draws then .addDraw x else (if P.casLoop then .addLd x 0 else .addAt x 0)) = some x := by
  cases P.draws <;> cases P.casLoop <;> rfl

theorem addArg_drawn (P : Params) (x : Int) (j : Nat) :
    addArg (if P.casLoop then .addLd x j else .addAt x j) = some x := by
  cases P.casLoop <;> rfl

theorem addArg_enter {P : Params} {t : Tid} {g : SG} {l : SL} {a : SAct} {g' : SG} {l' : SL} {obs : List Obs} {x : Int}
    (hs : (M P).step t g l a = some (g', l', obs)) (hl : addArg l = none) (hx : addArg l' = some x) :
    l = .idle ∧ a = .add x ∧ g' = g ∧ obs = [] := by
  induction sstep_of_step (t := t) hs
  case invAdd x' =>
    rw [addArg_entry] at hx
    cases hx; exact ⟨rfl, rfl, rfl, rfl⟩
  all_goals simp [addArg] at hl hx

/-- `atomic.AddInt64`: the one step of `addAt` is the effect step -/
theorem add_once_at {P : Params} {t : Tid} {g : SG} {x : Int} {j : Nat} :
    (M P).step t g (.addAt x j) .tau = some (applyAdd P g j x, .idle, [.lp x, .ret none]) := rfl

theorem step_applied {P : Params} {t : Tid} {g : SG} {l : SL} {a : SAct} {g' : SG} {l' : SL} {obs : List Obs}
    (hs : (M P).step t g l a = some (g', l', obs)) : g'.applied = g.applied + lpSum obs := by
  induction sstep_of_step (t := t) hs <;> simp [lpSum, applyAdd, setCell]

def isMaintAct : SAct → Bool
  | .reset | .sumAndReset | .store _ => true
  | _ => false

def inMaint : SL → Bool
  | .reset _ | .sarLd _ _ | .sarSt _ _ | .store _ _ => true
  | _ => false

theorem inMaint_entry (P : Params) (x : Int) :
    inMaint (if P.draws then .addDraw x else (if P.casLoop then .addLd x 0 else .addAt x 0)) = false := by
  cases P.draws <;> cases P.casLoop <;> rfl

theorem inMaint_drawn (P : Params) (x : Int) (j : Nat) :
    inMaint (if P.casLoop then .addLd x j else .addAt x j) = false := by
  cases P.casLoop <;> rfl

theorem total_applyAdd {P : Params} (hA : P.alg = intAlg) {g : SG} {j : Nat} (x : Int) (hj : j < g.cells.length) :
    total (applyAdd P g j x) = total g + x := by
  have hget : cellAt g j = (g.cells[j]?).getD 0 := rfl
  simp only [total, applyAdd, setCell, hA, intAlg]
  rw [ssum_set _ _ _ hj, hget]; omega

/-- **`sconserve`, one step.**  A step of an `Add` or a `Sum` (and the invocation of either) changes the
    exact cell total and the ghost `applied` by exactly the `lp`s it emits, and does not enter a
    maintenance operation.  Holds with `atomic.AddInt64` and with the CAS loop alike. -/
theorem sconserve_step {P : Params} (hA : P.alg = intAlg) {t : Tid} {g : SG} {l : SL} {a : SAct}
    {g' : SG} {l' : SL} {obs : List Obs} (hlen : g.cells.length = P.n) (hwf : sWf P l)
    (hm : inMaint l = false) (ha : isMaintAct a = false)
    (hs : (M P).step t g l a = some (g', l', obs)) :
    total g' = total g + lpSum obs ∧ g'.applied = g.applied + lpSum obs ∧ inMaint l' = false := by
  have key : total g' = total g + lpSum obs ∧ inMaint l' = false := by
    induction sstep_of_step (t := t) hs <;> simp only [inMaint, isMaintAct, reduceCtorEq] at hm ha <;>
      simp only [lpSum, Int.add_zero]
    case invAdd => exact ⟨trivial, inMaint_entry _ _⟩
    case draw => exact ⟨trivial, inMaint_drawn _ _ _⟩
    case addAt x j => exact ⟨total_applyAdd hA x (by rw [hlen]; exact hwf.1), rfl⟩
    case casOk x j old _ => exact ⟨total_applyAdd hA x (by rw [hlen]; exact hwf.1), rfl⟩
    all_goals exact ⟨trivial, rfl⟩
  exact ⟨key.1, step_applied hs, key.2⟩

theorem log_grow {a a' b : Int} {lg : List (Tid × Obs)} {obs : List Obs} (t : Tid)
    (hQ : a = b + lpSumLog lg) (h : a' = a + lpSum obs) :
    a' = b + lpSumLog (lg ++ obs.map (fun o => (t, o))) := by
  rw [lpSumLog_append, lpSumLog_tag]; omega

/-- the ghost `applied` is the sum of the `lp`s of the log: any parameters, any schedule (maintenance
    operations included — they do not touch `applied`) -/
theorem applied_run {P : Params} {c0 : Config (M P)} (hr : Reach (M P) c0) (s : List (Tid × SAct)) :
    SG.applied (run (M P) c0 s).1.g = SG.applied c0.g + lpSumLog (run (M P) c0 s).2 :=
  run_ind_raw (fun _ _ => True) (fun lg g _ => g.applied = SG.applied c0.g + lpSumLog lg)
    (fun _ _ _ t _ _ _ _ _ hQ _ hs => log_grow t hQ (step_applied (t := t) hs))
    s c0 hr (by simp [lpSumLog]) (fun _ _ => trivial)

/-- **`sconserve`, runs.**  From a reachable configuration in which no thread is inside a maintenance
    operation, along any schedule that invokes none, the exact cell total and the ghost `applied` both grow
    by exactly the sum of the `lp`s emitted — whatever the interleaving and every outcome of the random
    draws; and still no thread is inside a maintenance operation. -/
theorem sconserve {P : Params} (hA : P.alg = intAlg) (hn : 0 < P.n) {c0 : Config (M P)}
    (hr : Reach (M P) c0) (hq : ∀ t, inMaint (c0.l t) = false)
    (s : List (Tid × SAct)) (hs : ∀ e ∈ s, isMaintAct e.2 = false) :
    total (run (M P) c0 s).1.g = total c0.g + lpSumLog (run (M P) c0 s).2 ∧
    SG.applied (run (M P) c0 s).1.g = SG.applied c0.g + lpSumLog (run (M P) c0 s).2 ∧
    ∀ t, inMaint ((run (M P) c0 s).1.l t) = false :=
  run_ind_raw (fun _ a => isMaintAct a = false)
    (fun lg g ls => total g = total c0.g + lpSumLog lg ∧ g.applied = SG.applied c0.g + lpSumLog lg ∧
      ∀ t, inMaint (ls t) = false)
    (by
      intro lg g ls t a g' l' obs hrc hQ ha hst
      obtain ⟨h1, h2, h3⟩ := hQ
      have hI := sinv_reach P hn _ hrc
      obtain ⟨k1, k2, k3⟩ := sconserve_step hA (t := t) hI.len (hI.wf t) (h3 t) ha hst
      refine ⟨log_grow t h1 k1, log_grow t h2 k2, fun u => ?_⟩
      by_cases hu : u = t
      · subst hu; rw [upd_same]; exact k3
      · rw [upd_other _ _ _ _ hu]; exact h3 u)
    s c0 hr ⟨by simp [lpSumLog], by simp [lpSumLog], hq⟩ hs

/-- **`applied_eq_total`.**  As long as no maintenance operation has ever been invoked, the exact sum of the
    cells is the ghost `applied`, and both are the sum of the `lp`s of the log. -/
theorem applied_eq_total {P : Params} (hA : P.alg = intAlg) (hn : 0 < P.n)
    (s : List (Tid × SAct)) (hs : ∀ e ∈ s, isMaintAct e.2 = false) :
    total (run (M P) (Config.init (M P)) s).1.g = SG.applied (run (M P) (Config.init (M P)) s).1.g ∧
    SG.applied (run (M P) (Config.init (M P)) s).1.g = lpSumLog (run (M P) (Config.init (M P)) s).2 := by
  obtain ⟨h1, h2, _⟩ := sconserve hA hn Reach.init (fun _ => rfl) s hs
  have ht : total (Config.init (M P)).g = 0 := ssum_replicate_zero P.n
  have ha : SG.applied (Config.init (M P)).g = 0 := rfl
  rw [ht] at h1; rw [ha] at h2
  omega

def invVal : SL → SAct → Int
  | .idle, .add x => x
  | _, _ => 0

def pendX (l : SL) : Int := (addArg l).getD 0

def invokedSum (P : Params) : SG → (Tid → SL) → List (Tid × SAct) → Int
  | _, _, [] => 0
  | g, ls, (t, a) :: rest =>
    match step P t g (ls t) a with
    | none => invokedSum P g ls rest
    | some (g', l', _) => invVal (ls t) a + invokedSum P g' (upd ls t l') rest

def pendTo (l : Tid → SL) (N : Nat) : Int := sumTo (fun u => pendX (l u)) N

theorem pendX_entry (P : Params) (x : Int) :
    pendX (if P.draws then .addDraw x else (if P.casLoop then .addLd x 0 else .addAt x 0)) = x := by
  simp [pendX, addArg_entry]

theorem pendX_drawn (P : Params) (x : Int) (j : Nat) :
    pendX (if P.casLoop then .addLd x j else .addAt x j) = x := by
  simp [pendX, addArg_drawn]

theorem step_pending {P : Params} {t : Tid} {g : SG} {l : SL} {a : SAct} {g' : SG} {l' : SL} {obs : List Obs}
    (hs : (M P).step t g l a = some (g', l', obs)) : invVal l a + pendX l = lpSum obs + pendX l' := by
  induction sstep_of_step (t := t) hs
  case invAdd x => rw [pendX_entry]; simp [invVal, pendX, addArg, lpSum]
  case draw x w => rw [pendX_drawn]; simp [invVal, pendX, addArg, lpSum]
  all_goals simp [invVal, pendX, addArg, lpSum]

theorem pendTo_upd (l : Tid → SL) (t : Tid) (l' : SL) (N : Nat) (ht : t < N) :
    pendTo (upd l t l') N = pendTo l N + (pendX l' - pendX (l t)) := by
  unfold pendTo
  rw [← sumTo_update (fun u => pendX (l u)) N t (pendX l' - pendX (l t)) ht]
  apply sumTo_congr
  intro k _
  unfold upd
  split
  · rename_i h; subst h; omega
  · rfl

/-- accounting along a run: accepted invocations + initially pending = `lp`s + finally pending -/
theorem invoked_run {P : Params} (N : Nat) : ∀ (s : List (Tid × SAct)) (g : SG) (ls : Tid → SL),
    (∀ e ∈ s, e.1 < N) →
    ∃ (g' : SG) (ls' : Tid → SL) (lg : List (Tid × Obs)), run (M P) ⟨g, ls⟩ s = (⟨g', ls'⟩, lg) ∧
      invokedSum P g ls s + pendTo ls N = lpSumLog lg + pendTo ls' N := by
  intro s
  induction s with
  | nil => intro g ls _; exact ⟨g, ls, [], rfl, by simp [invokedSum, lpSumLog]⟩
  | cons ta rest ih =>
    intro g ls hN
    obtain ⟨t, a⟩ := ta
    have ht : t < N := hN (t, a) (List.mem_cons_self ..)
    have hrest : ∀ e ∈ rest, e.1 < N := fun e he => hN e (List.mem_cons_of_mem _ he)
    cases h : step P t g (ls t) a with
    | none =>
      obtain ⟨g2, ls2, lg2, hrun, hacc⟩ := ih g ls hrest
      refine ⟨g2, ls2, lg2, (run_cons_none (M := M P) (c := ⟨g, ls⟩) h).trans hrun, ?_⟩
      simp only [invokedSum, h]
      exact hacc
    | some r =>
      obtain ⟨g', l', obs⟩ := r
      obtain ⟨g2, ls2, lg2, hrun, hacc⟩ := ih g' (upd ls t l') hrest
      refine ⟨g2, ls2, obs.map (fun o => (t, o)) ++ lg2, run_cons_eq (M := M P) (c := ⟨g, ls⟩) h hrun, ?_⟩
      simp only [invokedSum, h]
      have h2 := step_pending (t := t) h
      have h3 := pendTo_upd ls t l' N ht
      rw [lpSumLog_append, lpSumLog_tag]
      omega

theorem pendTo_noadd (l : Tid → SL) (N : Nat) (h : ∀ u, addArg (l u) = none) : pendTo l N = 0 := by
  unfold pendTo
  rw [sumTo_congr (g := fun _ => 0) (fun k _ => by unfold pendX; rw [h k]; rfl), sumTo_zero]

/-- between two configurations in which no `Add` is in flight, the `lp`s of the log add up to exactly the
    operands of the `Add` invocations that were accepted in between: every `Add` took effect exactly once -/
theorem lp_eq_invoked_from {P : Params} (c0 : Config (M P)) (s : List (Tid × SAct))
    (hq0 : ∀ u, addArg (c0.l u) = none) (hq : ∀ u, addArg ((run (M P) c0 s).1.l u) = none) :
    lpSumLog (run (M P) c0 s).2 = invokedSum P c0.g c0.l s := by
  obtain ⟨N, hN⟩ := exists_tid_bound s
  obtain ⟨g', ls', lg, hrun, h⟩ := invoked_run (P := P) N s c0.g c0.l hN
  have hrun' : run (M P) c0 s = (⟨g', ls'⟩, lg) := hrun
  rw [hrun'] at hq ⊢
  rw [pendTo_noadd ls' N hq, pendTo_noadd c0.l N hq0] at h
  show lpSumLog lg = _
  omega

/-- Σ x over the `Add x` invocations accepted along a schedule run from the initial configuration -/
def invoked (P : Params) (s : List (Tid × SAct)) : Int :=
  invokedSum P { cells := List.replicate P.n 0 } (fun _ => SL.idle) s

abbrev STau (P : Params) (t : Tid) (k : Nat) (g : SG) (l : SL) (g' : SG) (l' : SL) (obs : List Obs) : Prop :=
  TauN (M P) SAct.tau t k g l g' l' obs

theorem STau.step1 {P : Params} {t : Tid} {g g1 : SG} {l l1 : SL} {o1 : List Obs}
    (h : SStep P g l .tau g1 l1 o1) : STau P t 1 g l g1 l1 o1 :=
  TauN.one (Mch := M P) (step_of_sstep t h)

theorem STau.cons {P : Params} {t : Tid} {k : Nat} {g g1 g2 : SG} {l l1 l2 : SL} {o2 : List Obs}
    (h : SStep P g l .tau g1 l1 []) (h2 : STau P t k g1 l1 g2 l2 o2) : STau P t (k + 1) g l g2 l2 o2 :=
  TauN.succ (Mch := M P) (o1 := []) (step_of_sstep t h) h2

theorem wrap_sacc {P : Params} (hA : P.alg = intAlg) (g : SG) (cells0 : List Int) (i : Nat) (acc : Int)
    (hcell : cellAt g i = (cells0[i]?).getD 0)
    (h : i = 0 ∨ wrap64 acc = wrap64 (cells0.take i).sum) :
    wrap64 (sacc P g i acc) = wrap64 (cells0.take (i + 1)).sum := by
  unfold sacc
  rw [hA, ssum_take_succ, ← hcell]
  simp only [intAlg]
  split
  · rename_i h0; subst h0
    rw [wrap64_idem]; simp
  · rename_i h0
    rcases h with h | h
    · exact absurd h h0
    · rw [wrap64_add']; exact wrap64_add_congr h _

theorem view_int {P : Params} (hA : P.alg = intAlg) (x : Int) : P.alg.view x = wrap64 x := by rw [hA]; rfl

theorem sum_loop_simple {P : Params} (hA : P.alg = intAlg) (t : Tid) (g : SG) (hlen : g.cells.length = P.n) :
    ∀ (k i : Nat) (acc : Int), i + k + 1 = P.n → (i = 0 ∨ wrap64 acc = wrap64 (g.cells.take i).sum) →
      STau P t (k + 1) g (.sum i acc) g .idle [.ret (some (wrap64 (total g)))] := by
  intro k
  induction k with
  | zero =>
    intro i acc hi hacc
    have h := STau.step1 (t := t) (SStep.sumRet (P := P) (g := g) i acc (by omega))
    have e : P.alg.view (sacc P g i acc) = wrap64 (total g) := by
      rw [view_int hA, wrap_sacc hA g g.cells i acc rfl hacc,
        List.take_of_length_le (by omega)]
      rfl
    rw [e] at h
    exact h
  | succ k ih =>
    intro i acc hi hacc
    exact STau.cons (SStep.sumNext i acc (by omega))
      (ih (i + 1) _ (by omega) (Or.inr (wrap_sacc hA g g.cells i acc rfl hacc)))

theorem solo_op {P : Params} {c : Config (M P)} (hr : Reach (M P) c) (t : Tid) (hidle : c.l t = SL.idle)
    {a : SAct} {l1 : SL} (hs : (M P).step t c.g SL.idle a = some (c.g, l1, []))
    {k : Nat} {g' : SG} {obs : List Obs} (hrun : STau P t k c.g l1 g' .idle obs) :
    (M P).step t c.g (c.l t) a = some (c.g, l1, []) ∧
      soloRun (M P) SAct.tau t k ⟨c.g, upd c.l t l1⟩ = (⟨g', c.l⟩, obs) ∧ Reach (M P) ⟨g', c.l⟩ := by
  have hs' : (M P).step t c.g (c.l t) a = some (c.g, l1, []) := by rw [hidle]; exact hs
  have h2 := soloRun_back hidle hrun
  exact ⟨hs', h2, solo_reach hr hs' h2⟩

/-- **C02 / C16, `Sum`.**  From a reachable configuration, `Sum` run alone by an idle thread `t` (whatever the
    other threads are in the middle of — they do not move) returns `wrap64 (total g)` after exactly `n`
    steps and restores the configuration. -/
theorem sum_solo_simple {P : Params} (hA : P.alg = intAlg) (hn : 0 < P.n) {c : Config (M P)}
    (hr : Reach (M P) c) (t : Tid) (hidle : c.l t = SL.idle) :
    (M P).step t c.g (c.l t) SAct.sum = some (c.g, SL.sum 0 0, []) ∧
      soloRun (M P) SAct.tau t P.n ⟨c.g, upd c.l t (SL.sum 0 0)⟩ =
        (c, [Obs.ret (some (wrap64 (total c.g)))]) := by
  have h := sum_loop_simple hA t c.g (sinv_reach P hn c hr).len (P.n - 1) 0 0 (by omega) (Or.inl rfl)
  rw [show P.n - 1 + 1 = P.n by omega] at h
  obtain ⟨h1, h2, _⟩ := solo_op hr t hidle (a := SAct.sum) rfl h
  exact ⟨h1, h2⟩

def filled (f : Nat → Int) (g : SG) (i : Nat) : Prop := ∀ j, j < i → g.cells[j]? = some (f j)

theorem filled_set {f : Nat → Int} {g : SG} {i : Nat} (hi : i < g.cells.length) (h : filled f g i) :
    filled f (setCell g i (f i)) (i + 1) := by
  intro j hj
  show (g.cells.set i (f i))[j]? = _
  by_cases e : i = j
  · subst e; exact List.getElem?_set_self hi
  · rw [List.getElem?_set_ne e]; exact h j (by omega)

theorem cells_of_filled {f : Nat → Int} {l T : List Int} (hl : l.length = T.length)
    (h : ∀ j, j < T.length → l[j]? = some (f j)) (hT : ∀ j, j < T.length → T[j]? = some (f j)) : l = T := by
  apply List.ext_getElem?
  intro j
  by_cases hj : j < T.length
  · rw [h j hj, hT j hj]
  · rw [List.getElem?_eq_none (by omega), List.getElem?_eq_none (by omega)]

/-- what `Store v` leaves in cell `j` -/
def storeVal (v : Int) (j : Nat) : Int := if j = 0 then v else 0

theorem store_cells {n : Nat} (hn : 0 < n) (v : Int) {l : List Int} (hl : l.length = n)
    (h : ∀ j, j < n → l[j]? = some (storeVal v j)) : l = v :: List.replicate (n - 1) 0 := by
  have hT : (v :: List.replicate (n - 1) (0 : Int)).length = n := by simp; omega
  refine cells_of_filled (f := storeVal v) (by rw [hl, hT]) (by rw [hT]; exact h) ?_
  rw [hT]
  intro j hj
  cases j with
  | zero => rfl
  | succ j => simp [storeVal, List.getElem?_replicate]; omega

theorem zero_cells {n : Nat} {l : List Int} (hl : l.length = n)
    (h : ∀ j, j < n → l[j]? = some ((fun _ => (0 : Int)) j)) : l = List.replicate n 0 := by
  have hT : (List.replicate n (0 : Int)).length = n := by simp
  refine cells_of_filled (f := fun _ => 0) (by rw [hl, hT]) (by rw [hT]; exact h) ?_
  rw [hT]
  intro j hj
  simp [hj]

/-- a loop that writes `f i` into cell `i`, one step per cell, and responds after the last one (`Store`: cells
    `v, 0, …`; `Reset`: all `0`) -/
theorem fill_loop {P : Params} (t : Tid) (f : Nat → Int) (pc : Nat → SL)
    (hnext : ∀ g i, i + 1 < P.n → SStep P g (pc i) .tau (setCell g i (f i)) (pc (i + 1)) [])
    (hret : ∀ g i, ¬ i + 1 < P.n → SStep P g (pc i) .tau (setCell g i (f i)) .idle [.ret none]) :
    ∀ (k i : Nat) (g : SG), i + k + 1 = P.n → g.cells.length = P.n → filled f g i →
      ∃ g', STau P t (k + 1) g (pc i) g' .idle [.ret none] ∧ g'.cells.length = P.n ∧
        filled f g' P.n ∧ g'.applied = g.applied := by
  intro k
  induction k with
  | zero =>
    intro i g hi hlen hf
    refine ⟨setCell g i (f i), STau.step1 (hret g i (by omega)), ?_, ?_, rfl⟩
    · rw [length_setCell, hlen]
    · have := filled_set (f := f) (i := i) (by omega) hf
      rwa [show i + 1 = P.n by omega] at this
  | succ k ih =>
    intro i g hi hlen hf
    obtain ⟨g', h1, h2, h3, h4⟩ := ih (i + 1) (setCell g i (f i)) (by omega)
      (by rw [length_setCell, hlen]) (filled_set (by omega) hf)
    exact ⟨g', STau.cons (hnext g i (by omega)) h1, h2, h3, h4⟩

theorem cellAt_setCell_ne (g : SG) {i j : Nat} (v : Int) (h : i ≠ j) : (setCell g i v).cells[j]? = g.cells[j]? :=
  List.getElem?_set_ne h

theorem sar_loop_simple {P : Params} (hA : P.alg = intAlg) (t : Tid) (g0 : SG) :
    ∀ (k i : Nat) (acc : Int) (g : SG), i + k + 1 = P.n → g.cells.length = P.n → filled (fun _ => 0) g i →
      (∀ j, i ≤ j → g.cells[j]? = g0.cells[j]?) → (i = 0 ∨ wrap64 acc = wrap64 (g0.cells.take i).sum) →
      ∃ g', STau P t (2 * (k + 1)) g (.sarLd i acc) g' .idle
          [.ret (some (wrap64 (g0.cells.take P.n).sum))] ∧
        g'.cells.length = P.n ∧ filled (fun _ => 0) g' P.n ∧ g'.applied = g.applied := by
  intro k
  induction k with
  | zero =>
    intro i acc g hi hlen hf hrest hacc
    have hcell : cellAt g i = (g0.cells[i]?).getD 0 := by unfold cellAt; rw [hrest i (Nat.le_refl _)]
    have h1 : SStep P g (.sarLd i acc) .tau g (.sarSt i (sacc P g i acc)) [] := .sarLd i acc
    have h2 := STau.step1 (t := t) (SStep.sarStRet (P := P) (g := g) i (sacc P g i acc) (by omega))
    have e : P.alg.view (sacc P g i acc) = wrap64 (g0.cells.take P.n).sum := by
      rw [view_int hA, wrap_sacc hA g g0.cells i acc hcell hacc, show i + 1 = P.n by omega]
    rw [e] at h2
    refine ⟨setCell g i 0, STau.cons h1 h2, ?_, ?_, rfl⟩
    · rw [length_setCell, hlen]
    · have := filled_set (f := fun _ => 0) (i := i) (by omega) hf
      rwa [show i + 1 = P.n by omega] at this
  | succ k ih =>
    intro i acc g hi hlen hf hrest hacc
    have hcell : cellAt g i = (g0.cells[i]?).getD 0 := by unfold cellAt; rw [hrest i (Nat.le_refl _)]
    have h1 : SStep P g (.sarLd i acc) .tau g (.sarSt i (sacc P g i acc)) [] := .sarLd i acc
    have h2 : SStep P g (.sarSt i (sacc P g i acc)) .tau (setCell g i 0) (.sarLd (i + 1) (sacc P g i acc)) [] :=
      .sarStNext i _ (by omega)
    obtain ⟨g', k1, k2, k3, k4⟩ := ih (i + 1) (sacc P g i acc) (setCell g i 0) (by omega)
      (by rw [length_setCell, hlen]) (filled_set (f := fun _ => 0) (by omega) hf)
      (fun j hj => by rw [cellAt_setCell_ne g 0 (by omega)]; exact hrest j (by omega))
      (Or.inr (wrap_sacc hA g g0.cells i acc hcell hacc))
    have e : 2 * (k + 1 + 1) = 2 * (k + 1) + 1 + 1 := by omega
    rw [e]
    exact ⟨g', STau.cons h1 (STau.cons h2 k1), k2, k3, k4⟩

theorem total_store_cells (n : Nat) (v : Int) : (v :: List.replicate n (0 : Int)).sum = v := by
  rw [List.sum_cons, ssum_replicate_zero]; omega

/-- **C16, `Store`.**  From a reachable all-idle configuration, `Store v` run alone takes exactly `n` steps
    and ends in a reachable all-idle configuration whose cells are `v, 0, …, 0` — exact total `v`.
    (The ghost `applied` tracks updates only and is not touched.) -/
theorem store_solo_simple {P : Params} (hn : 0 < P.n) {c : Config (M P)} (hr : Reach (M P) c)
    (hidle : ∀ u, c.l u = SL.idle) (t : Tid) (v : Int) :
    (M P).step t c.g (c.l t) (SAct.store v) = some (c.g, SL.store 0 v, []) ∧
      ∃ c', soloRun (M P) SAct.tau t P.n ⟨c.g, upd c.l t (SL.store 0 v)⟩ = (c', [Obs.ret none]) ∧
        Reach (M P) c' ∧ (∀ u, c'.l u = SL.idle) ∧
        SG.cells c'.g = v :: List.replicate (P.n - 1) 0 ∧ total c'.g = v ∧ SG.applied c'.g = SG.applied c.g := by
  obtain ⟨g', h1, h2, h3, h4⟩ := fill_loop (P := P) t (storeVal v) (fun i => .store i v)
    (fun _ i h => .storeNext i v h) (fun _ i h => .storeRet i v h) (P.n - 1) 0 c.g (by omega)
    (sinv_reach P hn c hr).len (fun j hj => absurd hj (Nat.not_lt_zero j))
  rw [show P.n - 1 + 1 = P.n by omega] at h1
  obtain ⟨k1, k2, k3⟩ := solo_op hr t (hidle t) (a := SAct.store v) rfl h1
  have hc := store_cells hn v h2 h3
  exact ⟨k1, ⟨g', c.l⟩, k2, k3, hidle, hc, by unfold total; rw [hc, total_store_cells], h4⟩

/-- **C16, `Reset`.**  Run alone from a reachable all-idle configuration: `n` steps, all cells zero afterwards. -/
theorem reset_solo_simple {P : Params} (hn : 0 < P.n) {c : Config (M P)} (hr : Reach (M P) c)
    (hidle : ∀ u, c.l u = SL.idle) (t : Tid) :
    (M P).step t c.g (c.l t) SAct.reset = some (c.g, SL.reset 0, []) ∧
      ∃ c', soloRun (M P) SAct.tau t P.n ⟨c.g, upd c.l t (SL.reset 0)⟩ = (c', [Obs.ret none]) ∧
        Reach (M P) c' ∧ (∀ u, c'.l u = SL.idle) ∧
        SG.cells c'.g = List.replicate P.n 0 ∧ total c'.g = 0 ∧ SG.applied c'.g = SG.applied c.g := by
  obtain ⟨g', h1, h2, h3, h4⟩ := fill_loop (P := P) t (fun _ => 0) SL.reset
    (fun _ i h => .resetNext i h) (fun _ i h => .resetRet i h) (P.n - 1) 0 c.g (by omega)
    (sinv_reach P hn c hr).len (fun j hj => absurd hj (Nat.not_lt_zero j))
  rw [show P.n - 1 + 1 = P.n by omega] at h1
  obtain ⟨k1, k2, k3⟩ := solo_op hr t (hidle t) (a := SAct.reset) rfl h1
  have hc := zero_cells h2 h3
  exact ⟨k1, ⟨g', c.l⟩, k2, k3, hidle, hc, by unfold total; rw [hc, ssum_replicate_zero], h4⟩

/-- **C16, `SumAndReset`.**  Run alone from a reachable all-idle configuration: `2n` steps, returns
    `wrap64 (total g)` and leaves all cells zero. -/
theorem sumAndReset_solo_simple {P : Params} (hA : P.alg = intAlg) (hn : 0 < P.n) {c : Config (M P)}
    (hr : Reach (M P) c) (hidle : ∀ u, c.l u = SL.idle) (t : Tid) :
    (M P).step t c.g (c.l t) SAct.sumAndReset = some (c.g, SL.sarLd 0 0, []) ∧
      ∃ c', soloRun (M P) SAct.tau t (2 * P.n) ⟨c.g, upd c.l t (SL.sarLd 0 0)⟩ =
          (c', [Obs.ret (some (wrap64 (total c.g)))]) ∧
        Reach (M P) c' ∧ (∀ u, c'.l u = SL.idle) ∧
        SG.cells c'.g = List.replicate P.n 0 ∧ total c'.g = 0 ∧ SG.applied c'.g = SG.applied c.g := by
  have hlen := (sinv_reach P hn c hr).len
  obtain ⟨g', h1, h2, h3, h4⟩ := sar_loop_simple hA t c.g (P.n - 1) 0 0 c.g (by omega) hlen
    (fun j hj => absurd hj (Nat.not_lt_zero j)) (fun _ _ => rfl) (Or.inl rfl)
  rw [show P.n - 1 + 1 = P.n by omega, List.take_of_length_le (by omega)] at h1
  obtain ⟨k1, k2, k3⟩ := solo_op hr t (hidle t) (a := SAct.sumAndReset) rfl h1
  have hc := zero_cells h2 h3
  exact ⟨k1, ⟨g', c.l⟩, k2, k3, hidle, hc, by unfold total; rw [hc, ssum_replicate_zero], h4⟩

/-- the schedule of one `Add x` by thread `t` running alone: invocation, the random draw (outcome `w`) if the
    variant draws, then the `atomic.AddInt64` — or, for the CAS loop, the load and the CAS -/
def addSched (P : Params) (t : Tid) (x : Int) (w : Nat) : List (Tid × SAct) :=
  (t, .add x) :: ((if P.draws then [(t, .rnd w)] else []) ++
    (if P.casLoop then [(t, .tau), (t, .tau)] else [(t, .tau)]))

theorem srun_step {P : Params} {g : SG} {ls : Tid → SL} {t : Tid} {a : SAct} {rest : List (Tid × SAct)}
    {g' : SG} {l' : SL} {obs : List Obs} {c2 : Config (M P)} {lg2 : List (Tid × Obs)}
    (h : SStep P g (ls t) a g' l' obs) (hrun : run (M P) ⟨g', upd ls t l'⟩ rest = (c2, lg2)) :
    run (M P) ⟨g, ls⟩ ((t, a) :: rest) = (c2, obs.map (fun o => (t, o)) ++ lg2) :=
  run_cons_eq (M := M P) (c := ⟨g, ls⟩) (step_of_sstep t h) hrun

theorem add_effect_solo {P : Params} (g : SG) (ls : Tid → SL) (t : Tid) (x : Int) (j : Nat)
    (hl : ls t = if P.casLoop then .addLd x j else .addAt x j) :
    run (M P) ⟨g, ls⟩ (if P.casLoop then [(t, .tau), (t, .tau)] else [(t, .tau)]) =
      (⟨applyAdd P g j x, upd ls t .idle⟩, [(t, .lp x), (t, .ret none)]) := by
  cases hc : P.casLoop
  · rw [hc] at hl
    have e : SStep P g (ls t) .tau (applyAdd P g j x) .idle [.lp x, .ret none] := by
      rw [hl]; exact .addAt x j
    exact srun_step (rest := []) e rfl
  · rw [hc] at hl
    have e1 : SStep P g (ls t) .tau g (.addCas x j (P.alg.view (cellAt g j))) [] := by
      rw [hl]; exact .addLd x j
    have e2 : SStep P g (upd ls t (.addCas x j (P.alg.view (cellAt g j))) t) .tau (applyAdd P g j x) .idle
        [.lp x, .ret none] := by
      rw [upd_same]; exact .casOk x j _ rfl
    have h2 : run (M P) ⟨g, upd ls t (.addCas x j (P.alg.view (cellAt g j)))⟩ [(t, .tau)] = _ :=
      srun_step (rest := []) e2 rfl
    exact (srun_step e1 h2).trans (solo_result_eq rfl (upd_upd _ _ _ _) rfl)

theorem add_solo_raw {P : Params} (hn : 0 < P.n) (g : SG) (ls : Tid → SL) (t : Tid) (ht : ls t = SL.idle)
    (x : Int) (w : Nat) :
    ∃ j, j < P.n ∧
      run (M P) ⟨g, ls⟩ (addSched P t x w) = (⟨applyAdd P g j x, ls⟩, [(t, Obs.lp x), (t, Obs.ret none)]) := by
  unfold addSched
  cases hd : P.draws
  · refine ⟨0, hn, ?_⟩
    have e1 : SStep P g (ls t) (.add x) g (if P.casLoop then .addLd x 0 else .addAt x 0) [] := by
      rw [ht]; have := SStep.invAdd (P := P) (g := g) x; rw [hd] at this; exact this
    have h2 := add_effect_solo (P := P) g (upd ls t (if P.casLoop then .addLd x 0 else .addAt x 0)) t x 0
      (upd_same _ _ _)
    exact (srun_step e1 h2).trans (solo_result_eq rfl (upd_back _ _ _ _ ht) rfl)
  · refine ⟨rint w % P.n, Nat.mod_lt _ hn, ?_⟩
    have e1 : SStep P g (ls t) (.add x) g (.addDraw x) [] := by
      rw [ht]; have := SStep.invAdd (P := P) (g := g) x; rw [hd] at this; exact this
    have e2 : SStep P g (upd ls t (.addDraw x) t) (.rnd w) g
        (if P.casLoop then .addLd x (rint w % P.n) else .addAt x (rint w % P.n)) [] := by
      rw [upd_same]; exact .draw x w
    have h3 := add_effect_solo (P := P) g
      (upd (upd ls t (.addDraw x)) t (if P.casLoop then .addLd x (rint w % P.n) else .addAt x (rint w % P.n)))
      t x (rint w % P.n) (upd_same _ _ _)
    have hb : ∀ (a b : SL), upd (upd (upd ls t a) t b) t SL.idle = ls := by
      intro a b; rw [upd_upd, upd_back _ _ _ _ ht]
    exact (srun_step e1 (srun_step e2 h3)).trans (solo_result_eq rfl (hb _ _) rfl)

/-- **`Add` run alone** (any value algebra): from a configuration in which `t` is idle, the schedule
    `addSched P t x w` applies `alg.add · x` to one cell `j < n` (cell `rint w % n` if the variant draws, cell 0
    otherwise), emits `lp x` and the response, and leaves every thread's locals as they were. -/
theorem add_solo_simple {P : Params} (hn : 0 < P.n) (c : Config (M P)) (t : Tid) (ht : c.l t = SL.idle)
    (x : Int) (w : Nat) :
    ∃ j, j < P.n ∧
      run (M P) c (addSched P t x w) = (⟨applyAdd P c.g j x, c.l⟩, [(t, Obs.lp x), (t, Obs.ret none)]) :=
  add_solo_raw hn c.g c.l t ht x w

end Garr.Adder.Simple
