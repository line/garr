import Garr.Adder.Inv
/-!
# Solo runs of `Sum`, `Store`, `Reset`, `SumAndReset` from a quiescent configuration (C02 / C16)

The first two sections are about any `Machine`: `soloTau` is one `tau` step of a thread, `soloRun` iterates it
and concatenates the observations, `TauN` is the thread-level view of such a run, `run_invoke_solo` turns an
invocation followed by a solo run into a schedule, and `solo_reach` keeps reachability along it.
The control flow of `Sum` and `Store` never inspects the value algebra, so the two phases are followed once
for any `alg` (`sum_phase`: the accumulator ends as `sumRes alg g`, base and then every occupied slot from left
to right; `store_phase`: the heap ends as `stored g x`); `sum_solo_any`, `store_solo_any`,
`sumAndReset_solo_any` are the runs from a configuration that satisfies the structural invariant with every
thread idle.  For the integer adder the runs start from a reachable configuration in which every thread is
idle (`sum_solo`, `store_solo`, `reset_solo`, `sumAndReset_solo`).
-/
namespace Garr.Adder
open Garr.Conc

section Generic
variable (Mch : Machine) (tau : Mch.Act)

def soloTau (t : Tid) (c : Config Mch) : Config Mch × List Mch.Obs :=
  match Mch.step t c.g (c.l t) tau with
  | none => (c, [])
  | some (g', l', obs) => (⟨g', upd c.l t l'⟩, obs)

def soloRun (t : Tid) : Nat → Config Mch → Config Mch × List Mch.Obs
  | 0, c => (c, [])
  | k+1, c => ((soloRun t k (soloTau Mch tau t c).1).1, (soloTau Mch tau t c).2 ++ (soloRun t k (soloTau Mch tau t c).1).2)

theorem reach_soloTau {t : Tid} {c : Config Mch} (h : Reach Mch c) : Reach Mch (soloTau Mch tau t c).1 := by
  unfold soloTau
  split
  · exact h
  · rename_i g' l' obs hs
    exact Reach.step h hs

theorem reach_soloRun {t : Tid} (k : Nat) : ∀ {c : Config Mch}, Reach Mch c → Reach Mch (soloRun Mch tau t k c).1 := by
  induction k with
  | zero => intro c h; exact h
  | succ k ih => intro c h; exact ih (reach_soloTau Mch tau h)

inductive TauN (t : Tid) : Nat → Mch.G → Mch.L → Mch.G → Mch.L → List Mch.Obs → Prop
  | zero (g : Mch.G) (l : Mch.L) : TauN t 0 g l g l []
  | succ {k : Nat} {g : Mch.G} {l : Mch.L} {g1 : Mch.G} {l1 : Mch.L} {o1 : List Mch.Obs} {g2 : Mch.G} {l2 : Mch.L}
      {o2 : List Mch.Obs} :
      Mch.step t g l tau = some (g1, l1, o1) → TauN t k g1 l1 g2 l2 o2 → TauN t (k+1) g l g2 l2 (o1 ++ o2)

variable {Mch tau}

theorem TauN.one {t : Tid} {g : Mch.G} {l : Mch.L} {g1 : Mch.G} {l1 : Mch.L} {o1 : List Mch.Obs}
    (h : Mch.step t g l tau = some (g1, l1, o1)) : TauN Mch tau t 1 g l g1 l1 o1 := by
  have := TauN.succ h (TauN.zero g1 l1)
  rwa [List.append_nil] at this

theorem TauN.trans {t : Tid} {k1 k2 : Nat} {g g1 g2 : Mch.G} {l l1 l2 : Mch.L} {o1 o2 : List Mch.Obs}
    (h1 : TauN Mch tau t k1 g l g1 l1 o1) (h2 : TauN Mch tau t k2 g1 l1 g2 l2 o2) :
    TauN Mch tau t (k2 + k1) g l g2 l2 (o1 ++ o2) := by
  induction h1 with
  | zero g l => exact h2
  | succ hs _ ih =>
    rw [List.append_assoc]
    exact TauN.succ hs (ih h2)

theorem soloRun_of_TauN {t : Tid} {k : Nat} {g g' : Mch.G} {l l' : Mch.L} {obs : List Mch.Obs}
    (h : TauN Mch tau t k g l g' l' obs) :
    ∀ (gc : Mch.G) (lc : Tid → Mch.L), gc = g → lc t = l →
      soloRun Mch tau t k ⟨gc, lc⟩ = (⟨g', upd lc t l'⟩, obs) := by
  induction h with
  | zero g l =>
    intro gc lc hg hl
    subst hg hl
    simp only [soloRun, upd_self]
  | @succ k g l g1 l1 o1 g2 l2 o2 hs _ ih =>
    intro gc lc hg hl
    subst hg hl
    have hst : soloTau Mch tau t ⟨gc, lc⟩ = (⟨g1, upd lc t l1⟩, o1) := by
      simp only [soloTau, hs]
    simp only [soloRun, hst]
    rw [ih g1 (upd lc t l1) rfl (upd_same _ _ _), upd_upd]

theorem soloRun_back {t : Tid} {k : Nat} {g1 g' : Mch.G} {l : Tid → Mch.L} {l1 l' : Mch.L} {obs : List Mch.Obs}
    (hl : l t = l') (h : TauN Mch tau t k g1 l1 g' l' obs) :
    soloRun Mch tau t k ⟨g1, upd l t l1⟩ = (⟨g', l⟩, obs) := by
  subst hl
  rw [soloRun_of_TauN h g1 (upd l t l1) rfl (upd_same _ _ _), upd_upd, upd_self]

end Generic

theorem solo_result_eq {Mch : Machine} {β : Type} {g g' : Mch.G} {l l' : Tid → Mch.L} {o o' : β}
    (hg : g = g') (hl : l = l') (ho : o = o') : ((⟨g, l⟩ : Config Mch), o) = (⟨g', l'⟩, o') := by
  subst hg hl ho; rfl

theorem run_replicate_tau (Mch : Machine) (tau : Mch.Act) (t : Tid) : ∀ (k : Nat) (c : Config Mch),
    run Mch c (List.replicate k (t, tau)) =
      ((soloRun Mch tau t k c).1, (soloRun Mch tau t k c).2.map (fun o => (t, o))) := by
  intro k
  induction k with
  | zero => intro c; rfl
  | succ k ih =>
    intro c
    rw [List.replicate_succ]
    cases h : Mch.step t c.g (c.l t) tau with
    | none =>
      have e : soloTau Mch tau t c = (c, []) := by simp only [soloTau, h]
      rw [run_cons_none h, ih c]
      simp only [soloRun, e, List.nil_append]
    | some r =>
      obtain ⟨g', l', obs⟩ := r
      have e : soloTau Mch tau t c = (⟨g', upd c.l t l'⟩, obs) := by simp only [soloTau, h]
      rw [run_cons_some h, ih _]
      simp only [soloRun, e, List.map_append]

theorem run_invoke_solo {Mch : Machine} {tau : Mch.Act} {c : Config Mch} {t : Tid} {a : Mch.Act}
    {g1 : Mch.G} {l1 : Mch.L} {k : Nat} {c' : Config Mch} {obs : List Mch.Obs}
    (hs : Mch.step t c.g (c.l t) a = some (g1, l1, []))
    (hrun : soloRun Mch tau t k ⟨g1, upd c.l t l1⟩ = (c', obs)) :
    run Mch c ((t, a) :: List.replicate k (t, tau)) = (c', obs.map (fun o => (t, o))) := by
  have h := run_replicate_tau Mch tau t k ⟨g1, upd c.l t l1⟩
  rw [hrun] at h
  exact run_cons_eq hs h

theorem solo_reach {Mch : Machine} {tau : Mch.Act} {c : Config Mch} (hr : Reach Mch c)
    {t : Tid} {a : Mch.Act} {g1 : Mch.G} {l1 : Mch.L} {k : Nat} {g' : Mch.G} {obs : List Mch.Obs}
    (hs : Mch.step t c.g (c.l t) a = some (g1, l1, []))
    (hrun : soloRun Mch tau t k ⟨g1, upd c.l t l1⟩ = (⟨g', c.l⟩, obs)) : Reach Mch ⟨g', c.l⟩ := by
  have := reach_soloRun Mch tau (t := t) k (Reach.step hr hs)
  rw [hrun] at this
  exact this

abbrev ATau (alg : Alg) (mc : Nat) (t : Tid) (k : Nat) (g : G) (l : L) (g' : G) (l' : L) (obs : List Obs) : Prop :=
  TauN (M alg mc) Act.tau t k g l g' l' obs

theorem step_tau {alg : Alg} {mc : Nat} {t : Tid} {g : G} {pc : PC} {v : V} {R : G × L × List Obs}
    (hd : draws pc = false) (h : stepRun alg mc t g pc v 0 = R) :
    (M alg mc).step t g (.run pc v) Act.tau = some R := by
  show step alg mc t g (.run pc v) Act.tau = _
  simp [step, hd, h]

theorem step_reset (alg : Alg) (mc : Nat) (t : Tid) (g : G) (l : L) :
    (M alg mc).step t g l Act.reset = (M alg mc).step t g l (Act.store 0) := by
  cases l <;> rfl

def tlen (g : G) : Nat := match g.tbl with | none => 0 | some tb => tb.2

/-- the accumulator of `Sum` after the `n` slots starting at slot `i` of a backing array with slots `slot` -/
def accFrom (alg : Alg) (slot : Nat → Option Nat) (cell : Nat → Int) : Nat → Nat → Int → Int
  | 0, _, acc => acc
  | n+1, i, acc =>
    accFrom alg slot cell n (i+1) (match slot i with | none => acc | some c => alg.add acc (alg.view (cell c)))

/-- the accumulator of `Sum` running alone when it has read everything: `base`, then the cell of every
    occupied slot of the published table added from left to right -/
def sumRes (alg : Alg) (g : G) : Int :=
  match g.tbl with
  | none => alg.view g.base
  | some tb => accFrom alg (g.arr tb.1).slot g.cell tb.2 0 (alg.view g.base)

/-- how the `Sum` phase ends: the response of `Sum`, or the hand-over to the `Store 0` half of `SumAndReset` -/
inductive SumExit (alg : Alg) (t : Tid) (g : G) (sar mnt : Bool) (acc : Int) : G → L → List Obs → Prop
  | ret (v' : V) : sar = false → v'.mnt = mnt →
      SumExit alg t g sar mnt acc (leave t g v') .idle [.ret (some (alg.view acc))]
  | cont (v' : V) : sar = true → v'.x = 0 → v'.acc = acc → v'.sar = true → v'.mnt = mnt →
      SumExit alg t g sar mnt acc g (.run .t0 v') []

def SumRuns (alg : Alg) (mc : Nat) (t : Tid) (g : G) (K : Nat) (l : L) (sar mnt : Bool) (acc : Int) : Prop :=
  ∃ k g' l' obs, k ≤ K ∧ ATau alg mc t k g l g' l' obs ∧ SumExit alg t g sar mnt acc g' l' obs

def sumNext (alg : Alg) (t : Tid) (g : G) (u : V) : G × L × List Obs :=
  if u.i + 1 < u.as.2 then (g, .run .s2 { u with i := u.i + 1 }, [])
  else if u.sar then (g, .run .t0 { u with x := 0 }, [])
  else (leave t g u, .idle, [.ret (some (alg.view u.acc))])

section Phases
variable {alg : Alg} {mc : Nat} {t : Tid} {g : G} {w : Nat}

theorem stepRun_s2_none {v : V} (h : (g.arr v.as.1).slot v.i = none) :
    stepRun alg mc t g .s2 v w = sumNext alg t g v := by
  simp only [stepRun, slotAt, h, sumNext]

theorem stepRun_s2_some {v : V} {c : Nat} (h : (g.arr v.as.1).slot v.i = some c) :
    stepRun alg mc t g .s2 v w = (g, .run .s3 { v with a := c }, []) := by
  simp only [stepRun, slotAt, h]

theorem stepRun_s3 {v : V} :
    stepRun alg mc t g .s3 v w = sumNext alg t g { v with acc := alg.add v.acc (alg.view (g.cell v.a)) } := by
  simp only [stepRun, sumNext, leave]

theorem SumRuns.prepend {K : Nat} {l l1 : L} {sar mnt : Bool} {acc : Int}
    (hs : (M alg mc).step t g l Act.tau = some (g, l1, [])) (h : SumRuns alg mc t g K l1 sar mnt acc) :
    SumRuns alg mc t g (K + 1) l sar mnt acc := by
  obtain ⟨k, g', l', obs, hk, hr, he⟩ := h
  exact ⟨k + 1, g', l', obs, by omega, TauN.succ hs hr, he⟩

theorem SumRuns.weaken {K K' : Nat} {l : L} {sar mnt : Bool} {acc : Int}
    (h : SumRuns alg mc t g K l sar mnt acc) (hK : K ≤ K') : SumRuns alg mc t g K' l sar mnt acc := by
  obtain ⟨k, g', l', obs, hk, hr, he⟩ := h
  exact ⟨k, g', l', obs, by omega, hr, he⟩

theorem sum_exit {u : V} {l0 : L}
    (hs : (M alg mc).step t g l0 Act.tau = some (if u.sar then (g, .run .t0 { u with x := 0 }, [])
      else (leave t g u, .idle, [.ret (some (alg.view u.acc))]))) :
    SumRuns alg mc t g 1 l0 u.sar u.mnt u.acc := by
  cases hsar : u.sar
  · rw [if_neg (by rw [hsar]; exact Bool.false_ne_true)] at hs
    exact ⟨1, _, _, _, Nat.le_refl _, TauN.one hs, .ret u rfl rfl⟩
  · rw [if_pos hsar] at hs
    exact ⟨1, _, _, _, Nat.le_refl _, TauN.one hs, .cont { u with x := 0 } rfl rfl rfl hsar rfl⟩

theorem sum_next {n K : Nat} {u : V} {l0 : L}
    (hs : (M alg mc).step t g l0 Act.tau = some (sumNext alg t g u)) (hn : u.i + 1 + n = u.as.2)
    (ih : 0 < n → SumRuns alg mc t g K (.run .s2 { u with i := u.i + 1 }) u.sar u.mnt
      (accFrom alg (g.arr u.as.1).slot g.cell n (u.i + 1) u.acc)) :
    SumRuns alg mc t g (K + 1) l0 u.sar u.mnt (accFrom alg (g.arr u.as.1).slot g.cell n (u.i + 1) u.acc) := by
  cases n with
  | zero =>
    unfold sumNext at hs
    rw [if_neg (by omega)] at hs
    exact (sum_exit hs).weaken (by omega)
  | succ n =>
    unfold sumNext at hs
    rw [if_pos (by omega)] at hs
    exact SumRuns.prepend hs (ih (Nat.succ_pos n))

variable (alg mc t g) in
/-- the `s2`/`s3` loop: from slot `v.i` with `n` slots to go, one or two steps per slot -/
theorem sum_loop : ∀ (n : Nat) (v : V), v.i + n = v.as.2 → 0 < n →
    SumRuns alg mc t g (2 * n) (.run .s2 v) v.sar v.mnt (accFrom alg (g.arr v.as.1).slot g.cell n v.i v.acc) := by
  intro n
  induction n with
  | zero => intro v _ h; cases h
  | succ n ih =>
    intro v hlen _
    cases hsl : (g.arr v.as.1).slot v.i with
    | none =>
      simp only [accFrom, hsl]
      exact (sum_next (step_tau rfl (stepRun_s2_none hsl)) (by omega)
        fun hn => ih { v with i := v.i + 1 } (by show v.i + 1 + n = v.as.2; omega) hn).weaken (by omega)
    | some c =>
      simp only [accFrom, hsl]
      exact (SumRuns.prepend (step_tau rfl (stepRun_s2_some hsl))
        (sum_next (u := { v with a := c, acc := alg.add v.acc (alg.view (g.cell c)) })
          (step_tau rfl stepRun_s3) (by show v.i + 1 + n = v.as.2; omega)
          fun hn => ih { v with a := c, acc := alg.add v.acc (alg.view (g.cell c)), i := v.i + 1 }
            (by show v.i + 1 + n = v.as.2; omega) hn)).weaken (by omega)

theorem stepRun_s0 {v : V} :
    stepRun alg mc t g .s0 v w = (g, .run .s1 { v with acc := alg.view g.base }, []) := by
  simp only [stepRun]

theorem stepRun_s1_none {v : V} (h : g.tbl = none) :
    stepRun alg mc t g .s1 v w =
      if v.sar then (g, .run .t0 { v with x := 0 }, []) else (leave t g v, .idle, [.ret (some (alg.view v.acc))]) := by
  simp only [stepRun, h]

theorem stepRun_s1_some {v : V} {tb : Tbl} (h : g.tbl = some tb) :
    stepRun alg mc t g .s1 v w = (g, .run .s2 { v with as := tb, i := 0 }, []) := by
  simp only [stepRun, h]

theorem sum_phase (hG : Float.TInv g) (v : V) :
    SumRuns alg mc t g (2 * tlen g + 2) (.run .s0 v) v.sar v.mnt (sumRes alg g) := by
  refine SumRuns.prepend (step_tau rfl stepRun_s0) ?_
  unfold sumRes tlen
  cases htb : g.tbl with
  | none => exact sum_exit (step_tau rfl (stepRun_s1_none htb))
  | some tb =>
    have hlen := (hG.tbl_wf tb.1 tb.2 htb).2.1
    exact SumRuns.prepend (step_tau rfl (stepRun_s1_some htb))
      (sum_loop alg mc t g tb.2 _ (by show 0 + tb.2 = tb.2; omega) (by omega))

/-- the heap after the accesses of `Store x`: `base := x`, then a fresh table of zero cells if there is one -/
def stored (g : G) (x : Int) : G :=
  match g.tbl with
  | none => storeBase g x
  | some tb => storeTable (storeBase g x) tb.2

theorem stored_quiet (g : G) (a : List Nat) (m : Bool) (x : Int) :
    ({ stored { g with actv := a, maint := m } x with actv := [], maint := false } : G) =
      { stored g x with actv := [], maint := false } := by
  obtain ⟨b, bu, n, ar, tb, nc, ce, ap, ac, ma⟩ := g
  cases tb <;> rfl

theorem stored_base (g : G) (x : Int) : (stored g x).base = x := by
  unfold stored
  cases g.tbl <;> rfl

theorem stored_cell {g : G} (hG : Float.TInv g) (x : Int) :
    ∀ k, k < (stored g x).ncell → (stored g x).cell k = 0 := by
  unfold stored
  cases htb : g.tbl with
  | none =>
    intro k hk
    have hk : k < g.ncell := hk
    rw [Float.tinv_ncell0 hG htb] at hk
    exact absurd hk (Nat.not_lt_zero k)
  | some tb => intro k _; rfl

theorem stepRun_t0 {v : V} :
    stepRun alg mc t g .t0 v w = (storeBase g v.x, .run .t1 v, []) := by
  simp only [stepRun]

theorem stepRun_t1_none {v : V} (h : g.tbl = none) :
    stepRun alg mc t g .t1 v w =
      (leave t g v, .idle, [.ret (if v.sar then some (alg.view v.acc) else none)]) := by
  simp only [stepRun, h]

theorem stepRun_t1_some {v : V} {tb : Tbl} (h : g.tbl = some tb) :
    stepRun alg mc t g .t1 v w = (g, .run .t2 { v with as := tb, i := 0 }, []) := by
  simp only [stepRun, h]

theorem stepRun_t2_lt {v : V} (h : v.i + 1 < v.as.2) :
    stepRun alg mc t g .t2 v w = (g, .run .t2 { v with i := v.i + 1 }, []) := by
  simp only [stepRun, if_pos h]

theorem stepRun_t2_ge {v : V} (h : ¬ v.i + 1 < v.as.2) :
    stepRun alg mc t g .t2 v w = (g, .run .t3 v, []) := by
  simp only [stepRun, if_neg h]

theorem stepRun_t3 {v : V} :
    stepRun alg mc t g .t3 v w =
      (leave t (storeTable g v.as.2) v, .idle, [.ret (if v.sar then some (alg.view v.acc) else none)]) := by
  simp only [stepRun]

variable (alg mc t g) in
theorem store_loop : ∀ (n : Nat) (v : V), v.i + n + 1 = v.as.2 →
    ∃ i', ATau alg mc t (n + 1) g (.run .t2 v) g (.run .t3 { v with i := i' }) [] := by
  intro n
  induction n with
  | zero =>
    intro v h
    exact ⟨v.i, TauN.one (step_tau rfl (stepRun_t2_ge (by omega)))⟩
  | succ n ih =>
    intro v h
    obtain ⟨i', hr⟩ := ih { v with i := v.i + 1 } (by show v.i + 1 + n + 1 = v.as.2; omega)
    exact ⟨i', TauN.succ (step_tau rfl (stepRun_t2_lt (by omega))) hr⟩

theorem leave_mnt {g : G} {v : V} (t : Tid) (h : v.mnt = true) : leave t g v = { g with actv := [], maint := false } := by
  unfold leave; rw [if_pos h]

theorem store_phase (hG : Float.TInv g) (v : V) (hm : v.mnt = true) :
    ∃ k, k ≤ tlen g + 3 ∧
      ATau alg mc t k g (.run .t0 v) { stored g v.x with actv := [], maint := false } .idle
        [.ret (if v.sar then some (alg.view v.acc) else none)] := by
  have h0 := step_tau (alg := alg) (mc := mc) (t := t) (g := g) (v := v) rfl stepRun_t0
  unfold stored tlen
  cases htb : g.tbl with
  | none =>
    have h1 := step_tau (alg := alg) (mc := mc) (t := t) (v := v) rfl (stepRun_t1_none (g := storeBase g v.x) htb)
    rw [leave_mnt t hm] at h1
    exact ⟨2, by omega, TauN.succ h0 (TauN.one h1)⟩
  | some tb =>
    have hlen := (hG.tbl_wf tb.1 tb.2 htb).2.1
    have h1 := step_tau (alg := alg) (mc := mc) (t := t) (v := v) rfl (stepRun_t1_some (g := storeBase g v.x) htb)
    obtain ⟨i', hloop⟩ := store_loop alg mc t (storeBase g v.x) (tb.2 - 1) { v with as := tb, i := 0 }
      (by show 0 + (tb.2 - 1) + 1 = tb.2; omega)
    have h3 := step_tau (alg := alg) (mc := mc) (t := t) (g := storeBase g v.x) (v := { v with as := tb, i := i' })
      rfl stepRun_t3
    rw [leave_mnt (v := { v with as := tb, i := i' }) t hm] at h3
    exact ⟨_, by show 1 + (tb.2 - 1 + 1) + 1 + 1 ≤ tb.2 + 3; omega,
      TauN.succ h0 (TauN.succ h1 (TauN.trans hloop (TauN.one h3)))⟩

end Phases

theorem leave_after_start {g : G} {t : Tid} {v : V} (ha : g.actv = []) (hv : v.mnt = false) :
    leave t { g with actv := t :: g.actv } v = g := by
  obtain ⟨b, bu, n, ar, tb, nc, ce, ap, ac, ma⟩ := g
  simp only at ha
  subst ha
  simp [leave, hv]

theorem sum_solo_any {alg : Alg} {mc : Nat} {g : G} {l : Tid → L} (hI : Float.SInvAt g l)
    (hidle : ∀ u, l u = L.idle) (t : Tid) :
    ∃ g1 l1, step alg mc t g (l t) Act.sum = some (g1, l1, []) ∧
      ∃ k, k ≤ 2 * tlen g + 2 ∧
        soloRun (M alg mc) Act.tau t k ⟨g1, upd l t l1⟩ =
          (⟨g, l⟩, [Obs.ret (some (alg.view (sumRes alg g)))]) := by
  obtain ⟨ha, hm⟩ := Float.squiet_of_idle hI hidle
  refine ⟨{ g with actv := t :: g.actv }, .run .s0 {}, ?_, ?_⟩
  · rw [hidle t]; simp [step, hm]
  · obtain ⟨k, g', l', obs, hk, hrun, hexit⟩ :=
      sum_phase (alg := alg) (mc := mc) (t := t) (hI.tinv.congr (g' := { g with actv := t :: g.actv }) rfl rfl rfl rfl) {}
    refine ⟨k, hk, ?_⟩
    cases hexit with
    | ret v' _ hv' =>
      rw [soloRun_back (hidle t) hrun]
      exact solo_result_eq (leave_after_start ha hv') rfl rfl
    | cont v' h => cases h

theorem store_solo_any {alg : Alg} {mc : Nat} {g : G} {l : Tid → L} (hI : Float.SInvAt g l)
    (hidle : ∀ u, l u = L.idle) (t : Tid) (w : Int) :
    ∃ g1 l1, step alg mc t g (l t) (Act.store w) = some (g1, l1, []) ∧
      ∃ k, k ≤ tlen g + 3 ∧
        soloRun (M alg mc) Act.tau t k ⟨g1, upd l t l1⟩ =
          (⟨{ stored g w with actv := [], maint := false }, l⟩, [Obs.ret none]) := by
  obtain ⟨ha, hm⟩ := Float.squiet_of_idle hI hidle
  refine ⟨{ g with actv := [t], maint := true }, .run .t0 { x := w, mnt := true }, ?_, ?_⟩
  · rw [hidle t]; simp [step, ha, hm]
  · obtain ⟨k, hk, hrun⟩ := store_phase (alg := alg) (mc := mc) (t := t)
      (hI.tinv.congr (g' := { g with actv := [t], maint := true }) rfl rfl rfl rfl) { x := w, mnt := true } rfl
    rw [stored_quiet] at hrun
    exact ⟨k, hk, soloRun_back (hidle t) hrun⟩

theorem sumAndReset_solo_any {alg : Alg} {mc : Nat} {g : G} {l : Tid → L} (hI : Float.SInvAt g l)
    (hidle : ∀ u, l u = L.idle) (t : Tid) :
    ∃ g1 l1, step alg mc t g (l t) Act.sumAndReset = some (g1, l1, []) ∧
      ∃ k, k ≤ 3 * tlen g + 5 ∧
        soloRun (M alg mc) Act.tau t k ⟨g1, upd l t l1⟩ =
          (⟨{ stored g 0 with actv := [], maint := false }, l⟩, [Obs.ret (some (alg.view (sumRes alg g)))]) := by
  obtain ⟨ha, hm⟩ := Float.squiet_of_idle hI hidle
  refine ⟨{ g with actv := [t], maint := true }, .run .s0 { sar := true, mnt := true }, ?_, ?_⟩
  · rw [hidle t]; simp [step, ha, hm]
  · have hG1 : Float.TInv { g with actv := [t], maint := true } := hI.tinv.congr rfl rfl rfl rfl
    obtain ⟨k1, g', l', obs, hk1, hrun1, hexit⟩ :=
      sum_phase (alg := alg) (mc := mc) (t := t) hG1 { sar := true, mnt := true }
    cases hexit with
    | ret v' h => cases h
    | cont v' _ hx hacc hsar hmnt =>
      obtain ⟨k2, hk2, hrun2⟩ := store_phase (alg := alg) (mc := mc) (t := t) hG1 v' hmnt
      rw [if_pos hsar, hacc, hx, stored_quiet] at hrun2
      have hlen : tlen { g with actv := [t], maint := true } = tlen g := rfl
      refine ⟨k2 + k1, by rw [hlen] at hk1 hk2; omega, ?_⟩
      rw [soloRun_back (hidle t) (TauN.trans hrun1 hrun2)]
      rfl

/-- the integer accumulator adds up the cells modulo `2^64` (every cell is read wrapped): if it agrees with
    `T` plus the first `i` slots, it agrees with `T` plus the first `i + n` slots `n` slots later -/
theorem accFrom_int (slot : Nat → Option Nat) (cell : Nat → Int) (T : Int) : ∀ (n i : Nat) (acc : Int),
    wrap64 acc = wrap64 (T + sumTo (slotVal slot cell) i) →
    wrap64 (accFrom intAlg slot cell n i acc) = wrap64 (T + sumTo (slotVal slot cell) (i + n))
  | 0, _, _, h => h
  | n+1, i, acc, h => by
    rw [show i + (n + 1) = i + 1 + n by omega]
    refine accFrom_int slot cell T n (i + 1) _ ?_
    show wrap64 (match slot i with | none => acc | some c => acc + wrap64 (cell c)) =
      wrap64 (T + (sumTo (slotVal slot cell) i + match slot i with | none => 0 | some c => cell c))
    cases slot i with
    | none => rw [Int.add_zero]; exact h
    | some c => rw [wrap64_add', ← Int.add_assoc]; exact wrap64_add_congr h _

theorem sumRes_int {g : G} (hG : GInv g) : wrap64 (sumRes intAlg g) = wrap64 g.applied := by
  rw [← quiescent_sum hG]
  unfold sumRes tableSum
  cases g.tbl with
  | none => show wrap64 (wrap64 g.base) = wrap64 (g.base + 0); rw [wrap64_idem, Int.add_zero]
  | some tb =>
    have h := accFrom_int (g.arr tb.1).slot g.cell g.base tb.2 0 (wrap64 g.base) (by rw [wrap64_idem]; exact congrArg wrap64 (Int.add_zero _).symm)
    rwa [Nat.zero_add] at h

theorem stored_applied {g : G} (hG : GInv g) (x : Int) : (stored g x).applied = x := by
  unfold stored
  cases htb : g.tbl with
  | none =>
    have hq := quiescent_sum hG
    have : tableSum g = 0 := by unfold tableSum; rw [htb]
    simp only [storeBase]; omega
  | some tb => rfl

/-- **C02, quiescent read.**  From a reachable configuration in which every thread is idle, `Sum`
    run alone returns `wrap64 applied` (in at most `2·len + 2` steps) and restores the configuration. -/
theorem sum_solo {mc : Nat} {c : Config (M intAlg mc)} (hr : Reach (M intAlg mc) c)
    (hidle : ∀ u, c.l u = L.idle) (t : Tid) :
    ∃ g1 l1, (M intAlg mc).step t c.g (c.l t) Act.sum = some (g1, l1, []) ∧
      ∃ k, k ≤ 2 * tlen c.g + 2 ∧
        soloRun (M intAlg mc) Act.tau t k ⟨g1, upd c.l t l1⟩ =
          (c, [Obs.ret (some (wrap64 (G.applied c.g)))]) := by
  have hI := ainv_reach mc c hr
  obtain ⟨g1, l1, hs, k, hk, hrun⟩ := sum_solo_any (alg := intAlg) (mc := mc) hI.sinv hidle t
  rw [intAlg_view, sumRes_int hI.ginv] at hrun
  exact ⟨g1, l1, hs, k, hk, hrun⟩

/-- **C16, `Store`.**  From a reachable quiescent configuration, `Store w` run alone (at most `len + 3`
    steps, whatever the table size) ends in a reachable quiescent configuration with ghost total `w`. -/
theorem store_solo {mc : Nat} {c : Config (M intAlg mc)} (hr : Reach (M intAlg mc) c)
    (hidle : ∀ u, c.l u = L.idle) (t : Tid) (w : Int) :
    ∃ g1 l1, (M intAlg mc).step t c.g (c.l t) (Act.store w) = some (g1, l1, []) ∧
      ∃ k c', k ≤ tlen c.g + 3 ∧
        soloRun (M intAlg mc) Act.tau t k ⟨g1, upd c.l t l1⟩ = (c', [Obs.ret none]) ∧
        Reach (M intAlg mc) c' ∧ (∀ u, c'.l u = L.idle) ∧ G.applied c'.g = w := by
  have hI := ainv_reach mc c hr
  obtain ⟨g1, l1, hs, k, hk, hrun⟩ := store_solo_any (alg := intAlg) (mc := mc) hI.sinv hidle t w
  exact ⟨g1, l1, hs, k, _, hk, hrun, solo_reach hr hs hrun, hidle, stored_applied hI.ginv w⟩

/-- **C16, `Reset`.** -/
theorem reset_solo {mc : Nat} {c : Config (M intAlg mc)} (hr : Reach (M intAlg mc) c)
    (hidle : ∀ u, c.l u = L.idle) (t : Tid) :
    ∃ g1 l1, (M intAlg mc).step t c.g (c.l t) Act.reset = some (g1, l1, []) ∧
      ∃ k c', k ≤ tlen c.g + 3 ∧
        soloRun (M intAlg mc) Act.tau t k ⟨g1, upd c.l t l1⟩ = (c', [Obs.ret none]) ∧
        Reach (M intAlg mc) c' ∧ (∀ u, c'.l u = L.idle) ∧ G.applied c'.g = 0 := by
  obtain ⟨g1, l1, hs, h⟩ := store_solo hr hidle t 0
  exact ⟨g1, l1, (step_reset ..).trans hs, h⟩

/-- **C16, `SumAndReset`.**  Returns `wrap64 applied` and leaves ghost total `0`. -/
theorem sumAndReset_solo {mc : Nat} {c : Config (M intAlg mc)} (hr : Reach (M intAlg mc) c)
    (hidle : ∀ u, c.l u = L.idle) (t : Tid) :
    ∃ g1 l1, (M intAlg mc).step t c.g (c.l t) Act.sumAndReset = some (g1, l1, []) ∧
      ∃ k c', k ≤ 3 * tlen c.g + 5 ∧
        soloRun (M intAlg mc) Act.tau t k ⟨g1, upd c.l t l1⟩ = (c', [Obs.ret (some (wrap64 (G.applied c.g)))]) ∧
        Reach (M intAlg mc) c' ∧ (∀ u, c'.l u = L.idle) ∧ G.applied c'.g = 0 := by
  have hI := ainv_reach mc c hr
  obtain ⟨g1, l1, hs, k, hk, hrun⟩ := sumAndReset_solo_any (alg := intAlg) (mc := mc) hI.sinv hidle t
  rw [intAlg_view, sumRes_int hI.ginv] at hrun
  exact ⟨g1, l1, hs, k, _, hk, hrun, solo_reach hr hs hrun, hidle, stored_applied hI.ginv 0⟩

/-- the maintenance results compose with `sum_solo`: after a solo `Store w`, a solo `Sum` (by any
    thread) returns `wrap64 w` -/
theorem store_then_sum {mc : Nat} {c : Config (M intAlg mc)} (hr : Reach (M intAlg mc) c)
    (hidle : ∀ u, c.l u = L.idle) (t u : Tid) (w : Int) :
    ∃ g1 l1 k c', (M intAlg mc).step t c.g (c.l t) (Act.store w) = some (g1, l1, []) ∧
      soloRun (M intAlg mc) Act.tau t k ⟨g1, upd c.l t l1⟩ = (c', [Obs.ret none]) ∧
      ∃ g2 l2 k2, (M intAlg mc).step u c'.g (c'.l u) Act.sum = some (g2, l2, []) ∧
        soloRun (M intAlg mc) Act.tau u k2 ⟨g2, upd c'.l u l2⟩ = (c', [Obs.ret (some (wrap64 w))]) := by
  obtain ⟨g1, l1, hs, k, c', _, hrun, hr', hidle', happ⟩ := store_solo hr hidle t w
  obtain ⟨g2, l2, hs2, k2, _, hrun2⟩ := sum_solo hr' hidle' u
  rw [happ] at hrun2
  exact ⟨g1, l1, k, c', hs, hrun, g2, l2, k2, hs2, hrun2⟩

end Garr.Adder
