import Garr.Adder.Model
/-!
# One step of a running operation of the striped adder, for any value algebra

`stepRun` is one `match` over the program counters.  `stepRun_step` classifies its result once, by what
the step does to the heap (`Step`: nothing, take or release the spin lock, one of the heap operations of
`Garr.Adder.Heap`, leave the operation); a step that leaves the heap alone comes with what its successor
inherits (`Quiet`) and with the thread-local invariant of the successor.  Everything else about a step is
read off `Step`: the shape of its observations, how it moves the lock and the ghost maintenance state,
and the rely/guarantee summary `StepOK`.
-/
namespace Garr.Adder
open Garr.Conc

theorem mask_le (i : BitVec 64) (n : Nat) : mask i n ≤ n := by
  unfold mask
  rw [BitVec.toNat_and, BitVec.toNat_ofNat]
  exact Nat.le_trans Nat.and_le_right (Nat.mod_le _ _)

theorem mask_lt (i : BitVec 64) (n : Nat) (h : 2 ≤ n) : mask i (n - 1) < n := by
  have := mask_le i (n - 1); omega

@[simp] theorem leave_base (t : Tid) (g : G) (v : V) : (leave t g v).base = g.base := by unfold leave; split <;> rfl
@[simp] theorem leave_busy (t : Tid) (g : G) (v : V) : (leave t g v).busy = g.busy := by unfold leave; split <;> rfl
@[simp] theorem leave_narr (t : Tid) (g : G) (v : V) : (leave t g v).narr = g.narr := by unfold leave; split <;> rfl
@[simp] theorem leave_arr (t : Tid) (g : G) (v : V) : (leave t g v).arr = g.arr := by unfold leave; split <;> rfl
@[simp] theorem leave_tbl (t : Tid) (g : G) (v : V) : (leave t g v).tbl = g.tbl := by unfold leave; split <;> rfl
@[simp] theorem leave_ncell (t : Tid) (g : G) (v : V) : (leave t g v).ncell = g.ncell := by unfold leave; split <;> rfl
@[simp] theorem leave_cell (t : Tid) (g : G) (v : V) : (leave t g v).cell = g.cell := by unfold leave; split <;> rfl
@[simp] theorem leave_applied (t : Tid) (g : G) (v : V) : (leave t g v).applied = g.applied := by unfold leave; split <;> rfl

/-- pcs between a successful `casCellsBusy` and the releasing store -/
def holdsPC : PC → Bool
  | .c5a | .c5b | .c5c | .c5d | .c5e | .c11 | .c12 | .c13
  | .k3 | .k3b | .k3f | .k4a | .k4b | .k4c => true
  | _ => false

def holds : L → Bool
  | .idle => false
  | .run pc _ => holdsPC pc

def isMnt : L → Bool
  | .idle => false
  | .run _ v => v.mnt

/-- thread-local invariant at a pc, relative to the heap: the array and cell references a thread carries are
    allocated; between acquisition and release of the lock the table is as the thread read it after acquiring,
    since nobody else changes it, and the heap operation at `c5c` / `c12` / `k4b` is applied to that table
    (`c12`: the array `as.1` about to grow is the published one, `rs` being the re-read at `c11`); a thread at
    a writing pc of `Store` (`t*`), or summing on its way there (`sar`), runs a maintenance operation -/
def LInvPC (g : G) (v : V) : PC → Prop
  | .ar | .a3 | .c1 => v.as.1 < g.narr
  | .a4 | .a5 | .c6 | .c7 => v.a < g.ncell
  | .c5b => g.tbl = some v.rs ∧ v.j < v.rs.2
  | .c5c => g.tbl = some v.rs ∧ v.j < v.rs.2 ∧ (g.arr v.rs.1).slot v.j = none
  | .c12 => g.tbl = some v.rs ∧ v.rs.1 = v.as.1
  | .k3f | .k4a | .k4b => g.tbl = none ∧ v.j < 2
  | .s0 | .s1 => (v.sar = true → v.mnt = true)
  | .s2 => (v.sar = true → v.mnt = true) ∧ v.as.1 < g.narr
  | .s3 => (v.sar = true → v.mnt = true) ∧ v.as.1 < g.narr ∧ v.a < g.ncell
  | .t0 | .t1 => v.mnt = true
  | .t2 | .t3 => v.mnt = true ∧ 2 ≤ v.as.2
  | _ => True

def LInv (g : G) : L → Prop
  | .idle => True
  | .run pc v => LInvPC g v pc

/-- pcs of `Add` before its linearization point -/
def preLP : PC → Bool
  | .a0 | .a1 | .a2 | .ar | .a3 | .a4 | .a5 | .enter1 | .enter2
  | .c0 | .c1 | .c2 | .c2f | .c3 | .c4 | .c5a | .c5b | .c5c | .c5e
  | .c6 | .c7 | .c8 | .c9 | .c10 | .c11 | .c12 | .c13
  | .k0 | .k1 | .k2 | .k3 | .k3b | .k3f | .k4a | .k4b | .kb | .kb2 => true
  | _ => false

/-- pcs of `Add` after its linearization point -/
def postLP : PC → Bool
  | .c5d | .k4c => true
  | _ => false

/-- what the successor `pc'`, `v'` of a step without observation inherits: the kind of operation, whether
    it is an `Add` before its linearization point, and the operand (the second half of `SumAndReset`
    starts with operand `0`) -/
structure Quiet (pc : PC) (v : V) (pc' : PC) (v' : V) : Prop where
  mnt : v'.mnt = v.mnt
  pre : preLP pc' = preLP pc
  x : v'.x = v.x ∨ pc' = .t0

theorem Quiet.keep {pc pc' : PC} {v v' : V} (q : Quiet pc v pc' v') (hp : preLP pc = true) :
    preLP pc' = true ∧ v'.x = v.x :=
  have hp' := q.pre.trans hp
  ⟨hp', q.x.resolve_right fun h => by rw [h] at hp'; cases hp'⟩

inductive Step (alg : Alg) (t : Tid) (g : G) (pc : PC) (v : V) : G × L × List Obs → Prop
  /-- reads and local computation -/
  | tau (pc' : PC) (v' : V) : Quiet pc v pc' v' → holdsPC pc' = holdsPC pc →
      (Float.TInv g → LInvPC g v pc → LInvPC g v' pc') → Step alg t g pc v (g, .run pc' v', [])
  /-- successful `casCellsBusy` -/
  | acquire (pc' : PC) : Quiet pc v pc' v → g.busy = false → holdsPC pc = false → holdsPC pc' = true →
      (∀ g, LInvPC g v pc') → Step alg t g pc v ({ g with busy := true }, .run pc' v, [])
  | release (pc' : PC) (v' : V) : Quiet pc v pc' v' → holdsPC pc = true → holdsPC pc' = false →
      (∀ g, LInvPC g v' pc') → Step alg t g pc v ({ g with busy := false }, .run pc' v', [])
  | releaseRet : pc = .c5d ∨ pc = .k4c → Step alg t g pc v (leave t { g with busy := false } v, .idle, [.ret none])
  | casBase : pc = .a2 ∨ pc = .kb2 →
      Step alg t g pc v (leave t (casBaseA alg g v.x) v, .idle, [.lp v.x, .ret none])
  | casCell : pc = .a5 ∨ pc = .c7 →
      Step alg t g pc v (leave t (casCellA alg g v.a v.x) v, .idle, [.lp v.x, .ret none])
  | attach : pc = .c5c → Step alg t g pc v (attach g v.rs.1 v.j v.x, .run .c5d v, [.lp v.x])
  | init : pc = .k4b → Step alg t g pc v (initTable g v.j v.x, .run .k4c v, [.lp v.x])
  | reslice : pc = .c12 → Step alg t g pc v (growReslice g v.as.1, .run .c13 v, [])
  | realloc : pc = .c12 → Step alg t g pc v (growRealloc g v.as.1 (g.arr v.as.1).cap, .run .c13 v, [])
  | storeBase : pc = .t0 → Step alg t g pc v (storeBase g v.x, .run .t1 v, [])
  | storeTable (r : Option Int) : pc = .t3 →
      Step alg t g pc v (leave t (storeTable g v.as.2) v, .idle, [.ret r])
  /-- response of `Sum`, or of `Store` when there is no table -/
  | ret (r : Option Int) : pc = .s1 ∨ pc = .s2 ∨ pc = .s3 ∨ pc = .t1 →
      Step alg t g pc v (leave t g v, .idle, [.ret r])

theorem Step.plain {alg : Alg} {t : Tid} {g : G} {pc : PC} {v : V} (pc' : PC) (v' : V)
    (q : Quiet pc v pc' v') (hh : holdsPC pc' = holdsPC pc) (hl : ∀ g, LInvPC g v' pc') :
    Step alg t g pc v (g, .run pc' v', []) :=
  .tau pc' v' q hh fun _ _ => hl g

theorem stepRun_step (alg : Alg) (mc : Nat) (t : Tid) (g : G) (pc : PC) (v : V) (w : Nat) :
    Step alg t g pc v (stepRun alg mc t g pc v w) := by
  cases pc <;> dsimp only [stepRun, retAdd, slotAt]
  case a0 | c0 =>
    split
    · exact .plain _ _ ⟨rfl, rfl, .inl rfl⟩ rfl fun _ => trivial
    · rename_i tb htb
      exact .tau _ _ ⟨rfl, rfl, .inl rfl⟩ rfl fun hG _ => (hG.tbl_wf tb.1 tb.2 htb).1
  case a1 | enter2 | c2f | kb => exact .plain _ _ ⟨rfl, rfl, .inl rfl⟩ rfl fun _ => trivial
  case a2 | kb2 =>
    split
    · exact .casBase (by decide)
    · exact .plain _ _ ⟨rfl, rfl, .inl rfl⟩ rfl fun _ => trivial
  case ar | a4 | c6 | k3f | k4a | s0 => exact .tau _ _ ⟨rfl, rfl, .inl rfl⟩ rfl fun _ h => h
  case a3 =>
    split
    · split <;> exact .plain _ _ ⟨rfl, rfl, .inl rfl⟩ rfl fun _ => trivial
    · rename_i c hc
      exact .tau _ _ ⟨rfl, rfl, .inl rfl⟩ rfl fun hG hL => hG.slot_valid _ _ c hL hc
  case a5 | c7 =>
    split
    · exact .casCell (by decide)
    · split <;> exact .plain _ _ ⟨rfl, rfl, .inl rfl⟩ rfl fun _ => trivial
  case enter1 | c3 | c9 | k0 | k1 => split <;> exact .plain _ _ ⟨rfl, rfl, .inl rfl⟩ rfl fun _ => trivial
  case c1 =>
    split
    · exact .plain _ _ ⟨rfl, rfl, .inl rfl⟩ rfl fun _ => trivial
    · rename_i c hc
      split
      · exact .plain _ _ ⟨rfl, rfl, .inl rfl⟩ rfl fun _ => trivial
      · exact .tau _ _ ⟨rfl, rfl, .inl rfl⟩ rfl fun hG hL => hG.slot_valid _ _ c hL hc
  case c2 =>
    split
    · exact .plain _ _ ⟨rfl, rfl, .inl rfl⟩ rfl fun _ => trivial
    · split <;> exact .plain _ _ ⟨rfl, rfl, .inl rfl⟩ rfl fun _ => trivial
  case c4 | c10 | k2 =>
    split
    · exact .plain _ _ ⟨rfl, rfl, .inl rfl⟩ rfl fun _ => trivial
    · rename_i hb
      exact .acquire _ ⟨rfl, rfl, .inl rfl⟩ (Bool.eq_false_iff.2 hb) rfl rfl fun _ => trivial
  case c5a =>
    split
    · exact .plain _ _ ⟨rfl, rfl, .inl rfl⟩ rfl fun _ => trivial
    · rename_i tb htb
      exact .tau _ _ ⟨rfl, rfl, .inl rfl⟩ rfl fun hG _ => ⟨htb, mask_lt _ _ (hG.tbl_wf tb.1 tb.2 htb).2.1⟩
  case c5b =>
    split
    · rename_i hn
      exact .tau _ _ ⟨rfl, rfl, .inl rfl⟩ rfl fun _ hL => ⟨hL.1, hL.2, hn⟩
    · exact .plain _ _ ⟨rfl, rfl, .inl rfl⟩ rfl fun _ => trivial
  case c5c => exact .attach rfl
  case c5d | k4c => exact .releaseRet (by decide)
  case c5e | c13 | k3b => exact .release _ _ ⟨rfl, rfl, .inl rfl⟩ rfl rfl fun _ => trivial
  case c8 =>
    -- the first `split` is on the table read inside the staleness test
    split <;>
    · split
      · exact .plain _ _ ⟨rfl, rfl, .inl rfl⟩ rfl fun _ => trivial
      · split <;> exact .plain _ _ ⟨rfl, rfl, .inl rfl⟩ rfl fun _ => trivial
  case c11 =>
    split
    · exact .plain _ _ ⟨rfl, rfl, .inl rfl⟩ rfl fun _ => trivial
    · rename_i tb htb
      split
      · rename_i he
        exact .tau _ _ ⟨rfl, rfl, .inl rfl⟩ rfl fun _ _ => ⟨htb, he⟩
      · exact .plain _ _ ⟨rfl, rfl, .inl rfl⟩ rfl fun _ => trivial
  case c12 =>
    split
    · exact .reslice rfl
    · exact .realloc rfl
  case k3 =>
    split
    · rename_i hn
      have hj : mask v.idx 1 < 2 := Nat.lt_succ_of_le (mask_le v.idx 1)
      split <;> exact .tau _ _ ⟨rfl, rfl, .inl rfl⟩ rfl fun _ _ => ⟨hn, hj⟩
    · exact .plain _ _ ⟨rfl, rfl, .inl rfl⟩ rfl fun _ => trivial
  case k4b => exact .init rfl
  case s1 =>
    split
    · split
      · rename_i hsar
        exact .tau _ _ ⟨rfl, rfl, .inr rfl⟩ rfl fun _ hL => hL hsar
      · exact .ret _ (by decide)
    · rename_i tb htb
      exact .tau _ _ ⟨rfl, rfl, .inl rfl⟩ rfl fun hG hL => ⟨hL, (hG.tbl_wf tb.1 tb.2 htb).1⟩
  case s2 =>
    split
    · split
      · exact .tau _ _ ⟨rfl, rfl, .inl rfl⟩ rfl fun _ h => h
      · split
        · rename_i hsar
          exact .tau _ _ ⟨rfl, rfl, .inr rfl⟩ rfl fun _ hL => hL.1 hsar
        · exact .ret _ (by decide)
    · rename_i c hc
      exact .tau _ _ ⟨rfl, rfl, .inl rfl⟩ rfl fun hG hL => ⟨hL.1, hL.2, hG.slot_valid _ _ c hL.2 hc⟩
  case s3 =>
    split
    · exact .tau _ _ ⟨rfl, rfl, .inl rfl⟩ rfl fun _ hL => ⟨hL.1, hL.2.1⟩
    · split
      · rename_i hsar
        exact .tau _ _ ⟨rfl, rfl, .inr rfl⟩ rfl fun _ hL => hL.1 hsar
      · exact .ret _ (by decide)
  case t0 => exact .storeBase rfl
  case t1 =>
    split
    · exact .ret _ (by decide)
    · rename_i tb htb
      exact .tau _ _ ⟨rfl, rfl, .inl rfl⟩ rfl fun hG hL => ⟨hL, (hG.tbl_wf tb.1 tb.2 htb).2.1⟩
  case t2 => split <;> exact .tau _ _ ⟨rfl, rfl, .inl rfl⟩ rfl fun _ h => h
  case t3 => exact .storeTable _ rfl

theorem Step.of_eq {alg : Alg} {mc : Nat} {t : Tid} {g : G} {pc : PC} {v : V} {w : Nat} {R : G × L × List Obs}
    (hs : stepRun alg mc t g pc v w = R) : Step alg t g pc v R :=
  hs ▸ stepRun_step alg mc t g pc v w

/-- shape of what a step of a running operation makes observable: a linearization point `lp x` is
    emitted exactly by a successful base / cell CAS (together with the response), by the attaching
    slot store `c5c` and by the initial table publication `k4b` (each followed by the pure response
    steps `c5d` / `k4c`); `x` is the operand carried by the thread. -/
theorem step_obs {alg : Alg} {mc : Nat} {t : Tid} {g : G} {pc : PC} {v : V} {w : Nat} {g' : G} {l' : L}
    {obs : List Obs} (hs : stepRun alg mc t g pc v w = (g', l', obs)) :
    (obs = [] ∧ ∃ pc' v', l' = .run pc' v' ∧ Quiet pc v pc' v') ∨
    (obs = [.lp v.x, .ret none] ∧ l' = .idle ∧ (pc = .a2 ∨ pc = .a5 ∨ pc = .c7 ∨ pc = .kb2)) ∨
    (obs = [.lp v.x] ∧ ((pc = .c5c ∧ l' = .run .c5d v) ∨ (pc = .k4b ∧ l' = .run .k4c v))) ∨
    (∃ r, obs = [.ret r] ∧ l' = .idle ∧
      ((r = none ∧ (pc = .c5d ∨ pc = .k4c)) ∨ pc = .s1 ∨ pc = .s2 ∨ pc = .s3 ∨ pc = .t1 ∨ pc = .t3)) := by
  cases Step.of_eq hs with
  | tau pc' v' q | acquire pc' q | release pc' v' q => exact .inl ⟨rfl, _, _, rfl, q⟩
  | releaseRet hp => exact .inr (.inr (.inr ⟨_, rfl, rfl, .inl ⟨rfl, hp⟩⟩))
  | casBase hp => exact .inr (.inl ⟨rfl, rfl, hp.imp_right fun h => .inr (.inr h)⟩)
  | casCell hp => exact .inr (.inl ⟨rfl, rfl, .inr (hp.imp_right .inl)⟩)
  | attach hp => exact .inr (.inr (.inl ⟨rfl, .inl ⟨hp, rfl⟩⟩))
  | init hp => exact .inr (.inr (.inl ⟨rfl, .inr ⟨hp, rfl⟩⟩))
  | reslice hp | realloc hp | storeBase hp => subst hp; exact .inl ⟨rfl, _, _, rfl, rfl, rfl, .inl rfl⟩
  | storeTable r hp => exact .inr (.inr (.inr ⟨r, rfl, rfl, .inr (.inr (.inr (.inr (.inr hp))))⟩))
  | ret r hp => exact .inr (.inr (.inr ⟨r, rfl, rfl, .inr (hp.imp_right (.imp_right (.imp_right .inl)))⟩))

/-- guarantee of a thread that does not hold the lock (and is not a maintainer): the table
    structure is untouched -/
structure Frame (g g' : G) : Prop where
  tbl : g'.tbl = g.tbl
  arr : g'.arr = g.arr
  narr : g'.narr = g.narr
  ncell : g'.ncell = g.ncell

/-- guarantee of the lock holder: arrays and cells are only added -/
structure Mono (g g' : G) : Prop where
  narr : g.narr ≤ g'.narr
  ncell : g.ncell ≤ g'.ncell

theorem Frame.refl (g : G) : Frame g g := ⟨rfl, rfl, rfl, rfl⟩
theorem Mono.refl (g : G) : Mono g g := ⟨Nat.le_refl _, Nat.le_refl _⟩
theorem Frame.mono {g g' : G} (h : Frame g g') : Mono g g' := ⟨Nat.le_of_eq h.narr.symm, Nat.le_of_eq h.ncell.symm⟩

theorem Frame.leave {g g' : G} (h : Frame g g') (t : Tid) (v : V) : Frame g (leave t g' v) :=
  ⟨(leave_tbl ..).trans h.tbl, (leave_arr ..).trans h.arr, (leave_narr ..).trans h.narr,
    (leave_ncell ..).trans h.ncell⟩

theorem Mono.leave {g g' : G} (h : Mono g g') (t : Tid) (v : V) : Mono g (leave t g' v) :=
  ⟨(leave_narr t g' v).symm ▸ h.narr, (leave_ncell t g' v).symm ▸ h.ncell⟩

theorem Frame.busy (g : G) (b : Bool) : Frame g { g with busy := b } := ⟨rfl, rfl, rfl, rfl⟩
theorem Frame.casBaseA (alg : Alg) (g : G) (x : Int) : Frame g (casBaseA alg g x) := ⟨rfl, rfl, rfl, rfl⟩
theorem Frame.casCellA (alg : Alg) (g : G) (c : Nat) (x : Int) : Frame g (casCellA alg g c x) := ⟨rfl, rfl, rfl, rfl⟩

theorem Float.TInv.frame {g g' : G} (h : Float.TInv g) (hF : Frame g g') : Float.TInv g' :=
  h.congr hF.narr hF.arr hF.tbl hF.ncell

theorem LInv_frame {g g' : G} (hF : Frame g g') (l : L) (h : LInv g l) : LInv g' l := by
  cases l with
  | idle => trivial
  | run pc v =>
    change LInvPC g v pc at h
    show LInvPC g' v pc
    unfold LInvPC at h ⊢
    rw [hF.tbl, hF.arr, hF.narr, hF.ncell]
    exact h

/-- outside the lock, the thread-local facts are bounds on array and cell ids, or do not mention the heap -/
theorem LInvPC_mono {g g' : G} (hM : Mono g g') (v : V) :
    ∀ pc, holdsPC pc = false → LInvPC g v pc → LInvPC g' v pc
  | .ar, _, h | .a3, _, h | .c1, _, h => Nat.lt_of_lt_of_le h hM.narr
  | .a4, _, h | .a5, _, h | .c6, _, h | .c7, _, h => Nat.lt_of_lt_of_le h hM.ncell
  | .s2, _, h => ⟨h.1, Nat.lt_of_lt_of_le h.2 hM.narr⟩
  | .s3, _, h => ⟨h.1, Nat.lt_of_lt_of_le h.2.1 hM.narr, Nat.lt_of_lt_of_le h.2.2 hM.ncell⟩
  | .s0, _, h | .s1, _, h | .t0, _, h | .t1, _, h | .t2, _, h | .t3, _, h => h
  | .a0, _, _ | .a1, _, _ | .a2, _, _ | .enter1, _, _ | .enter2, _, _ | .c0, _, _ | .c2, _, _ | .c2f, _, _
  | .c3, _, _ | .c4, _, _ | .c8, _, _ | .c9, _, _ | .c10, _, _ | .k0, _, _ | .k1, _, _ | .k2, _, _
  | .kb, _, _ | .kb2, _, _ => trivial

theorem LInv_mono {g g' : G} (hM : Mono g g') : ∀ (l : L), holds l = false → LInv g l → LInv g' l
  | .idle, _, _ => trivial
  | .run pc v, hh, h => LInvPC_mono hM v pc hh h

structure StepOK (g : G) (pc : PC) (v : V) (g' : G) (l' : L) : Prop where
  tinv : Float.TInv g'
  linv : LInv g' l'
  mono : v.mnt = false → Mono g g'
  frame : v.mnt = false → holdsPC pc = false → Frame g g'

theorem StepOK.ofFrame {g g' : G} {pc : PC} {v : V} {l' : L} (hG : Float.TInv g) (hF : Frame g g')
    (hl : LInv g' l') : StepOK g pc v g' l' :=
  ⟨hG.frame hF, hl, fun _ => hF.mono, fun _ _ => hF⟩

theorem StepOK.ofHolder {g g' : G} {pc : PC} {v : V} {l' : L} (hh : holdsPC pc = true) (hG : Float.TInv g')
    (hM : Mono g g') (hl : LInv g' l') : StepOK g pc v g' l' :=
  ⟨hG, hl, fun _ => hM, fun _ h => by rw [hh] at h; cases h⟩

theorem StepOK.leave {g g' : G} {pc : PC} {v : V} {l' : L} (h : StepOK g pc v g' l') (t : Tid) (u : V) :
    StepOK g pc v (leave t g' u) .idle :=
  ⟨h.tinv.frame ((Frame.refl _).leave t u), trivial, fun hm => (h.mono hm).leave t u,
    fun hm hh => (h.frame hm hh).leave t u⟩

theorem stepRun_ok {alg : Alg} {mc : Nat} {t : Tid} {g : G} {pc : PC} {v : V} {w : Nat} {g' : G} {l' : L}
    {obs : List Obs} (hG : Float.TInv g) (hL : LInvPC g v pc) (hs : stepRun alg mc t g pc v w = (g', l', obs)) :
    StepOK g pc v g' l' := by
  cases Step.of_eq hs with
  | tau pc' v' q hh hl => exact .ofFrame hG (.refl _) (hl hG hL)
  | acquire pc' q hb h1 h2 hl | release pc' v' q h1 h2 hl => exact .ofFrame hG (.busy _ _) (hl _)
  | releaseRet hp => exact (StepOK.ofFrame (l' := .idle) hG (.busy _ _) trivial).leave _ _
  | casBase hp => exact (StepOK.ofFrame (l' := .idle) hG (.casBaseA _ _ _) trivial).leave _ _
  | casCell hp => exact (StepOK.ofFrame (l' := .idle) hG (.casCellA _ _ _ _) trivial).leave _ _
  | attach hp =>
    subst hp
    exact .ofHolder rfl (Float.tinv_attach hG _ _ _ _ hL.1 hL.2.1 hL.2.2) ⟨Nat.le_refl _, Nat.le_succ _⟩ trivial
  | init hp =>
    subst hp
    exact .ofHolder rfl (Float.tinv_initTable hG _ _ hL.1 hL.2) ⟨Nat.le_succ _, Nat.le_succ _⟩ trivial
  | reslice hp =>
    subst hp
    have htb : g.tbl = some (v.as.1, v.rs.2) := by rw [hL.1, ← hL.2]
    exact .ofHolder rfl (Float.tinv_growReslice hG _ _ htb) ⟨Nat.le_refl _, Nat.le_refl _⟩ trivial
  | realloc hp =>
    subst hp
    have htb : g.tbl = some (v.as.1, v.rs.2) := by rw [hL.1, ← hL.2]
    exact .ofHolder rfl (Float.tinv_growRealloc hG _ _ _ htb (hG.tbl_wf _ _ htb).2.2.1)
      ⟨Nat.le_succ _, Nat.le_refl _⟩ trivial
  | storeBase hp => subst hp; exact .ofFrame hG ⟨rfl, rfl, rfl, rfl⟩ hL
  | storeTable r hp =>
    subst hp
    have hm : v.mnt ≠ false := by rw [hL.1]; exact Bool.noConfusion
    exact ⟨(Float.tinv_storeTable _ hL.2).frame ((Frame.refl _).leave _ _), trivial,
      fun h => absurd h hm, fun h => absurd h hm⟩
  | ret r hp => exact (StepOK.ofFrame (l' := .idle) hG (.refl _) trivial).leave _ _

inductive LockTr (g : G) (l : L) (g' : G) (l' : L) : Prop
  | keep : holds l = true → holds l' = true → g'.busy = g.busy → LockTr g l g' l'
  | release : holds l = true → holds l' = false → g'.busy = false → LockTr g l g' l'
  | out : holds l = false → holds l' = false → g'.busy = g.busy → LockTr g l g' l'
  | acquire : holds l = false → holds l' = true → g.busy = false → g'.busy = true → LockTr g l g' l'

inductive GhostTr (t : Tid) (g : G) (l : L) (g' : G) (l' : L) : Prop
  | stay : l ≠ .idle → l' ≠ .idle → isMnt l' = isMnt l → g'.actv = g.actv → g'.maint = g.maint → GhostTr t g l g' l'
  | leaveM : isMnt l = true → l' = .idle → g'.actv = [] → g'.maint = false → GhostTr t g l g' l'
  | leaveN : isMnt l = false → l ≠ .idle → l' = .idle → g'.actv = g.actv.filter (· ≠ t) → g'.maint = g.maint →
      GhostTr t g l g' l'
  | startN : l = .idle → l' ≠ .idle → isMnt l' = false → g.maint = false → g'.actv = t :: g.actv →
      g'.maint = false → GhostTr t g l g' l'
  | startM : l = .idle → l' ≠ .idle → isMnt l' = true → g.maint = false → g.actv = [] → g'.actv = [t] →
      g'.maint = true → GhostTr t g l g' l'

theorem ghost_stay {t : Tid} {g g' : G} {pc pc' : PC} {v v' : V} (ha : g'.actv = g.actv) (hm : g'.maint = g.maint)
    (hv : v'.mnt = v.mnt) : GhostTr t g (.run pc v) g' (.run pc' v') :=
  .stay (fun h => by cases h) (fun h => by cases h) hv ha hm

theorem ghost_leave {t : Tid} {g : G} {pc : PC} {v : V} (g'' : G) (ha : g''.actv = g.actv) (hm : g''.maint = g.maint) :
    GhostTr t g (.run pc v) (leave t g'' v) .idle := by
  cases hv : v.mnt
  · exact .leaveN hv (fun h => by cases h) rfl (by simp [leave, hv, ha]) (by simp [leave, hv, hm])
  · exact .leaveM hv rfl (by simp [leave, hv]) (by simp [leave, hv])

theorem stepRun_ghost {alg : Alg} {mc : Nat} {t : Tid} {g : G} {pc : PC} {v : V} {w : Nat} {g' : G} {l' : L}
    {obs : List Obs} (hs : stepRun alg mc t g pc v w = (g', l', obs)) : GhostTr t g (.run pc v) g' l' := by
  cases Step.of_eq hs with
  | tau pc' v' q | release pc' v' q => exact ghost_stay rfl rfl q.mnt
  | acquire | attach | init | reslice | realloc | storeBase => exact ghost_stay rfl rfl rfl
  | releaseRet | casBase | casCell | storeTable | ret => exact ghost_leave _ rfl rfl

theorem stepRun_lock {alg : Alg} {mc : Nat} {t : Tid} {g : G} {pc : PC} {v : V} {w : Nat} {g' : G} {l' : L}
    {obs : List Obs} (hs : stepRun alg mc t g pc v w = (g', l', obs)) : LockTr g (.run pc v) g' l' := by
  cases Step.of_eq hs with
  | tau pc' v' q hh =>
    cases h : holdsPC pc
    · exact .out h (hh.trans h) rfl
    · exact .keep h (hh.trans h) rfl
  | acquire pc' q hb h1 h2 => exact .acquire h1 h2 hb rfl
  | release pc' v' q h1 h2 => exact .release h1 h2 rfl
  | releaseRet hp => exact .release (by rcases hp with rfl | rfl <;> rfl) rfl (leave_busy ..)
  | casBase hp | casCell hp => exact .out (by rcases hp with rfl | rfl <;> rfl) rfl (leave_busy ..)
  | attach hp | init hp | reslice hp | realloc hp => subst hp; exact .keep rfl rfl rfl
  | storeBase hp => subst hp; exact .out rfl rfl rfl
  | storeTable r hp => subst hp; exact .out rfl rfl (leave_busy ..)
  | ret r hp => exact .out (by rcases hp with rfl | rfl | rfl | rfl <;> rfl) rfl (leave_busy ..)

/-- an idle thread starts an operation: updates and `Sum` whenever no maintenance operation runs, a
    maintenance operation only when nothing else runs -/
inductive Start (t : Tid) (g : G) : Act → G × L × List Obs → Prop
  | add (x : Int) : g.maint = false → Start t g (.add x) ({ g with actv := t :: g.actv }, .run .a0 { x := x }, [])
  | sum : g.maint = false → Start t g .sum ({ g with actv := t :: g.actv }, .run .s0 {}, [])
  | store (x : Int) : g.maint = false → g.actv = [] →
      Start t g (.store x) ({ g with actv := [t], maint := true }, .run .t0 { x := x, mnt := true }, [])
  | reset : g.maint = false → g.actv = [] →
      Start t g .reset ({ g with actv := [t], maint := true }, .run .t0 { x := 0, mnt := true }, [])
  | sumAndReset : g.maint = false → g.actv = [] →
      Start t g .sumAndReset ({ g with actv := [t], maint := true }, .run .s0 { sar := true, mnt := true }, [])

theorem maint_guard {g : G} (h : ¬ (g.maint || !g.actv.isEmpty) = true) : g.maint = false ∧ g.actv = [] := by
  cases hm : g.maint <;> cases ha : g.actv <;> simp_all

theorem step_cases {alg : Alg} {mc : Nat} {t : Tid} {g : G} {l : L} {a : Act} {R : G × L × List Obs}
    (hs : step alg mc t g l a = some R) :
    (l = .idle ∧ Start t g a R) ∨ ∃ pc v w, l = .run pc v ∧ stepRun alg mc t g pc v w = R := by
  unfold step at hs
  split at hs
  · split at hs; · cases hs
    rename_i hm; cases hs
    exact .inl ⟨rfl, .add _ (Bool.eq_false_iff.2 hm)⟩
  · split at hs; · cases hs
    rename_i hm; cases hs
    exact .inl ⟨rfl, .sum (Bool.eq_false_iff.2 hm)⟩
  · split at hs; · cases hs
    rename_i hm; cases hs
    exact .inl ⟨rfl, .store _ (maint_guard hm).1 (maint_guard hm).2⟩
  · split at hs; · cases hs
    rename_i hm; cases hs
    exact .inl ⟨rfl, .reset (maint_guard hm).1 (maint_guard hm).2⟩
  · split at hs; · cases hs
    rename_i hm; cases hs
    exact .inl ⟨rfl, .sumAndReset (maint_guard hm).1 (maint_guard hm).2⟩
  · split at hs; · cases hs
    exact .inr ⟨_, _, 0, rfl, Option.some.inj hs⟩
  · split at hs
    · exact .inr ⟨_, _, _, rfl, Option.some.inj hs⟩
    · cases hs
  · cases hs

end Garr.Adder
