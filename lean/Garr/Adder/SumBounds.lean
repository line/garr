import Garr.Adder.Inv
import Garr.Adder.Solo
/-!
# C09: what a `Sum` that races with updates returns (integer striped adder)

A ghost-instrumented machine `MG mc` runs exactly the steps of `M intAlg mc` on the first components of
its shared state `G × Ghost` and local state `L × LGhost`: `gstep` calls `step intAlg mc` and then updates
the ghosts from what the step did, so the projection is a simulation in both directions by construction.

**Restriction.**  `MG` disables the maintenance invocations `Act.store / reset / sumAndReset` (`gstep`
returns `none` for them): the property is about runs whose operations are `Add` and `Sum` only.  So no
thread ever runs a maintenance operation (`sinv_maint`), `storeBase` / `storeTable` never run and cells are
never renumbered.

Every `Add x` gets a fresh update id at its invocation; at the step that emits `Obs.lp x` the id lands at a
location (`lpLoc`: `base`, an existing cell, or the cell the step creates).  An in-flight `Sum` carries
`LGhost.sum counted must`: `must` is `Ghost.lped` at its invocation and never changes, `counted` grows by
the history of `base` at the read of `base` and by the history of a cell at the read of that cell.  Every
observation of `MG` is the observation of `M` tagged with the ghost of the acting thread after the step.

The `Sum` invariant is stable under the steps of the other threads because ghost maps only grow and slots
are write-once (`Guar`); that every located cell is in the table the `Sum` loads is `GInv.all_in`.
-/
namespace Garr.Adder
open Garr.Conc

inductive Loc
  | base
  | cell (c : Nat)
deriving DecidableEq, Repr

structure Ghost where
  nupd : Nat                    -- next fresh update id
  xOf : Nat → Int               -- operand of update `u`
  loc : Nat → Option Loc        -- where update `u` landed (`none`: linearization point not yet passed)
  hist : Loc → List Nat         -- ids landed at a location, oldest first
  lped : List Nat               -- ids whose linearization point has occurred
  completed : List Nat          -- ids whose `Add` has returned

def Ghost.init : Ghost := ⟨0, fun _ => 0, fun _ => none, fun _ => [], [], []⟩

inductive LGhost
  | none
  | upd (u : Nat)
  | sum (counted must : List Nat)

def lsum (xOf : Nat → Int) : List Nat → Int
  | [] => 0
  | u :: us => xOf u + lsum xOf us

theorem lsum_append (xOf : Nat → Int) (a b : List Nat) : lsum xOf (a ++ b) = lsum xOf a + lsum xOf b := by
  induction a with
  | nil => simp [lsum]
  | cons u us ih => simp [lsum, ih]; omega

theorem lsum_congr {f g : Nat → Int} {l : List Nat} (h : ∀ u ∈ l, f u = g u) : lsum f l = lsum g l := by
  induction l with
  | nil => rfl
  | cons u us ih =>
    simp only [lsum]
    rw [h u (by simp), ih (fun v hv => h v (by simp [hv]))]

def isLp : Obs → Bool
  | .lp _ => true
  | _ => false

def isRet : Obs → Bool
  | .ret _ => true
  | _ => false

/-- where the update of a thread at `pc` lands if this step is its linearization point -/
def lpLoc (g : G) (pc : PC) (v : V) : Loc :=
  match pc with
  | .a5 | .c7 => .cell v.a
  | .c5c | .k4b => .cell g.ncell
  | _ => .base

/-- what a `Sum` at `pc` adds to its `counted` list in this step -/
def readHist (gh : Ghost) (pc : PC) (v : V) (counted : List Nat) : List Nat :=
  match pc with
  | .s0 => counted ++ gh.hist .base
  | .s3 => counted ++ gh.hist (.cell v.a)
  | _ => counted

def Ghost.alloc (gh : Ghost) (x : Int) : Ghost :=
  { gh with xOf := fun u => if u = gh.nupd then x else gh.xOf u, nupd := gh.nupd + 1 }

def Ghost.land (gh : Ghost) (u : Nat) (ℓ : Loc) : Ghost :=
  { gh with loc := fun w => if w = u then some ℓ else gh.loc w,
            hist := fun k => if k = ℓ then gh.hist k ++ [u] else gh.hist k,
            lped := u :: gh.lped }

def Ghost.complete (gh : Ghost) (u : Nat) : Ghost := { gh with completed := u :: gh.completed }

/-- `Add`, `Sum` and the internal actions; the maintenance invocations are excluded -/
def noMaint : Act → Bool
  | .store _ | .reset | .sumAndReset => false
  | _ => true

/-- the ghost state after a step of `M` from `(g, l)` with action `a` that emitted `obs` -/
def ghostG (g : G) (gh : Ghost) (l : L) (lg : LGhost) (a : Act) (obs : List Obs) : Ghost :=
  match l with
  | .idle =>
    match a with
    | .add x => gh.alloc x
    | _ => gh
  | .run pc v =>
    match lg with
    | .upd u =>
      let gh1 := if obs.any isLp then gh.land u (lpLoc g pc v) else gh
      if obs.any isRet then gh1.complete u else gh1
    | _ => gh

/-- the ghost of the acting thread after the step (also the tag of the step's observations) -/
def tagOf (gh : Ghost) (l : L) (lg : LGhost) (a : Act) : LGhost :=
  match l with
  | .idle =>
    match a with
    | .add _ => .upd gh.nupd
    | _ => .sum [] gh.lped
  | .run pc v =>
    match lg with
    | .sum counted must => .sum (readHist gh pc v counted) must
    | lg => lg

def lgNext (l' : L) (tag : LGhost) : LGhost :=
  match l' with
  | .idle => .none
  | _ => tag

/-- one step of the instrumented machine: the step of `M intAlg mc`, then the ghost updates -/
def gstep (mc : Nat) (t : Tid) (s : G × Ghost) (ll : L × LGhost) (a : Act) :
    Option ((G × Ghost) × (L × LGhost) × List (Obs × LGhost)) :=
  if noMaint a then
    match step intAlg mc t s.1 ll.1 a with
    | none => none
    | some (g', l', obs) =>
        some ((g', ghostG s.1 s.2 ll.1 ll.2 a obs), (l', lgNext l' (tagOf s.2 ll.1 ll.2 a)),
              obs.map (fun o => (o, tagOf s.2 ll.1 ll.2 a)))
  else none

def MG (mc : Nat) : Machine where
  G := G × Ghost
  L := L × LGhost
  Act := Act
  Obs := Obs × LGhost
  init := (initG, Ghost.init)
  idle := (.idle, .none)
  step := gstep mc

theorem map_fst_tag (obs : List Obs) (tag : LGhost) : (obs.map (fun o => (o, tag))).map Prod.fst = obs := by
  induction obs with
  | nil => rfl
  | cons o r ih => simp [ih]

theorem gstep_inv {mc : Nat} {t : Tid} {g : G} {gh : Ghost} {l : L} {lg : LGhost} {a : Act}
    {g' : G} {gh' : Ghost} {l' : L} {lg' : LGhost} {obs : List (Obs × LGhost)}
    (h : (MG mc).step t (g, gh) (l, lg) a = some ((g', gh'), (l', lg'), obs)) :
    noMaint a = true ∧ ∃ obsM, step intAlg mc t g l a = some (g', l', obsM) ∧
      gh' = ghostG g gh l lg a obsM ∧ lg' = lgNext l' (tagOf gh l lg a) ∧
      obs = obsM.map (fun o => (o, tagOf gh l lg a)) := by
  have h : gstep mc t (g, gh) (l, lg) a = some ((g', gh'), (l', lg'), obs) := h
  unfold gstep at h
  split at h
  · rename_i ha
    split at h
    · cases h
    · rename_i g1 l1 obsM hs
      cases h
      exact ⟨ha, obsM, hs, rfl, rfl, rfl⟩
  · cases h

theorem proj_step {mc : Nat} {t : Tid} {g : G} {gh : Ghost} {l : L} {lg : LGhost} {a : Act}
    {g' : G} {gh' : Ghost} {l' : L} {lg' : LGhost} {obs' : List (Obs × LGhost)}
    (h : (MG mc).step t (g, gh) (l, lg) a = some ((g', gh'), (l', lg'), obs')) :
    step intAlg mc t g l a = some (g', l', obs'.map Prod.fst) := by
  obtain ⟨_, obsM, hs, _, _, rfl⟩ := gstep_inv h
  rw [map_fst_tag]; exact hs

/-- conversely, the ghosts never block: every `Add`/`Sum`/internal step of `M` is matched by `MG`
    from any ghost state, with the same observations -/
theorem lift_step {mc : Nat} {t : Tid} {g : G} {l : L} {a : Act} {g' : G} {l' : L} {obs : List Obs}
    (h : step intAlg mc t g l a = some (g', l', obs)) (ha : noMaint a = true) (gh : Ghost) (lg : LGhost) :
    ∃ gh' lg' obs', (MG mc).step t (g, gh) (l, lg) a = some ((g', gh'), (l', lg'), obs') ∧
      obs'.map Prod.fst = obs :=
  ⟨ghostG g gh l lg a obs, lgNext l' (tagOf gh l lg a), obs.map (fun o => (o, tagOf gh l lg a)),
   by show gstep mc t (g, gh) (l, lg) a = _; simp only [gstep, ha, h, if_true]; rfl, map_fst_tag _ _⟩

def projC {mc : Nat} (c : Config (MG mc)) : Config (M intAlg mc) := ⟨Prod.fst c.g, fun t => Prod.fst (c.l t)⟩

theorem projC_init (mc : Nat) : projC (Config.init (MG mc)) = Config.init (M intAlg mc) := rfl

theorem proj_upd {α β : Type} (l : Tid → α × β) (t : Tid) (p : α × β) :
    (fun u => Prod.fst (upd l t p u)) = upd (fun u => Prod.fst (l u)) t p.1 := by
  funext u; unfold upd; split <;> rfl

theorem projC_upd {mc : Nat} (c : Config (MG mc)) (t : Tid) (g' : G) (gh' : Ghost) (l' : L) (lg' : LGhost) :
    projC (mc := mc) ⟨(g', gh'), upd c.l t (l', lg')⟩ = ⟨g', upd (projC c).l t l'⟩ :=
  congrArg (fun f => (⟨g', f⟩ : Config (M intAlg mc))) (proj_upd (α := L) (β := LGhost) c.l t (l', lg'))

theorem reach_proj {mc : Nat} {c : Config (MG mc)} (h : Reach (MG mc) c) : Reach (M intAlg mc) (projC c) := by
  induction h with
  | init => exact Reach.init
  | @step c t a G' L' obs _ hs ih =>
    obtain ⟨g', gh'⟩ := G'
    obtain ⟨l', lg'⟩ := L'
    have hp : step intAlg mc t (Prod.fst c.g) (Prod.fst (c.l t)) a = some (g', l', obs.map Prod.fst) :=
      proj_step (gh := Prod.snd c.g) (lg := Prod.snd (c.l t)) hs
    have := Reach.step (M := M intAlg mc) (c := projC c) ih hp
    rw [projC_upd]
    exact this

theorem map_tid_fst (t : Tid) (obs' : List (Obs × LGhost)) :
    (obs'.map (fun o => (t, o))).map (fun p => (p.1, Prod.fst p.2)) = (obs'.map Prod.fst).map (fun o => (t, o)) := by
  induction obs' with
  | nil => rfl
  | cons o r ih => simp only [List.map_cons, ih]

/-- the instrumented machine performs, on any schedule of non-maintenance actions, exactly the run of
    the un-instrumented machine: same configurations (projected), same observations (tags dropped) -/
theorem run_lift {mc : Nat} (s : List (Tid × Act)) (hs : ∀ p ∈ s, noMaint p.2 = true) :
    ∀ c : Config (MG mc),
      projC (run (MG mc) c s).1 = (run (M intAlg mc) (projC c) s).1 ∧
      (run (MG mc) c s).2.map (fun p => (p.1, Prod.fst p.2)) = (run (M intAlg mc) (projC c) s).2 := by
  induction s with
  | nil => intro c; exact ⟨rfl, rfl⟩
  | cons ta rest ih =>
    intro c
    obtain ⟨t, a⟩ := ta
    have ha : noMaint a = true := hs (t, a) (by simp)
    have ih' := ih (fun p hp => hs p (by simp [hp]))
    cases hm : step intAlg mc t (Prod.fst c.g) (Prod.fst (c.l t)) a with
    | none =>
      have hg : (MG mc).step t c.g (c.l t) a = none := by
        show gstep mc t c.g (c.l t) a = none
        simp only [gstep, ha, hm, if_true]
      have hm' : (M intAlg mc).step t (projC c).g ((projC c).l t) a = none := hm
      simp only [run, hg, hm']
      exact ih' c
    | some r =>
      obtain ⟨g', l', obs⟩ := r
      obtain ⟨gh', lg', obs', hgs, hobs⟩ := lift_step hm ha (Prod.snd c.g) (Prod.snd (c.l t))
      have hgs' : (MG mc).step t c.g (c.l t) a = some ((g', gh'), (l', lg'), obs') := hgs
      have hm' : (M intAlg mc).step t (projC c).g ((projC c).l t) a = some (g', l', obs) := hm
      simp only [run, hgs', hm']
      obtain ⟨h1, h2⟩ := ih' ⟨(g', gh'), upd c.l t (l', lg')⟩
      rw [projC_upd] at h1 h2
      refine ⟨h1, ?_⟩
      rw [List.map_append, h2, ← hobs]
      exact congrArg (fun z : List (Tid × (M intAlg mc).Obs) => z ++ (run (M intAlg mc) ⟨g', upd (projC c).l t l'⟩ rest).2)
        (map_tid_fst t obs')

def valAt (g : G) : Loc → Int
  | .base => g.base
  | .cell c => g.cell c

def live (g : G) : Loc → Prop
  | .base => True
  | .cell c => c < g.ncell

/-- every backing array (published or superseded) holds each cell in at most one slot -/
def AllInj (g : G) : Prop :=
  ∀ a, a < g.narr → ∀ j1 j2 c, (g.arr a).slot j1 = some c → (g.arr a).slot j2 = some c → j1 = j2

/-- slots are write-once -/
def SlotKeep (g g' : G) : Prop :=
  ∀ a, a < g.narr → ∀ j c, (g.arr a).slot j = some c → (g'.arr a).slot j = some c

/-- a step that is not a linearization point: the values are untouched, arrays only grow -/
structure Still (g g' : G) : Prop where
  base : g'.base = g.base
  cell : g'.cell = g.cell
  ncell : g'.ncell = g.ncell
  narr : g.narr ≤ g'.narr
  keep : SlotKeep g g'
  inj : AllInj g → AllInj g'

theorem Still.ofEq {g g' : G} (hb : g'.base = g.base) (hc : g'.cell = g.cell) (hn : g'.ncell = g.ncell)
    (hna : g'.narr = g.narr) (har : g'.arr = g.arr) : Still g g' := by
  refine ⟨hb, hc, hn, by rw [hna]; exact Nat.le_refl _, ?_, ?_⟩
  · intro a _ j c h; rw [har]; exact h
  · intro h a ha
    rw [hna] at ha
    rw [har]; exact h a ha

theorem Still.refl (g : G) : Still g g := .ofEq rfl rfl rfl rfl rfl
theorem Still.busy (g : G) (b : Bool) : Still g { g with busy := b } := .ofEq rfl rfl rfl rfl rfl
theorem Still.actv (g : G) (l : List Nat) : Still g { g with actv := l } := .ofEq rfl rfl rfl rfl rfl
theorem Still.leave (t : Tid) (g : G) (v : V) : Still g (leave t g v) :=
  .ofEq (by simp) (by simp) (by simp) (by simp) (by simp)

theorem Still.trans {g g1 g2 : G} (h1 : Still g g1) (h2 : Still g1 g2) : Still g g2 :=
  ⟨h2.base.trans h1.base, h2.cell.trans h1.cell, h2.ncell.trans h1.ncell, Nat.le_trans h1.narr h2.narr,
   fun a ha j c hs => h2.keep a (Nat.lt_of_lt_of_le ha h1.narr) j c (h1.keep a ha j c hs),
   fun hi => h2.inj (h1.inj hi)⟩

theorem valAt_still {g g' : G} (s : Still g g') (k : Loc) : valAt g' k = valAt g k := by
  cases k <;> simp [valAt, s.base, s.cell]

theorem live_still {g g' : G} (s : Still g g') (k : Loc) : live g' k ↔ live g k := by
  cases k <;> simp [live, s.ncell]

/-- a linearization point: an update by `x` lands at location `ℓ` (which may be created by this step) -/
structure Landed (g g' : G) (ℓ : Loc) (x : Int) : Prop where
  lv : live g' ℓ
  other : ∀ k, k ≠ ℓ → live g' k → live g k ∧ valAt g' k = valAt g k
  val_live : live g ℓ → valAt g' ℓ = valAt g ℓ + x
  val_new : ¬ live g ℓ → valAt g' ℓ = x
  mono : ∀ k, live g k → live g' k
  narr : g.narr ≤ g'.narr
  keep : SlotKeep g g'
  inj : AllInj g → AllInj g'

theorem Landed.still {g g1 g2 : G} {ℓ : Loc} {x : Int} (h : Landed g g1 ℓ x) (s : Still g1 g2) : Landed g g2 ℓ x :=
  ⟨(live_still s ℓ).2 h.lv,
   fun k hk hl => by rw [valAt_still s k]; exact h.other k hk ((live_still s k).1 hl),
   fun hl => by rw [valAt_still s ℓ]; exact h.val_live hl,
   fun hl => by rw [valAt_still s ℓ]; exact h.val_new hl,
   fun k hk => (live_still s k).2 (h.mono k hk), Nat.le_trans h.narr s.narr,
   fun a ha j c hs => s.keep a (Nat.lt_of_lt_of_le ha h.narr) j c (h.keep a ha j c hs),
   fun hi => s.inj (h.inj hi)⟩

theorem Landed_casBase (g : G) (x : Int) : Landed g (casBase g x) .base x := by
  refine ⟨trivial, ?_, fun _ => rfl, fun h => absurd trivial h, ?_, Nat.le_refl _, fun a _ j c hs => hs, fun hi => hi⟩
  · intro k hk hl
    cases k with
    | base => exact absurd rfl hk
    | cell c => exact ⟨hl, rfl⟩
  · intro k hk; cases k <;> exact hk

theorem Landed_casCell (g : G) (c : Nat) (x : Int) (hc : c < g.ncell) : Landed g (casCell g c x) (.cell c) x := by
  refine ⟨hc, ?_, fun _ => by simp [valAt, casCell], fun h => absurd hc h, ?_, Nat.le_refl _,
    fun a _ j c hs => hs, fun hi => hi⟩
  · intro k hk hl
    cases k with
    | base => exact ⟨trivial, rfl⟩
    | cell c' =>
      have : c' ≠ c := fun h => hk (by rw [h])
      exact ⟨hl, by simp [valAt, casCell, this]⟩
  · intro k hk; cases k <;> exact hk

theorem arr_update {g g' : G} {a0 : Nat} {ar : Arr} (harr : ∀ k, g'.arr k = if k = a0 then ar else g.arr k)
    (hn : ∀ a, a < g'.narr → a ≠ a0 → a < g.narr)
    (hkeep : a0 < g.narr → ∀ j c, (g.arr a0).slot j = some c → ar.slot j = some c)
    (hinj : AllInj g → ∀ j1 j2 c, ar.slot j1 = some c → ar.slot j2 = some c → j1 = j2) :
    SlotKeep g g' ∧ (AllInj g → AllInj g') := by
  constructor
  · intro a ha j c hs
    rw [harr]
    by_cases haa : a = a0
    · subst haa; rw [if_pos rfl]; exact hkeep ha j c hs
    · rw [if_neg haa]; exact hs
  · intro hi a ha j1 j2 c h1 h2
    rw [harr] at h1 h2
    by_cases haa : a = a0
    · rw [if_pos haa] at h1 h2; exact hinj hi j1 j2 c h1 h2
    · rw [if_neg haa] at h1 h2; exact hi a (hn a ha haa) j1 j2 c h1 h2

theorem Landed.newCell {g g' : G} {x : Int} (hb : g'.base = g.base) (hn : g'.ncell = g.ncell + 1)
    (hc : ∀ k, g'.cell k = if k = g.ncell then x else g.cell k) (hnarr : g.narr ≤ g'.narr)
    (hk : SlotKeep g g' ∧ (AllInj g → AllInj g')) : Landed g g' (.cell g.ncell) x := by
  refine ⟨by show g.ncell < g'.ncell; omega, ?_, fun h => absurd h (Nat.lt_irrefl _),
    fun _ => by show g'.cell g.ncell = x; rw [hc, if_pos rfl], ?_, hnarr, hk.1, hk.2⟩
  · intro k hk hl
    cases k with
    | base => exact ⟨trivial, hb⟩
    | cell c =>
      have hne : c ≠ g.ncell := fun h => hk (by rw [h])
      have hl' : c < g'.ncell := hl
      exact ⟨show c < g.ncell by omega, by show g'.cell c = g.cell c; rw [hc, if_neg hne]⟩
  · intro k hk
    cases k with
    | base => trivial
    | cell c => show c < g'.ncell; have : c < g.ncell := hk; omega

theorem Landed_attach {g : G} (hG : GInv g) {a len j : Nat} (x : Int) (ht : g.tbl = some (a, len))
    (hnone : (g.arr a).slot j = none) : Landed g (attach g a j x) (.cell g.ncell) x := by
  obtain ⟨ha, _, _, _⟩ := hG.tbl_wf a len ht
  refine .newCell rfl rfl (fun _ => rfl) (Nat.le_refl _)
    (arr_update (a0 := a) (ar := setSlot (g.arr a) j g.ncell) (fun _ => rfl) (fun _ h _ => h) ?_ ?_)
  · intro _ i c hs
    have : i ≠ j := fun hij => by subst hij; rw [hnone] at hs; cases hs
    simp [setSlot, this, hs]
  · -- the new cell is in slot `j` only, the old cells are below `g.ncell`
    intro hi j1 j2 c h1 h2
    simp only [setSlot] at h1 h2
    by_cases e1 : j1 = j <;> by_cases e2 : j2 = j
    · omega
    · simp [e1, e2] at h1 h2
      have := hG.slot_valid a j2 c ha h2; omega
    · simp [e1, e2] at h1 h2
      have := hG.slot_valid a j1 c ha h1; omega
    · simp [e1, e2] at h1 h2
      exact hi a ha j1 j2 c h1 h2

theorem Landed_initTable (g : G) (j : Nat) (x : Int) : Landed g (initTable g j x) (.cell g.ncell) x := by
  refine .newCell rfl rfl (fun _ => rfl) (Nat.le_succ _)
    (arr_update (a0 := g.narr) (fun _ => rfl) (fun a h hne => Nat.lt_of_le_of_ne (Nat.le_of_lt_succ h) hne)
      (fun h => absurd h (Nat.lt_irrefl _)) ?_)
  intro _ j1 j2 c h1 h2
  dsimp only at h1 h2
  split at h1 <;> split at h2 <;> try contradiction
  omega

theorem Still_growRealloc {g : G} {a : Nat} (ha : a < g.narr) (n : Nat) : Still g (growRealloc g a n) := by
  have h := arr_update (g := g) (g' := growRealloc g a n) (a0 := g.narr) (fun _ => rfl)
    (fun a h hne => Nat.lt_of_le_of_ne (Nat.le_of_lt_succ h) hne) (fun h => absurd h (Nat.lt_irrefl _)) (by
      intro hi j1 j2 c h1 h2
      dsimp only at h1 h2
      split at h1 <;> split at h2 <;> try contradiction
      exact hi a ha j1 j2 c h1 h2)
  exact ⟨rfl, rfl, rfl, Nat.le_succ _, h.1, h.2⟩

def Eff (g : G) (pc : PC) (v : V) (g' : G) (obs : List Obs) : Prop :=
  if obs.any isLp then Landed g g' (lpLoc g pc v) v.x else Still g g'

theorem stepRun_eff {mc : Nat} {t : Tid} {g : G} {pc : PC} {v : V} {w : Nat} {g' : G} {l' : L} {obs : List Obs}
    (hG : GInv g) (hL : LInvPC g v pc) (hm : v.mnt = false) (hs : stepRun intAlg mc t g pc v w = (g', l', obs)) :
    Eff g pc v g' obs := by
  cases Step.of_eq hs with
  | tau => exact Still.refl _
  | acquire => exact Still.busy _ _
  | release => exact Still.busy _ _
  | releaseRet => exact (Still.busy _ _).trans (Still.leave _ _ _)
  | casBase hp => rcases hp with rfl | rfl <;> exact (Landed_casBase _ _).still (Still.leave _ _ _)
  | casCell hp => rcases hp with rfl | rfl <;> exact (Landed_casCell _ _ _ hL).still (Still.leave _ _ _)
  | attach hp => subst hp; exact Landed_attach hG _ hL.1 hL.2.2
  | init hp => subst hp; exact Landed_initTable _ _ _
  | reslice => exact .ofEq rfl rfl rfl rfl rfl
  | realloc hp => subst hp; exact Still_growRealloc (hL.2 ▸ (hG.tbl_wf _ _ hL.1).1) _
  | storeBase hp => subst hp; exact absurd hL (by simp [LInvPC, hm])
  | storeTable r hp => subst hp; exact absurd hL (by simp [LInvPC, hm])
  | ret => exact Still.leave _ _ _

structure GhInv (g : G) (gh : Ghost) : Prop where
  val_hist : ∀ ℓ, live g ℓ → valAt g ℓ = lsum gh.xOf (gh.hist ℓ)
  hist_loc : ∀ ℓ u, u ∈ gh.hist ℓ ↔ gh.loc u = some ℓ
  hist_nodup : ∀ ℓ, (gh.hist ℓ).Nodup
  loc_lt : ∀ u ℓ, gh.loc u = some ℓ → u < gh.nupd
  loc_live : ∀ u ℓ, gh.loc u = some ℓ → live g ℓ
  lped_iff : ∀ u, u ∈ gh.lped ↔ gh.loc u ≠ none
  completed_loc : ∀ u, u ∈ gh.completed → gh.loc u ≠ none
  all_inj : AllInj g

theorem GhInv.hist_dead {g : G} {gh : Ghost} (h : GhInv g gh) {ℓ : Loc} (hl : ¬ live g ℓ) : gh.hist ℓ = [] := by
  apply List.eq_nil_iff_forall_not_mem.2
  intro u hu
  exact hl (h.loc_live u ℓ ((h.hist_loc ℓ u).1 hu))

theorem GhInv.no_double_count {g : G} {gh : Ghost} (h : GhInv g gh) {ℓ1 ℓ2 : Loc} {u : Nat}
    (h1 : u ∈ gh.hist ℓ1) (h2 : u ∈ gh.hist ℓ2) : ℓ1 = ℓ2 := by
  have e1 := (h.hist_loc ℓ1 u).1 h1
  have e2 := (h.hist_loc ℓ2 u).1 h2
  rw [e1] at e2; cases e2; rfl

theorem ghinv_init : GhInv initG Ghost.init := by
  refine ⟨?_, ?_, ?_, ?_, ?_, ?_, ?_, ?_⟩
  · intro ℓ hl
    cases ℓ with
    | base => rfl
    | cell c => exact absurd hl (Nat.not_lt_zero _)
  · intro ℓ u; simp [Ghost.init]
  · intro ℓ; simp [Ghost.init]
  · intro u ℓ h; cases h
  · intro u ℓ h; cases h
  · intro u; simp [Ghost.init]
  · intro u h; cases h
  · intro a ha; exact absurd ha (Nat.not_lt_zero _)

theorem ghinv_still {g g' : G} {gh : Ghost} (h : GhInv g gh) (s : Still g g') : GhInv g' gh :=
  ⟨fun ℓ hl => by rw [valAt_still s]; exact h.val_hist ℓ ((live_still s ℓ).1 hl), h.hist_loc, h.hist_nodup, h.loc_lt,
   fun u ℓ hu => (live_still s ℓ).2 (h.loc_live u ℓ hu), h.lped_iff, h.completed_loc, s.inj h.all_inj⟩

theorem ghinv_alloc {g : G} {gh : Ghost} (h : GhInv g gh) (x : Int) : GhInv g (gh.alloc x) := by
  refine ⟨?_, h.hist_loc, h.hist_nodup, ?_, h.loc_live, h.lped_iff, h.completed_loc, h.all_inj⟩
  · intro ℓ hl
    rw [h.val_hist ℓ hl]
    apply lsum_congr
    intro u hu
    have := h.loc_lt u ℓ ((h.hist_loc ℓ u).1 hu)
    have hne : u ≠ gh.nupd := by omega
    simp [Ghost.alloc, hne]
  · intro u ℓ hu
    have := h.loc_lt u ℓ hu
    show u < gh.nupd + 1
    omega

theorem ghinv_complete {g : G} {gh : Ghost} {u : Nat} (h : GhInv g gh) (hu : gh.loc u ≠ none) :
    GhInv g (gh.complete u) := by
  refine ⟨h.val_hist, h.hist_loc, h.hist_nodup, h.loc_lt, h.loc_live, h.lped_iff, ?_, h.all_inj⟩
  intro w hw
  show gh.loc w ≠ none
  have hw' : w ∈ u :: gh.completed := hw
  rcases List.mem_cons.1 hw' with rfl | hw''
  · exact hu
  · exact h.completed_loc w hw''

theorem Ghost.mem_land_hist {gh : Ghost} {u w : Nat} {ℓ k : Loc} :
    w ∈ (gh.land u ℓ).hist k ↔ w ∈ gh.hist k ∨ (k = ℓ ∧ w = u) := by
  show w ∈ (if k = ℓ then gh.hist k ++ [u] else gh.hist k) ↔ _
  by_cases hk : k = ℓ <;> simp [hk]

theorem Ghost.land_loc_eq {gh : Ghost} {u w : Nat} {ℓ k : Loc} (hn : gh.loc u = none) :
    (gh.land u ℓ).loc w = some k ↔ gh.loc w = some k ∨ (k = ℓ ∧ w = u) := by
  show (if w = u then some ℓ else gh.loc w) = some k ↔ _
  by_cases hw : w = u
  · subst hw; simp [hn, eq_comm]
  · simp [hw]

theorem Ghost.land_loc_ne_none {gh : Ghost} {u w : Nat} {ℓ : Loc} :
    (gh.land u ℓ).loc w ≠ none ↔ w = u ∨ gh.loc w ≠ none := by
  show (if w = u then some ℓ else gh.loc w) ≠ none ↔ _
  by_cases hw : w = u <;> simp [hw]

theorem ghinv_land {g g' : G} {gh : Ghost} {u : Nat} {ℓ : Loc} (h : GhInv g gh) (hu : u < gh.nupd)
    (hn : gh.loc u = none) (hl : Landed g g' ℓ (gh.xOf u)) : GhInv g' (gh.land u ℓ) := by
  have hnotin : ∀ k, u ∉ gh.hist k := fun k hk => by
    have := (h.hist_loc k u).1 hk; rw [hn] at this; cases this
  refine ⟨?_, fun k w => by rw [Ghost.mem_land_hist, Ghost.land_loc_eq hn, h.hist_loc], ?_, ?_, ?_,
    fun w => by rw [Ghost.land_loc_ne_none, ← h.lped_iff]; exact List.mem_cons,
    fun w hw => Ghost.land_loc_ne_none.2 (Or.inr (h.completed_loc w hw)), hl.inj h.all_inj⟩
  · intro k hk
    show valAt g' k = lsum gh.xOf (if k = ℓ then gh.hist k ++ [u] else gh.hist k)
    by_cases hkl : k = ℓ
    · subst hkl
      rw [if_pos rfl, lsum_append]
      simp only [lsum]
      by_cases hlv : live g k
      · rw [hl.val_live hlv, h.val_hist k hlv]; omega
      · rw [hl.val_new hlv, h.hist_dead hlv]; simp [lsum]
    · rw [if_neg hkl]
      obtain ⟨h1, h2⟩ := hl.other k hkl hk
      rw [h2, h.val_hist k h1]
  · intro k
    show (if k = ℓ then gh.hist k ++ [u] else gh.hist k).Nodup
    by_cases hk : k = ℓ
    · rw [if_pos hk]
      exact List.nodup_append.2 ⟨h.hist_nodup k, by simp,
        fun a ha b hb hab => hnotin k (by rw [List.mem_singleton.1 hb] at hab; exact hab ▸ ha)⟩
    · rw [if_neg hk]; exact h.hist_nodup k
  · intro w k hw
    rcases (Ghost.land_loc_eq hn).1 hw with hw | ⟨_, rfl⟩
    · exact h.loc_lt w k hw
    · exact hu
  · intro w k hw
    rcases (Ghost.land_loc_eq hn).1 hw with hw | ⟨rfl, _⟩
    · exact hl.mono k (h.loc_live w k hw)
    · exact hl.lv

/-- ghost maps only grow, operands of allocated ids never change, only the acting update (`who`) may land,
    occupied slots stay -/
structure Guar (who : Option Nat) (g : G) (gh : Ghost) (g' : G) (gh' : Ghost) : Prop where
  nupd_mono : gh.nupd ≤ gh'.nupd
  xOf_keep : ∀ u, u < gh.nupd → gh'.xOf u = gh.xOf u
  loc_keep : ∀ u ℓ, gh.loc u = some ℓ → gh'.loc u = some ℓ
  loc_only : ∀ w, gh'.loc w ≠ gh.loc w → who = some w
  lped_mono : ∀ u, u ∈ gh.lped → u ∈ gh'.lped
  keep : SlotKeep g g'

theorem Guar.ofKeep {g g' : G} (gh : Ghost) (k : SlotKeep g g') (w : Option Nat) : Guar w g gh g' gh :=
  ⟨Nat.le_refl _, fun _ _ => rfl, fun _ _ h => h, fun _ h => absurd rfl h, fun _ h => h, k⟩

theorem Guar.alloc {g g' : G} (gh : Ghost) (k : SlotKeep g g') (x : Int) : Guar none g gh g' (gh.alloc x) := by
  refine ⟨Nat.le_succ _, ?_, fun _ _ h => h, fun _ h => absurd rfl h, fun _ h => h, k⟩
  intro u hu
  have : u ≠ gh.nupd := by omega
  simp [Ghost.alloc, this]

theorem Guar.complete {w : Option Nat} {g g' : G} {gh gh' : Ghost} (h : Guar w g gh g' gh') (u : Nat) :
    Guar w g gh g' (gh'.complete u) :=
  ⟨h.nupd_mono, h.xOf_keep, h.loc_keep, h.loc_only, h.lped_mono, h.keep⟩

theorem Guar.land {g g' : G} {gh : Ghost} {u : Nat} (ℓ : Loc) (hn : gh.loc u = none) (k : SlotKeep g g') :
    Guar (some u) g gh g' (gh.land u ℓ) := by
  refine ⟨Nat.le_refl _, fun _ _ => rfl, fun w k' hw => (Ghost.land_loc_eq hn).2 (Or.inl hw), fun w hw => ?_,
    fun w hw => List.mem_cons_of_mem _ hw, k⟩
  by_cases e : w = u
  · rw [e]
  · exact absurd (if_neg e) hw

/-- accumulator of an in-flight `Sum` (the model accumulates wrapped loads, hence modulo 2^64) -/
def SumCore (gh : Ghost) (v : V) (counted : List Nat) : Prop :=
  wrap64 v.acc = wrap64 (lsum gh.xOf counted) ∧ counted.Nodup

/-- everything counted so far sits at `base` or in a cell of an already visited slot of the loaded array -/
def Cnt (g : G) (gh : Ghost) (v : V) (counted : List Nat) : Prop :=
  ∀ u ∈ counted, gh.loc u = some .base ∨
    ∃ c j, j < v.i ∧ (g.arr v.as.1).slot j = some c ∧ gh.loc u = some (.cell c)

/-- everything that must be counted is counted or sits in a cell of a slot still to be visited -/
def Must (g : G) (gh : Ghost) (v : V) (counted must : List Nat) : Prop :=
  ∀ u ∈ must, u ∈ counted ∨
    ∃ c j, v.i ≤ j ∧ j < v.as.2 ∧ (g.arr v.as.1).slot j = some c ∧ gh.loc u = some (.cell c)

def SumInv (g : G) (gh : Ghost) (v : V) (counted must : List Nat) : PC → Prop
  | .s0 => counted = [] ∧ v.acc = 0 ∧ ∀ u ∈ must, gh.loc u ≠ none
  | .s1 => SumCore gh v counted ∧ (∀ u ∈ counted, gh.loc u = some .base) ∧
           (∀ u ∈ must, u ∈ counted ∨ ∃ c, gh.loc u = some (.cell c))
  | .s2 => SumCore gh v counted ∧ Cnt g gh v counted ∧ Must g gh v counted must
  | .s3 => SumCore gh v counted ∧ Cnt g gh v counted ∧ Must g gh v counted must ∧
           (g.arr v.as.1).slot v.i = some v.a
  | _ => False

/-- the result of a returned `Sum`, relative to a (later) ghost state -/
def FinalAt (gh : Ghost) (r : Int) (counted must : List Nat) : Prop :=
  r = wrap64 (lsum gh.xOf counted) ∧ counted.Nodup ∧ (∀ u ∈ must, u ∈ counted) ∧
    (∀ u ∈ counted, u ∈ gh.lped ∧ u < gh.nupd)

/-- what a thread's ghost says about it (not the table invariant `Float.TInv`): an `Add` owns an allocated update
    id, unlocated before its linearization point and located after it; a `Sum` carries `counted` and `must` -/
def TInv (g : G) (gh : Ghost) : L → LGhost → Prop
  | .idle, lg => lg = .none
  | .run pc v, lg => v.mnt = false ∧
      (preLP pc = true → ∃ u, lg = .upd u ∧ u < gh.nupd ∧ gh.loc u = none ∧ gh.xOf u = v.x) ∧
      (postLP pc = true → ∃ u, lg = .upd u ∧ u < gh.nupd ∧ gh.loc u ≠ none) ∧
      (preLP pc = false → postLP pc = false →
        ∃ counted must, lg = .sum counted must ∧ SumInv g gh v counted must pc)

theorem pre_not_post {pc : PC} (h : preLP pc = true) : postLP pc = false := by
  cases pc <;> first | rfl | cases h

theorem SumInv.pc_cases {g : G} {gh : Ghost} {v : V} {counted must : List Nat} {pc : PC}
    (h : SumInv g gh v counted must pc) : pc = .s0 ∨ pc = .s1 ∨ pc = .s2 ∨ pc = .s3 := by
  cases pc <;> first | exact False.elim h | simp

theorem SumInv.pc {g : G} {gh : Ghost} {v : V} {counted must : List Nat} {pc : PC}
    (h : SumInv g gh v counted must pc) : preLP pc = false ∧ postLP pc = false := by
  rcases h.pc_cases with rfl | rfl | rfl | rfl <;> exact ⟨rfl, rfl⟩

theorem TInv.run_iff {g : G} {gh : Ghost} {pc : PC} {v : V} {lg : LGhost} :
    TInv g gh (.run pc v) lg ↔ v.mnt = false ∧
      ((∃ u, lg = .upd u ∧ u < gh.nupd ∧
        ((preLP pc = true ∧ gh.loc u = none ∧ gh.xOf u = v.x) ∨ (postLP pc = true ∧ gh.loc u ≠ none))) ∨
       (∃ counted must, lg = .sum counted must ∧ SumInv g gh v counted must pc)) := by
  constructor
  · rintro ⟨hm, h1, h2, h3⟩
    refine ⟨hm, ?_⟩
    cases hp : preLP pc
    · cases hq : postLP pc
      · exact .inr (h3 hp hq)
      · obtain ⟨u, e, hu, hn⟩ := h2 hq
        exact .inl ⟨u, e, hu, .inr ⟨rfl, hn⟩⟩
    · obtain ⟨u, e, hu, hn, hx⟩ := h1 hp
      exact .inl ⟨u, e, hu, .inl ⟨rfl, hn, hx⟩⟩
  · rintro ⟨hm, ⟨u, rfl, hu, ⟨hp, hn, hx⟩ | ⟨hq, hn⟩⟩ | ⟨counted, must, rfl, hS⟩⟩
    · exact ⟨hm, fun _ => ⟨u, rfl, hu, hn, hx⟩, fun h => (by rw [pre_not_post hp] at h; cases h),
        fun h => (by rw [hp] at h; cases h)⟩
    · exact ⟨hm, fun h => (by rw [pre_not_post h] at hq; cases hq), fun _ => ⟨u, rfl, hu, hn⟩,
        fun _ h => (by rw [hq] at h; cases h)⟩
    · exact ⟨hm, fun hp => (by rw [hS.pc.1] at hp; cases hp), fun hp => (by rw [hS.pc.2] at hp; cases hp),
        fun _ _ => ⟨counted, must, rfl, hS⟩⟩

theorem TInv.upd_lt {g : G} {gh : Ghost} {l : L} {u : Nat} (h : TInv g gh l (.upd u)) : u < gh.nupd := by
  cases l with
  | idle => cases h
  | run pc v =>
    obtain ⟨_, ⟨_, e, hu, _⟩ | ⟨_, _, e, _⟩⟩ := TInv.run_iff.1 h <;> cases e
    exact hu

def whoOf : LGhost → Option Nat
  | .upd u => some u
  | _ => none

theorem Guar.loc_ne_none {w : Option Nat} {g g' : G} {gh gh' : Ghost} (h : Guar w g gh g' gh') {u : Nat}
    (hu : gh.loc u ≠ none) : gh'.loc u ≠ none := by
  cases hl : gh.loc u with
  | none => exact absurd hl hu
  | some ℓ => rw [h.loc_keep u ℓ hl]; simp

theorem SumCore.stable {w : Option Nat} {g g' : G} {gh gh' : Ghost} {v : V} {counted : List Nat}
    (hGh : GhInv g gh) (hGu : Guar w g gh g' gh') (hl : ∀ u ∈ counted, gh.loc u ≠ none)
    (h : SumCore gh v counted) : SumCore gh' v counted := by
  refine ⟨?_, h.2⟩
  rw [h.1]
  congr 1
  apply lsum_congr
  intro u hu
  cases hlu : gh.loc u with
  | none => exact absurd hlu (hl u hu)
  | some ℓ => exact (hGu.xOf_keep u (hGh.loc_lt u ℓ hlu)).symm

theorem Cnt.located {g : G} {gh : Ghost} {v : V} {counted : List Nat} (h : Cnt g gh v counted) :
    ∀ u ∈ counted, gh.loc u ≠ none := by
  intro u hu
  rcases h u hu with e | ⟨c, j, _, _, e⟩ <;> rw [e] <;> simp

theorem Cnt.stable {w : Option Nat} {g g' : G} {gh gh' : Ghost} {v : V} {counted : List Nat}
    (hGu : Guar w g gh g' gh') (hn : v.as.1 < g.narr) (h : Cnt g gh v counted) : Cnt g' gh' v counted := by
  intro u hu
  rcases h u hu with e | ⟨c, j, hj, hs, e⟩
  · exact Or.inl (hGu.loc_keep u _ e)
  · exact Or.inr ⟨c, j, hj, hGu.keep _ hn j c hs, hGu.loc_keep u _ e⟩

theorem Must.stable {w : Option Nat} {g g' : G} {gh gh' : Ghost} {v : V} {counted must : List Nat}
    (hGu : Guar w g gh g' gh') (hn : v.as.1 < g.narr) (h : Must g gh v counted must) :
    Must g' gh' v counted must := by
  intro u hu
  rcases h u hu with e | ⟨c, j, h1, h2, hs, e⟩
  · exact Or.inl e
  · exact Or.inr ⟨c, j, h1, h2, hGu.keep _ hn j c hs, hGu.loc_keep u _ e⟩

theorem SumInv.stable {w : Option Nat} {g g' : G} {gh gh' : Ghost} {v : V} {counted must : List Nat} {pc : PC}
    (hGh : GhInv g gh) (hGu : Guar w g gh g' gh') (hL : LInvPC g v pc)
    (h : SumInv g gh v counted must pc) : SumInv g' gh' v counted must pc := by
  rcases h.pc_cases with rfl | rfl | rfl | rfl <;> simp only [SumInv] at h ⊢
  · exact ⟨h.1, h.2.1, fun u hu => hGu.loc_ne_none (h.2.2 u hu)⟩
  · obtain ⟨h1, h2, h3⟩ := h
    refine ⟨h1.stable hGh hGu (fun u hu => by rw [h2 u hu]; simp), fun u hu => hGu.loc_keep u _ (h2 u hu), ?_⟩
    intro u hu
    rcases h3 u hu with e | ⟨c, e⟩
    · exact Or.inl e
    · exact Or.inr ⟨c, hGu.loc_keep u _ e⟩
  · obtain ⟨h1, h2, h3⟩ := h
    have hn : v.as.1 < g.narr := hL.2
    exact ⟨h1.stable hGh hGu h2.located, h2.stable hGu hn, h3.stable hGu hn⟩
  · obtain ⟨h1, h2, h3, h4⟩ := h
    have hn : v.as.1 < g.narr := hL.2.1
    exact ⟨h1.stable hGh hGu h2.located, h2.stable hGu hn, h3.stable hGu hn, hGu.keep _ hn _ _ h4⟩

theorem TInv.stable {w : Option Nat} {g g' : G} {gh gh' : Ghost} {l : L} {lg : LGhost}
    (hGh : GhInv g gh) (hGu : Guar w g gh g' gh') (hL : LInv g l) (hw : ∀ u, lg = .upd u → w ≠ some u)
    (h : TInv g gh l lg) : TInv g' gh' l lg := by
  cases l with
  | idle => exact h
  | run pc v =>
    obtain ⟨hm, ⟨u, rfl, hu, hpc⟩ | ⟨counted, must, rfl, hS⟩⟩ := TInv.run_iff.1 h
    · refine TInv.run_iff.2 ⟨hm, .inl ⟨u, rfl, Nat.lt_of_lt_of_le hu hGu.nupd_mono, ?_⟩⟩
      rcases hpc with ⟨hp, hn, hx⟩ | ⟨hq, hn⟩
      · -- only the acting update may land
        exact .inl ⟨hp, Classical.byContradiction fun hne => hw u rfl (hGu.loc_only u (by rw [hn]; exact hne)),
          by rw [hGu.xOf_keep u hu]; exact hx⟩
      · exact .inr ⟨hq, hGu.loc_ne_none hn⟩
    · exact TInv.run_iff.2 ⟨hm, .inr ⟨_, _, rfl, hS.stable hGh hGu hL⟩⟩

theorem sar_false {v : V} (hL : v.sar = true → v.mnt = true) (hm : v.mnt = false) : v.sar = false := by
  cases h : v.sar
  · rfl
  · rw [hL h] at hm; cases hm

theorem Cnt.mono {g : G} {gh : Ghost} {v v' : V} {counted : List Nat} (h : Cnt g gh v counted)
    (ha : v'.as = v.as) (hi : v.i ≤ v'.i) : Cnt g gh v' counted := by
  intro u hu
  rcases h u hu with e | ⟨c, j, hj, hs, e⟩
  · exact Or.inl e
  · exact Or.inr ⟨c, j, Nat.lt_of_lt_of_le hj hi, by rw [ha]; exact hs, e⟩

theorem Must.next {g : G} {gh : Ghost} {v v' : V} {counted counted' must : List Nat} (h : Must g gh v counted must)
    (ha : v'.as = v.as) (hi : v'.i = v.i + 1) (hc : ∀ u ∈ counted, u ∈ counted')
    (hslot : ∀ u c, (g.arr v.as.1).slot v.i = some c → gh.loc u = some (.cell c) → u ∈ counted') :
    Must g gh v' counted' must := by
  intro u hu
  rcases h u hu with e | ⟨c, j, h1, h2, hs, e⟩
  · exact Or.inl (hc u e)
  · by_cases hj : j = v.i
    · subst hj; exact Or.inl (hslot u c hs e)
    · exact Or.inr ⟨c, j, by omega, by rw [ha]; exact h2, by rw [ha]; exact hs, e⟩

theorem SumInv.mk2 {g : G} {gh : Ghost} {v : V} {counted must : List Nat} (h1 : SumCore gh v counted)
    (h2 : Cnt g gh v counted) (h3 : Must g gh v counted must) : SumInv g gh v counted must .s2 :=
  And.intro h1 (And.intro h2 h3)

theorem GhInv.located {g : G} {gh : Ghost} (h : GhInv g gh) {u : Nat} (hu : gh.loc u ≠ none) :
    u ∈ gh.lped ∧ u < gh.nupd := by
  refine ⟨(h.lped_iff u).2 hu, ?_⟩
  cases hl : gh.loc u with
  | none => exact absurd hl hu
  | some ℓ => exact h.loc_lt u ℓ hl

local macro "fin " h:ident : tactic =>
  `(tactic| (simp only [Prod.mk.injEq] at $h:ident; obtain ⟨h1, h2, h3⟩ := $h:ident; subst h1 h2 h3))

def SumPost (g : G) (gh : Ghost) (cnt must : List Nat) (g' : G) (l' : L) (obs : List Obs) : Prop :=
  Still g g' ∧
  ((obs = [] ∧ ∃ pc' v', l' = .run pc' v' ∧ SumInv g' gh v' cnt must pc') ∨
   (∃ r, obs = [.ret (some r)] ∧ l' = .idle ∧ FinalAt gh r cnt must))

theorem sumNext_post {t : Tid} {g : G} {gh : Ghost} {u : V} {cnt must : List Nat} {g' : G} {l' : L} {obs : List Obs}
    (hGh : GhInv g gh) (hsar : u.sar = false) (hc : SumCore gh u cnt) (hcnt : Cnt g gh { u with i := u.i + 1 } cnt)
    (hm : Must g gh { u with i := u.i + 1 } cnt must) (hs : sumNext intAlg t g u = (g', l', obs)) :
    SumPost g gh cnt must g' l' obs := by
  unfold sumNext at hs
  by_cases hlast : u.i + 1 < u.as.2
  · rw [if_pos hlast] at hs
    fin hs
    exact ⟨Still.refl _, .inl ⟨rfl, _, _, rfl, SumInv.mk2 hc hcnt hm⟩⟩
  · rw [if_neg hlast, hsar, if_neg Bool.false_ne_true] at hs
    fin hs
    exact ⟨Still.leave _ _ _, .inr ⟨_, rfl, rfl, hc.1, hc.2,
      fun w hw => (hm w hw).elim id fun ⟨_, _, h1, h2, _⟩ => absurd (Nat.lt_of_le_of_lt h1 h2) hlast,
      fun w hw => hGh.located (hcnt.located w hw)⟩⟩

theorem sum_step {mc : Nat} {t : Tid} {g : G} {gh : Ghost} {pc : PC} {v : V} {w : Nat} {g' : G} {l' : L}
    {obs : List Obs} {counted must : List Nat}
    (hG : GInv g) (hGh : GhInv g gh) (hL : LInvPC g v pc) (hm : v.mnt = false)
    (hS : SumInv g gh v counted must pc) (hs : stepRun intAlg mc t g pc v w = (g', l', obs)) :
    SumPost g gh (readHist gh pc v counted) must g' l' obs := by
  rcases hS.pc_cases with rfl | rfl | rfl | rfl
  · -- the read of `base` counts its history
    simp only [stepRun] at hs
    fin hs
    obtain ⟨rfl, _, hmust⟩ := hS
    refine ⟨Still.refl _, .inl ⟨rfl, .s1, _, rfl, ?_⟩⟩
    show SumInv g gh _ ([] ++ gh.hist .base) must .s1
    rw [List.nil_append]
    refine ⟨⟨?_, hGh.hist_nodup _⟩, fun u hu => (hGh.hist_loc _ u).1 hu, fun u hu => ?_⟩
    · show wrap64 (wrap64 g.base) = _
      rw [wrap64_idem]; congr 1; exact hGh.val_hist .base trivial
    · cases hl : gh.loc u with
      | none => exact absurd hl (hmust u hu)
      | some ℓ =>
        cases ℓ with
        | base => exact .inl ((hGh.hist_loc _ u).2 hl)
        | cell c => exact .inr ⟨c, rfl⟩
  · have hsar := sar_false hL hm
    obtain ⟨hcore, hcnt, hmust⟩ := hS
    cases htb : g.tbl with
    | none =>
      -- no table: no cell has been materialised (`GInv.all_in`), so everything in `must` is at `base`
      simp only [stepRun, intAlg_view, htb, hsar, Bool.false_eq_true, if_false] at hs
      fin hs
      refine ⟨Still.leave _ _ _, .inr ⟨_, rfl, rfl, hcore.1, hcore.2, fun u hu => (hmust u hu).elim id ?_,
        fun u hu => hGh.located (by rw [hcnt u hu]; simp)⟩⟩
      rintro ⟨c, e⟩
      obtain ⟨_, _, _, ht, _⟩ := hG.all_in c (hGh.loc_live u _ e)
      rw [htb] at ht; cases ht
    | some tb =>
      -- every materialised cell is in a slot of the published table (`GInv.all_in`), which the `Sum` loads
      simp only [stepRun, htb] at hs
      fin hs
      refine ⟨Still.refl _, .inl ⟨rfl, .s2, _, rfl, SumInv.mk2 hcore (fun u hu => .inl (hcnt u hu)) fun u hu => ?_⟩⟩
      rcases hmust u hu with e | ⟨c, e⟩
      · exact .inl e
      · obtain ⟨a, len, j, ht, hj, hsl⟩ := hG.all_in c (hGh.loc_live u _ e)
        rw [htb] at ht; cases ht
        exact .inr ⟨c, j, Nat.zero_le _, hj, hsl, e⟩
  · obtain ⟨hcore, hcnt, hmust⟩ := hS
    cases hsl : (g.arr v.as.1).slot v.i with
    | none =>
      simp only [stepRun, slotAt, hsl] at hs
      exact sumNext_post hGh (sar_false hL.1 hm) hcore (hcnt.mono rfl (Nat.le_succ _))
        (hmust.next rfl rfl (fun _ h => h) fun u c hs' _ => by rw [hsl] at hs'; cases hs') hs
    | some c =>
      simp only [stepRun, slotAt, hsl] at hs
      fin hs
      exact ⟨Still.refl _, .inl ⟨rfl, .s3, _, rfl, hcore, hcnt, hmust, hsl⟩⟩
  · obtain ⟨hcore, hcnt, hmust, hslot⟩ := hS
    -- the read adds the history of cell `v.a`, the cell of slot `v.i`, and the loop moves on
    have hin : ∀ u, u ∈ gh.hist (.cell v.a) ↔ gh.loc u = some (.cell v.a) := hGh.hist_loc _
    show SumPost g gh (counted ++ gh.hist (.cell v.a)) must g' l' obs
    refine sumNext_post (u := { v with acc := v.acc + wrap64 (g.cell v.a) }) hGh (sar_false hL.1 hm)
      ⟨?_, List.nodup_append.2 ⟨hcore.2, hGh.hist_nodup _, ?_⟩⟩ (fun u hu => ?_)
      (hmust.next rfl rfl (fun u h => List.mem_append_left _ h) fun u c hs' e => by
        rw [hslot] at hs'; cases hs'; exact List.mem_append_right _ ((hin u).2 e)) hs
    · show wrap64 (v.acc + wrap64 (g.cell v.a)) = _
      rw [lsum_append, ← hGh.val_hist (.cell v.a) hL.2.2, wrap64_add']
      exact wrap64_add_congr hcore.1 _
    · -- a counted id sits at `base` or in an earlier slot, and an array holds a cell in one slot only
      intro a ha b hb hab
      subst hab
      have hla := (hin a).1 hb
      rcases hcnt a ha with e | ⟨c, j, hj, hs', e⟩ <;> rw [e] at hla <;> cases hla
      have := hGh.all_inj _ hL.2.1 j v.i _ hs' hslot
      omega
    · rcases List.mem_append.1 hu with hu | hu
      · exact hcnt.mono (v' := { v with i := v.i + 1 }) rfl (Nat.le_succ _) u hu
      · exact .inr ⟨v.a, v.i, Nat.lt_succ_self _, hslot, (hin u).1 hu⟩

theorem ghostG_upd_nil (g : G) (gh : Ghost) (pc : PC) (v : V) (u : Nat) (a : Act) :
    ghostG g gh (.run pc v) (.upd u) a [] = gh := rfl
theorem ghostG_upd_lpret (g : G) (gh : Ghost) (pc : PC) (v : V) (u : Nat) (a : Act) (x : Int) (r : Option Int) :
    ghostG g gh (.run pc v) (.upd u) a [.lp x, .ret r] = (gh.land u (lpLoc g pc v)).complete u := rfl
theorem ghostG_upd_lp (g : G) (gh : Ghost) (pc : PC) (v : V) (u : Nat) (a : Act) (x : Int) :
    ghostG g gh (.run pc v) (.upd u) a [.lp x] = gh.land u (lpLoc g pc v) := rfl
theorem ghostG_upd_ret (g : G) (gh : Ghost) (pc : PC) (v : V) (u : Nat) (a : Act) (r : Option Int) :
    ghostG g gh (.run pc v) (.upd u) a [.ret r] = gh.complete u := rfl

theorem mnt_step {mc : Nat} {t : Tid} {g : G} {pc : PC} {v : V} {w : Nat} {g' : G} {l' : L} {obs : List Obs}
    (hm : v.mnt = false) (hs : stepRun intAlg mc t g pc v w = (g', l', obs)) : isMnt l' = false := by
  cases stepRun_ghost hs with
  | stay _ _ h3 _ _ => rw [h3]; exact hm
  | leaveM _ h2 _ _ => rw [h2]; rfl
  | leaveN _ _ h3 _ _ => rw [h3]; rfl
  | startN h1 => cases h1
  | startM h1 => cases h1

def StepG (g : G) (gh : Ghost) (l : L) (lg : LGhost) (a : Act) (g' : G) (l' : L) (obs : List Obs) : Prop :=
  GhInv g' (ghostG g gh l lg a obs) ∧
  Guar (whoOf lg) g gh g' (ghostG g gh l lg a obs) ∧
  TInv g' (ghostG g gh l lg a obs) l' (lgNext l' (tagOf gh l lg a)) ∧
  (∀ r, Obs.ret (some r) ∈ obs → ∃ counted must, tagOf gh l lg a = .sum counted must ∧ FinalAt gh r counted must)

theorem add_step {mc : Nat} {t : Tid} {g : G} {gh : Ghost} {pc : PC} {v : V} {w : Nat} {g' : G} {l' : L}
    {obs : List Obs} {u : Nat} {a : Act}
    (hG : GInv g) (hGh : GhInv g gh) (hL : LInvPC g v pc) (hm : v.mnt = false) (hu : u < gh.nupd)
    (hpc : (preLP pc = true ∧ gh.loc u = none ∧ gh.xOf u = v.x) ∨ (postLP pc = true ∧ gh.loc u ≠ none))
    (hs : stepRun intAlg mc t g pc v w = (g', l', obs)) : StepG g gh (.run pc v) (.upd u) a g' l' obs := by
  have E := stepRun_eff hG hL hm hs
  have hm' := mnt_step hm hs
  unfold StepG
  rcases hpc with ⟨hp, hn, hx⟩ | ⟨hp, hn⟩
  · -- at its linearization point the update lands, where the heap changes by its operand
    have land : obs.any isLp = true → GhInv g' (gh.land u (lpLoc g pc v)) ∧
        Guar (some u) g gh g' (gh.land u (lpLoc g pc v)) ∧ (gh.land u (lpLoc g pc v)).loc u ≠ none := fun h => by
      have ld : Landed g g' (lpLoc g pc v) v.x := (if_pos h).mp E
      exact ⟨ghinv_land hGh hu hn (hx ▸ ld), Guar.land _ hn ld.keep, by simp [Ghost.land]⟩
    rcases add_pre_step hp hs with ⟨rfl, pc', v', rfl, hp', hx'⟩ | ⟨rfl, rfl⟩ | ⟨rfl, pc', rfl, hp'⟩
    · have st : Still g g' := E
      rw [ghostG_upd_nil]
      exact ⟨ghinv_still hGh st, Guar.ofKeep gh st.keep _,
        TInv.run_iff.2 ⟨hm', .inl ⟨u, rfl, hu, .inl ⟨hp', hn, hx.trans hx'.symm⟩⟩⟩, by simp⟩
    · obtain ⟨hI, hGu, hloc⟩ := land rfl
      rw [ghostG_upd_lpret]
      exact ⟨ghinv_complete hI hloc, hGu.complete u, rfl, by simp⟩
    · obtain ⟨hI, hGu, hloc⟩ := land rfl
      rw [ghostG_upd_lp]
      exact ⟨hI, hGu, TInv.run_iff.2 ⟨hm', .inl ⟨u, rfl, hu, .inr ⟨hp', hloc⟩⟩⟩, by simp⟩
  · obtain ⟨rfl, rfl⟩ := add_post_step hp hs
    have st : Still g g' := E
    rw [ghostG_upd_ret]
    exact ⟨ghinv_complete (ghinv_still hGh st) hn, (Guar.ofKeep gh st.keep _).complete u, rfl, by simp⟩

theorem thread_step {mc : Nat} {t : Tid} {g : G} {gh : Ghost} {l : L} {lg : LGhost} {a : Act}
    {g' : G} {l' : L} {obs : List Obs}
    (hG : GInv g) (hGh : GhInv g gh) (hL : LInv g l) (hT : TInv g gh l lg) (ha : noMaint a = true)
    (hs : step intAlg mc t g l a = some (g', l', obs)) : StepG g gh l lg a g' l' obs := by
  rcases step_cases hs with ⟨rfl, h⟩ | ⟨pc, v, w, rfl, h⟩
  case inr =>
    obtain ⟨hm, ⟨u, rfl, hu, hpc⟩ | ⟨counted, must, rfl, hS⟩⟩ := TInv.run_iff.1 hT
    · exact add_step hG hGh hL hm hu hpc h
    · obtain ⟨st, hcase⟩ := sum_step hG hGh hL hm hS h
      refine ⟨ghinv_still hGh st, Guar.ofKeep gh st.keep _, ?_, ?_⟩
      · rcases hcase with ⟨_, pc', v', rfl, hS'⟩ | ⟨r, _, rfl, _⟩
        · exact TInv.run_iff.2 ⟨mnt_step hm h, .inr ⟨_, _, rfl, hS'⟩⟩
        · rfl
      · intro r hr
        rcases hcase with ⟨rfl, _⟩ | ⟨r', rfl, _, hF⟩
        · cases hr
        · cases List.mem_singleton.1 hr; exact ⟨_, _, rfl, hF⟩
  cases (hT : lg = .none)
  cases h with
  | store | reset | sumAndReset => cases ha
  | add x =>
    have hloc : gh.loc gh.nupd = none := by
      cases h : gh.loc gh.nupd with
      | none => rfl
      | some ℓ => exact absurd (hGh.loc_lt _ _ h) (Nat.lt_irrefl _)
    exact ⟨ghinv_alloc (ghinv_still hGh (Still.actv _ _)) x, Guar.alloc gh (Still.actv _ _).keep x,
      TInv.run_iff.2 ⟨rfl, .inl ⟨_, rfl, Nat.lt_succ_self _, .inl ⟨rfl, hloc,
        show (gh.alloc x).xOf gh.nupd = x by simp [Ghost.alloc]⟩⟩⟩, by simp⟩
  | sum =>
    refine ⟨ghinv_still hGh (Still.actv _ _), Guar.ofKeep gh (Still.actv _ _).keep _, ?_, by simp⟩
    exact TInv.run_iff.2 ⟨rfl, .inr ⟨_, _, rfl,
      show SumInv _ gh {} [] gh.lped .s0 from ⟨rfl, rfl, fun u hu => (hGh.lped_iff u).1 hu⟩⟩⟩

structure SInvAt (g : G) (gh : Ghost) (l : Tid → L × LGhost) : Prop where
  ainv : AInvAt g (fun t => (l t).1)
  ghinv : GhInv g gh
  /-- thread-local ghost invariants; in particular no thread runs a maintenance operation -/
  tinv : ∀ t, TInv g gh (l t).1 (l t).2
  distinct : ∀ t1 t2 u, (l t1).2 = .upd u → (l t2).2 = .upd u → t1 = t2

def SInv {mc : Nat} (c : Config (MG mc)) : Prop := SInvAt (Prod.fst c.g) (Prod.snd c.g) c.l

theorem whoOf_some {lg : LGhost} {w : Nat} (h : whoOf lg = some w) : lg = .upd w := by
  cases lg <;> simp [whoOf] at h
  rw [h]

theorem lgNext_tag_upd {gh : Ghost} {l l' : L} {lg : LGhost} {a : Act} {u : Nat}
    (h : lgNext l' (tagOf gh l lg a) = .upd u) : lg = .upd u ∨ (l = .idle ∧ u = gh.nupd) := by
  cases l' with
  | idle => cases h
  | run pc' v' =>
    have h' : tagOf gh l lg a = .upd u := h
    cases l with
    | idle =>
      cases a <;> simp [tagOf] at h'
      exact Or.inr ⟨rfl, h'.symm⟩
    | run pc v =>
      cases lg <;> simp [tagOf] at h'
      exact Or.inl (by rw [h'])

theorem sinv_step {mc : Nat} {g : G} {gh : Ghost} {l : Tid → L × LGhost} {t : Tid} {a : Act}
    {g' : G} {gh' : Ghost} {l' : L} {lg' : LGhost} {obs' : List (Obs × LGhost)}
    (hI : SInvAt g gh l) (hs : gstep mc t (g, gh) (l t) a = some ((g', gh'), (l', lg'), obs')) :
    SInvAt g' gh' (upd l t (l', lg')) := by
  obtain ⟨ha, obs, hst, rfl, rfl, rfl⟩ := gstep_inv (l := (l t).1) (lg := (l t).2) hs
  have hA' := ainv_step hI.ainv hst
  obtain ⟨hGh', hGu, hT', _⟩ := thread_step hI.ainv.ginv hI.ghinv (hI.ainv.linv t) (hI.tinv t) ha hst
  refine ⟨by rw [proj_upd]; exact hA', hGh', ?_, ?_⟩
  · exact forall_upd (P := fun p : L × LGhost => TInv g gh p.1 p.2) (Q := fun p : L × LGhost => TInv g' _ p.1 p.2) hT'
      (fun u hut h => TInv.stable hI.ghinv hGu (hI.ainv.linv u)
        (fun w hw hwho => hut (hI.distinct u t w hw (whoOf_some hwho))) h) hI.tinv
  · -- a new `.upd u` tag is the mover's old tag or the fresh id `gh.nupd`, which exceeds every live id
    intro t1 t2 u h1 h2
    have key : ∀ x lnew, x ≠ t → (l x).2 = .upd u →
        lgNext lnew (tagOf gh (l t).1 (l t).2 a) = .upd u → False := by
      intro x lnew hx hxu hnew
      rcases lgNext_tag_upd hnew with e | ⟨_, e⟩
      · exact hx (hI.distinct x t u hxu e)
      · have h := hI.tinv x
        rw [hxu] at h
        have := h.upd_lt
        omega
    by_cases e1 : t1 = t <;> by_cases e2 : t2 = t
    · rw [e1, e2]
    · subst e1; simp only [upd_same] at h1; simp only [upd_other _ _ _ _ e2] at h2
      exact absurd (key t2 _ e2 h2 h1) id
    · subst e2; simp only [upd_same] at h2; simp only [upd_other _ _ _ _ e1] at h1
      exact absurd (key t1 _ e1 h1 h2) id
    · simp only [upd_other _ _ _ _ e1] at h1; simp only [upd_other _ _ _ _ e2] at h2
      exact hI.distinct t1 t2 u h1 h2

theorem sinv_reach {mc : Nat} : ∀ c : Config (MG mc), Reach (MG mc) c → SInv c := by
  apply inv_of_reach
  · exact ⟨ainv_init mc, ghinv_init, fun _ => rfl, fun _ _ _ h => by cases h⟩
  · intro c t a G' L' obs hI hs
    obtain ⟨g', gh'⟩ := G'
    obtain ⟨l', lg'⟩ := L'
    exact sinv_step (g := Prod.fst c.g) (gh := Prod.snd c.g) hI hs

section Results
variable {mc : Nat}

abbrev ghostOf (c : Config (MG mc)) : Ghost := Prod.snd c.g
abbrev heapOf (c : Config (MG mc)) : G := Prod.fst c.g

theorem MG_step_inv {c : Config (MG mc)} {t : Tid} {a : Act} {G' : (MG mc).G} {L' : (MG mc).L}
    {obs : List (MG mc).Obs} (hs : (MG mc).step t c.g (c.l t) a = some (G', L', obs)) :
    noMaint a = true ∧ ∃ obsM, step intAlg mc t (heapOf c) (Prod.fst (c.l t)) a = some (Prod.fst G', Prod.fst L', obsM) ∧
      Prod.snd G' = ghostG (heapOf c) (ghostOf c) (Prod.fst (c.l t)) (Prod.snd (c.l t)) a obsM ∧
      Prod.snd L' = lgNext (Prod.fst L') (tagOf (ghostOf c) (Prod.fst (c.l t)) (Prod.snd (c.l t)) a) ∧
      obs = obsM.map (fun o => (o, tagOf (ghostOf c) (Prod.fst (c.l t)) (Prod.snd (c.l t)) a)) :=
  gstep_inv (g := Prod.fst c.g) (gh := Prod.snd c.g) (l := Prod.fst (c.l t)) (lg := Prod.snd (c.l t))
    (g' := Prod.fst G') (gh' := Prod.snd G') (l' := Prod.fst L') (lg' := Prod.snd L') hs

theorem ainv_of_reach {c : Config (MG mc)} (hr : Reach (MG mc) c) : AInv (projC c) :=
  ainv_reach mc (projC c) (reach_proj hr)

theorem sinv_maint {c : Config (MG mc)} (hr : Reach (MG mc) c) :
    (heapOf c).maint = false ∧ ∀ t, isMnt (Prod.fst (c.l t)) = false := by
  have hI := sinv_reach c hr
  have hall : ∀ t, isMnt (Prod.fst (c.l t)) = false := fun t => by
    have hT := hI.tinv t
    cases hl : Prod.fst (c.l t) with
    | idle => rfl
    | run pc v => rw [hl] at hT; exact hT.1
  refine ⟨?_, hall⟩
  cases hm : (heapOf c).maint with
  | false => rfl
  | true =>
    obtain ⟨t, ht⟩ := hI.ainv.maint_iff.1 hm
    rw [hall t] at ht; cases ht

/-- the exact value of `base` and of every materialised cell is the total of the updates landed there -/
theorem value_eq_hist {c : Config (MG mc)} (hr : Reach (MG mc) c) :
    (heapOf c).base = lsum (ghostOf c).xOf ((ghostOf c).hist .base) ∧
    ∀ k, k < (heapOf c).ncell → (heapOf c).cell k = lsum (ghostOf c).xOf ((ghostOf c).hist (.cell k)) :=
  ⟨(sinv_reach c hr).ghinv.val_hist .base trivial, fun k hk => (sinv_reach c hr).ghinv.val_hist (.cell k) hk⟩

/-- an update lands at exactly one location, exactly once -/
theorem no_double_count {c : Config (MG mc)} (hr : Reach (MG mc) c) :
    (∀ ℓ, ((ghostOf c).hist ℓ).Nodup) ∧
    (∀ ℓ1 ℓ2 u, u ∈ (ghostOf c).hist ℓ1 → u ∈ (ghostOf c).hist ℓ2 → ℓ1 = ℓ2) ∧
    (∀ ℓ u, u ∈ (ghostOf c).hist ℓ ↔ (ghostOf c).loc u = some ℓ) :=
  ⟨(sinv_reach c hr).ghinv.hist_nodup, fun _ _ _ h1 h2 => (sinv_reach c hr).ghinv.no_double_count h1 h2,
   (sinv_reach c hr).ghinv.hist_loc⟩

/-- the ids whose linearization point has occurred are the located ones; they include the completed ones -/
theorem lped_spec {c : Config (MG mc)} (hr : Reach (MG mc) c) :
    (∀ u, u ∈ (ghostOf c).lped ↔ (ghostOf c).loc u ≠ none) ∧
    (∀ u, u ∈ (ghostOf c).completed → u ∈ (ghostOf c).lped) ∧
    (∀ u, u ∈ (ghostOf c).lped → u < (ghostOf c).nupd) := by
  have h := (sinv_reach c hr).ghinv
  exact ⟨h.lped_iff, fun u hu => (h.lped_iff u).2 (h.completed_loc u hu),
    fun u hu => (h.located ((h.lped_iff u).1 hu)).2⟩

/-- **C09, every in-flight `Sum`.**  The accumulator is (modulo 2^64) the total of a duplicate-free list
    of updates whose linearization point has occurred. -/
theorem sum_is_set {c : Config (MG mc)} (hr : Reach (MG mc) c) {t : Tid} {pc : PC} {v : V}
    {counted must : List Nat} (h : c.l t = (L.run pc v, LGhost.sum counted must)) :
    wrap64 v.acc = wrap64 (lsum (ghostOf c).xOf counted) ∧ counted.Nodup ∧
    (∀ u ∈ counted, (ghostOf c).loc u ≠ none) := by
  have hT := (sinv_reach c hr).tinv t
  rw [h] at hT
  obtain ⟨_, ⟨_, e, _⟩ | ⟨_, _, e, hS⟩⟩ := TInv.run_iff.1 hT <;> cases e
  rcases hS.pc_cases with rfl | rfl | rfl | rfl
  · obtain ⟨rfl, h0, _⟩ := hS; rw [h0]; exact ⟨rfl, List.nodup_nil, fun u hu => by cases hu⟩
  · exact ⟨hS.1.1, hS.1.2, fun u hu => by rw [hS.2.1 u hu]; simp⟩
  · exact ⟨hS.1.1, hS.1.2, hS.2.1.located⟩
  · exact ⟨hS.1.1, hS.1.2, hS.2.1.located⟩

/-- **C09.**  Whenever a step of `MG` from a reachable configuration emits the response `r` of a `Sum`
    whose ghosts are `counted` and `must`:
    * `r` is the (two's-complement wrapped) total of the operands of the updates in `counted`;
    * `counted` has no duplicates (no update is counted twice, and each is counted whole);
    * every update in `must` -- the updates whose linearization point had occurred when the `Sum` was
      invoked (`sum_invoke`), in particular all that had returned (`lped_spec`) -- is counted;
    * every counted update has passed its linearization point (so it was invoked before the `Sum`
      returned: its id is below the next fresh id). -/
theorem sum_bounds {c : Config (MG mc)} (hr : Reach (MG mc) c) {t : Tid} {a : Act}
    {G' : (MG mc).G} {L' : (MG mc).L} {obs : List (MG mc).Obs}
    (hs : (MG mc).step t c.g (c.l t) a = some (G', L', obs)) {r : Int} {counted must : List Nat}
    (ho : (Obs.ret (some r), LGhost.sum counted must) ∈ obs) :
    r = wrap64 (lsum (ghostOf c).xOf counted) ∧ counted.Nodup ∧ (∀ u ∈ must, u ∈ counted) ∧
    (∀ u ∈ counted, (ghostOf c).loc u ≠ none ∧ u ∈ (ghostOf c).lped ∧ u < (ghostOf c).nupd) := by
  have hI := sinv_reach c hr
  obtain ⟨ha, obsM, hst, _, _, rfl⟩ := MG_step_inv hs
  obtain ⟨o, ho1, ho2⟩ := List.mem_map.1 ho
  simp only [Prod.mk.injEq] at ho2
  obtain ⟨rfl, htag⟩ := ho2
  obtain ⟨_, _, _, hF⟩ := thread_step hI.ainv.ginv hI.ghinv (hI.ainv.linv t) (hI.tinv t) ha hst
  obtain ⟨_, _, e, f1, f2, f3, f4⟩ := hF r ho1
  cases e.symm.trans htag
  exact ⟨f1, f2, f3, fun u hu => ⟨(hI.ghinv.lped_iff u).1 (f4 u hu).1, f4 u hu⟩⟩

/-- invocation of `Sum`: `must` is the list of updates whose linearization point has occurred -/
theorem sum_invoke {t : Tid} {g : G} {gh : Ghost} {lg : LGhost} {g' : G} {gh' : Ghost} {l' : L} {lg' : LGhost}
    {obs : List (Obs × LGhost)}
    (hs : (MG mc).step t (g, gh) (L.idle, lg) Act.sum = some ((g', gh'), (l', lg'), obs)) :
    gh' = gh ∧ lg' = .sum [] gh.lped ∧ obs = [] := by
  obtain ⟨_, obsM, hst, rfl, rfl, rfl⟩ := gstep_inv hs
  rcases step_cases hst with ⟨_, h⟩ | ⟨_, _, _, h, _⟩ <;> cases h
  exact ⟨rfl, rfl, rfl⟩

/-- invocation of `Add x`: a fresh id is allocated and records `x` -/
theorem add_invoke {t : Tid} {g : G} {gh : Ghost} {lg : LGhost} {x : Int} {g' : G} {gh' : Ghost} {l' : L}
    {lg' : LGhost} {obs : List (Obs × LGhost)}
    (hs : (MG mc).step t (g, gh) (L.idle, lg) (Act.add x) = some ((g', gh'), (l', lg'), obs)) :
    gh' = gh.alloc x ∧ lg' = .upd gh.nupd ∧ obs = [] := by
  obtain ⟨_, obsM, hst, rfl, rfl, rfl⟩ := gstep_inv hs
  rcases step_cases hst with ⟨_, h⟩ | ⟨_, _, _, h, _⟩ <;> cases h
  exact ⟨rfl, rfl, rfl⟩

/-- a step of an in-flight `Sum` never changes its `must`, nor the shared ghosts; its observations are
    tagged with its ghost after the step -/
theorem sum_ghost_step {t : Tid} {g : G} {gh : Ghost} {pc : PC} {v : V} {counted must : List Nat} {a : Act}
    {g' : G} {gh' : Ghost} {l' : L} {lg' : LGhost} {obs : List (Obs × LGhost)}
    (hs : (MG mc).step t (g, gh) (L.run pc v, LGhost.sum counted must) a = some ((g', gh'), (l', lg'), obs)) :
    gh' = gh ∧ (lg' = .none ∨ lg' = .sum (readHist gh pc v counted) must) ∧
    ∀ o ∈ obs, o.2 = .sum (readHist gh pc v counted) must := by
  obtain ⟨_, obsM, _, rfl, rfl, rfl⟩ := gstep_inv hs
  refine ⟨rfl, ?_, ?_⟩
  · cases l' with
    | idle => exact Or.inl rfl
    | run _ _ => exact Or.inr rfl
  · intro o ho
    obtain ⟨o', _, rfl⟩ := List.mem_map.1 ho
    rfl

/-! ### The ghost lists, read off the tagged observations

`completed` is exactly the list of ids for which the tagged response `(ret none, upd u)` has been
emitted, `lped` the list of ids for which a tagged `(lp x, upd u)` has been emitted, and then
`x = xOf u`. -/

theorem ghost_meaning_raw {mc : Nat} {t : Tid} {g : G} {gh : Ghost} {l : L} {lg : LGhost} {a : Act}
    {g' : G} {l' : L} {obsM : List Obs} (hT : TInv g gh l lg) (ha : noMaint a = true)
    (hst : step intAlg mc t g l a = some (g', l', obsM)) :
    (∀ u, u ∈ (ghostG g gh l lg a obsM).completed ↔
      u ∈ gh.completed ∨ (Obs.ret none, LGhost.upd u) ∈ obsM.map (fun o => (o, tagOf gh l lg a))) ∧
    (∀ u, u ∈ (ghostG g gh l lg a obsM).lped ↔
      u ∈ gh.lped ∨ ∃ x, (Obs.lp x, LGhost.upd u) ∈ obsM.map (fun o => (o, tagOf gh l lg a))) ∧
    (∀ u x, (Obs.lp x, LGhost.upd u) ∈ obsM.map (fun o => (o, tagOf gh l lg a)) → gh.xOf u = x) := by
  rcases step_cases hst with ⟨rfl, h⟩ | ⟨pc, v, w, rfl, hs⟩
  · -- an invocation emits nothing
    cases h with
    | store | reset | sumAndReset => cases ha
    | add x => refine ⟨?_, ?_, ?_⟩ <;> simp [ghostG, Ghost.alloc]
    | sum => refine ⟨?_, ?_, ?_⟩ <;> simp [ghostG]
  obtain ⟨_, ⟨u0, rfl, _, hpc⟩ | ⟨counted, must, rfl, _⟩⟩ := TInv.run_iff.1 hT
  · -- an `Add` with id `u0`: its step emits `[]`, `[lp x, ret none]`, `[lp x]` (before the linearization point,
    -- `x = xOf u0` by `hx`) or `[ret none]` (after it), all tagged `upd u0`, and `ghostG` lands / completes `u0`
    -- accordingly (`ghostG_upd_*`); each claim is then membership in a list of at most two tagged observations
    rw [show tagOf gh (.run pc v) (.upd u0) a = .upd u0 from rfl]
    rcases hpc with ⟨hp, _, hx⟩ | ⟨hq, _⟩
    · rcases add_pre_step hp hs with ⟨rfl, _⟩ | ⟨rfl, _⟩ | ⟨rfl, _⟩
      · rw [ghostG_upd_nil]; simp
      · rw [ghostG_upd_lpret]; simp +contextual [Ghost.complete, Ghost.land, or_comm, hx]
      · rw [ghostG_upd_lp]; simp +contextual [Ghost.land, or_comm, hx]
    · obtain ⟨rfl, _⟩ := add_post_step hq hs
      rw [ghostG_upd_ret]; simp [Ghost.complete, or_comm]
  · -- a `Sum` leaves the ghost lists alone and tags what it emits with `sum ..`
    refine ⟨?_, ?_, ?_⟩ <;> simp [ghostG, tagOf]

theorem ghost_meaning {mc : Nat} {c : Config (MG mc)} (hr : Reach (MG mc) c) {t : Tid} {a : Act}
    {G' : (MG mc).G} {L' : (MG mc).L} {obs : List (MG mc).Obs}
    (hs : (MG mc).step t c.g (c.l t) a = some (G', L', obs)) :
    (∀ u, u ∈ (Prod.snd G').completed ↔ u ∈ (ghostOf c).completed ∨ (Obs.ret none, LGhost.upd u) ∈ obs) ∧
    (∀ u, u ∈ (Prod.snd G').lped ↔ u ∈ (ghostOf c).lped ∨ ∃ x, (Obs.lp x, LGhost.upd u) ∈ obs) ∧
    (∀ u x, (Obs.lp x, LGhost.upd u) ∈ obs → (ghostOf c).xOf u = x) := by
  obtain ⟨ha, obsM, hst, hgh, _, rfl⟩ := MG_step_inv hs
  rw [hgh]
  exact ghost_meaning_raw ((sinv_reach c hr).tinv t) ha hst

/-- coverage: every value-carrying response emitted from a reachable configuration is tagged with the
    ghosts of a `Sum`, so `sum_bounds` speaks about every `Sum` response -/
theorem sum_ret_tagged {mc : Nat} {c : Config (MG mc)} (hr : Reach (MG mc) c) {t : Tid} {a : Act}
    {G' : (MG mc).G} {L' : (MG mc).L} {obs : List (MG mc).Obs}
    (hs : (MG mc).step t c.g (c.l t) a = some (G', L', obs)) {r : Int} {tag : LGhost}
    (ho : (Obs.ret (some r), tag) ∈ obs) : ∃ counted must, tag = .sum counted must := by
  obtain ⟨ha, obsM, hst, _, _, rfl⟩ := MG_step_inv hs
  obtain ⟨o, ho1, ho2⟩ := List.mem_map.1 ho
  simp only [Prod.mk.injEq] at ho2
  obtain ⟨rfl, rfl⟩ := ho2
  have hI := sinv_reach c hr
  obtain ⟨_, _, _, hF⟩ := thread_step hI.ainv.ginv hI.ghinv (hI.ainv.linv t) (hI.tinv t) ha hst
  obtain ⟨counted, must, e, _⟩ := hF r ho1
  exact ⟨counted, must, e⟩

/-- the part of `Guar` that is transitive, hence holds along a whole run: the ghost state only grows -/
structure Ext (gh gh' : Ghost) : Prop where
  nupd_mono : gh.nupd ≤ gh'.nupd
  xOf_keep : ∀ u, u < gh.nupd → gh'.xOf u = gh.xOf u
  loc_keep : ∀ u ℓ, gh.loc u = some ℓ → gh'.loc u = some ℓ
  lped_mono : ∀ u, u ∈ gh.lped → u ∈ gh'.lped

theorem Ext.refl (gh : Ghost) : Ext gh gh := ⟨Nat.le_refl _, fun _ _ => rfl, fun _ _ h => h, fun _ h => h⟩

theorem Ext.trans {a b c : Ghost} (h1 : Ext a b) (h2 : Ext b c) : Ext a c :=
  ⟨Nat.le_trans h1.nupd_mono h2.nupd_mono,
   fun u hu => (h2.xOf_keep u (Nat.lt_of_lt_of_le hu h1.nupd_mono)).trans (h1.xOf_keep u hu),
   fun u ℓ h => h2.loc_keep u ℓ (h1.loc_keep u ℓ h), fun u h => h2.lped_mono u (h1.lped_mono u h)⟩

theorem step_ext {mc : Nat} {c : Config (MG mc)} (hr : Reach (MG mc) c) {t : Tid} {a : Act}
    {G' : (MG mc).G} {L' : (MG mc).L} {obs : List (MG mc).Obs}
    (hs : (MG mc).step t c.g (c.l t) a = some (G', L', obs)) : Ext (ghostOf c) (Prod.snd G') := by
  have hI := sinv_reach c hr
  obtain ⟨ha, obsM, hst, hgh, _, _⟩ := MG_step_inv hs
  rw [hgh]
  obtain ⟨_, hGu, _, _⟩ := thread_step hI.ainv.ginv hI.ghinv (hI.ainv.linv t) (hI.tinv t) ha hst
  exact ⟨hGu.nupd_mono, hGu.xOf_keep, hGu.loc_keep, hGu.lped_mono⟩

theorem run_ext {mc : Nat} (s : List (Tid × (MG mc).Act)) (c : Config (MG mc)) (hr : Reach (MG mc) c) :
    Ext (ghostOf c) (ghostOf (run (MG mc) c s).1) :=
  run_ind_gen (MG mc) (fun _ _ => True) (fun _ c' => Ext (ghostOf c) (ghostOf c'))
    (fun _ _ _ _ _ _ _ hr' hE _ hs => hE.trans (step_ext hr' hs)) s c [] hr (Ext.refl _) (fun _ _ => trivial)

theorem FinalAt.ext {gh gh' : Ghost} {r : Int} {counted must : List Nat} (h : FinalAt gh r counted must)
    (e : Ext gh gh') : FinalAt gh' r counted must := by
  obtain ⟨h1, h2, h3, h4⟩ := h
  refine ⟨?_, h2, h3, fun u hu => ⟨e.lped_mono u (h4 u hu).1, Nat.lt_of_lt_of_le (h4 u hu).2 e.nupd_mono⟩⟩
  rw [h1]
  congr 1
  exact lsum_congr (fun u hu => (e.xOf_keep u (h4 u hu).2).symm)

/-- **C09 along runs.**  In the run of the instrumented machine on any schedule, from any reachable
    configuration, every `Sum` response in the log satisfies the bounds (relative to the final ghosts). -/
theorem run_sum_bounds {mc : Nat} (s : List (Tid × (MG mc).Act)) : ∀ c : Config (MG mc), Reach (MG mc) c →
    ∀ t r counted must, (t, (Obs.ret (some r), LGhost.sum counted must)) ∈ (run (MG mc) c s).2 →
      FinalAt (ghostOf (run (MG mc) c s).1) r counted must := by
  intro c hr
  refine run_ind_gen (MG mc) (fun _ _ => True)
    (fun lg c' => ∀ t r counted must, (t, (Obs.ret (some r), LGhost.sum counted must)) ∈ lg →
      FinalAt (ghostOf c') r counted must) ?_ s c [] hr (fun _ _ _ _ h => by cases h) (fun _ _ => trivial)
  intro lg c' t0 a G' L' obs hr' hP _ hs t r counted must h
  refine FinalAt.ext ?_ (step_ext hr' hs)
  rcases List.mem_append.1 h with h | h
  · exact hP t r counted must h
  · obtain ⟨o, ho, e⟩ := List.mem_map.1 h
    cases e
    obtain ⟨f1, f2, f3, f4⟩ := sum_bounds hr' hs ho
    exact ⟨f1, f2, f3, fun u hu => (f4 u hu).2⟩

/-- **C09 for the un-instrumented machine.**  Every run of `M intAlg mc` on a schedule of `Add` / `Sum`
    invocations and internal steps is the projection of the run of `MG mc` on the same schedule (same
    observations once the ghost tags are dropped), and in that run every `Sum` response satisfies the bounds. -/
theorem sum_bounds_run {mc : Nat} (s : List (Tid × Act)) (hs : ∀ p ∈ s, noMaint p.2 = true) :
    (run (MG mc) (Config.init (MG mc)) s).2.map (fun p => (p.1, Prod.fst p.2)) =
      (run (M intAlg mc) (Config.init (M intAlg mc)) s).2 ∧
    ∀ t r counted must,
      (t, (Obs.ret (some r), LGhost.sum counted must)) ∈ (run (MG mc) (Config.init (MG mc)) s).2 →
      FinalAt (ghostOf (run (MG mc) (Config.init (MG mc)) s).1) r counted must :=
  ⟨(run_lift s hs (Config.init (MG mc))).2, run_sum_bounds s _ Reach.init⟩

/-- **Successive `Sum`s count growing sets.**  If a `Sum` returns `counted₁` in configuration `c₁`, and a
    `Sum` whose `must` is the `lped` list of a configuration `c₂` whose ghosts extend those of `c₁`
    (i.e. it was invoked in `c₂`, `sum_invoke`; any configuration reached later qualifies, `step_ext`,
    `run_ext`) returns `counted₂`, then `counted₁ ⊆ counted₂`. -/
theorem sum_monotone {mc : Nat} {c1 c2 c3 : Config (MG mc)} (hr1 : Reach (MG mc) c1) (hr3 : Reach (MG mc) c3)
    {t1 t3 : Tid} {a1 a3 : Act} {G1 G3 : (MG mc).G} {L1 L3 : (MG mc).L} {obs1 obs3 : List (MG mc).Obs}
    (hs1 : (MG mc).step t1 c1.g (c1.l t1) a1 = some (G1, L1, obs1))
    (hs3 : (MG mc).step t3 c3.g (c3.l t3) a3 = some (G3, L3, obs3))
    {r1 r3 : Int} {counted1 must1 counted3 must3 : List Nat}
    (ho1 : (Obs.ret (some r1), LGhost.sum counted1 must1) ∈ obs1)
    (ho3 : (Obs.ret (some r3), LGhost.sum counted3 must3) ∈ obs3)
    (h12 : Ext (ghostOf c1) (ghostOf c2)) (hinv : must3 = (ghostOf c2).lped) :
    ∀ u ∈ counted1, u ∈ counted3 := by
  intro u hu
  obtain ⟨_, _, _, f4⟩ := sum_bounds hr1 hs1 ho1
  obtain ⟨_, _, g3, _⟩ := sum_bounds hr3 hs3 ho3
  apply g3 u
  rw [hinv]
  exact h12.lped_mono u (f4 u hu).2.1

end Results

end Garr.Adder
