import Garr.Adder.SumBounds
/-!
# Instants of a run, the exact total, and a concurrent `Sum` as an atomic read

`SumBounds.lean` proves that a `Sum` racing with updates returns the wrapped total of a duplicate-free list
`counted` of updates with `must ⊆ counted ⊆ lped` at the response, `must` being `lped` at the invocation.
Here a run is cut into *instants* (`cfgAt M s k`, `logAt M s k`: configuration and log after the first `k`
entries of the schedule `s`; the first section, down to `mem_run_log`, is about any `Machine`).  The *exact total* `tot` at an instant is the sum of the operands of the
linearized updates; it is the heap's ghost field `applied`, hence `base + Σ cells`, and one step changes it
by the operand of at most one update (`StepLp`).  So with operands `≥ 0` a `Sum` returns a value between the
totals at its invocation and at its response (`sum_between`), and with operands in `{0, 1}` the total passes
through every integer in between (`discrete_ivt`), so it is the returned value at some instant inside the
call (`sum_instant`).  This is what the breaker models rely on when they treat the bucket counters as atomic
numbers (`Garr/Breaker/Conc.lean`, `Garr/Breaker/Fine.lean`).  `span_iff` carries `Sum` spans between the
plain machine `M intAlg mc` and the instrumented machine `MG mc`.
-/
namespace Garr.Adder.UnitSum
open Garr Garr.Conc Garr.Adder

-- `(MG mc).Act` / `(M intAlg mc).Act` are `Act` (etc.) only after unfolding `MG` / `M`
set_option backward.isDefEq.respectTransparency false

section Prefix
variable {M : Machine}

/-- the configuration after the first `k` entries of the schedule `s` ("instant `k`") -/
def cfgAt (M : Machine) (s : List (Tid × M.Act)) (k : Nat) : Config M :=
  (run M (Config.init M) (s.take k)).1

def logAt (M : Machine) (s : List (Tid × M.Act)) (k : Nat) : List (Tid × M.Obs) :=
  (run M (Config.init M) (s.take k)).2

theorem cfgAt_zero (s : List (Tid × M.Act)) : cfgAt M s 0 = Config.init M := rfl

theorem reach_cfgAt (s : List (Tid × M.Act)) (k : Nat) : Reach M (cfgAt M s k) :=
  reach_run M _ Reach.init _

theorem cfgAt_add (s : List (Tid × M.Act)) (k d : Nat) :
    cfgAt M s (k + d) = (run M (cfgAt M s k) ((s.drop k).take d)).1 := by
  unfold cfgAt
  rw [List.take_add, run_append]

theorem cfgAt_length (s : List (Tid × M.Act)) {k : Nat} (h : s.length ≤ k) :
    cfgAt M s k = (run M (Config.init M) s).1 := by
  unfold cfgAt; rw [List.take_of_length_le h]

theorem logAt_length (s : List (Tid × M.Act)) {k : Nat} (h : s.length ≤ k) :
    logAt M s k = (run M (Config.init M) s).2 := by
  unfold logAt; rw [List.take_of_length_le h]

def StepAt (M : Machine) (s : List (Tid × M.Act)) (k : Nat) (t : Tid) (a : M.Act) (g' : M.G) (l' : M.L)
    (obs : List M.Obs) : Prop :=
  s[k]? = some (t, a) ∧ M.step t (cfgAt M s k).g ((cfgAt M s k).l t) a = some (g', l', obs)

theorem cfgAt_succ_cases (s : List (Tid × M.Act)) (k : Nat) :
    (cfgAt M s (k + 1) = cfgAt M s k ∧ logAt M s (k + 1) = logAt M s k) ∨
    ∃ t a g' l' obs, StepAt M s k t a g' l' obs ∧ cfgAt M s (k + 1) = ⟨g', upd (cfgAt M s k).l t l'⟩ ∧
      logAt M s (k + 1) = logAt M s k ++ obs.map (fun o => (t, o)) := by
  unfold StepAt cfgAt logAt
  rw [List.take_add_one, run_append]
  cases hk : s[k]? with
  | none => exact Or.inl (by simp [run])
  | some ta =>
    cases hstep : M.step ta.1 (run M (Config.init M) (s.take k)).1.g ((run M (Config.init M) (s.take k)).1.l ta.1) ta.2 with
    | none => exact Or.inl (by simp [run, hstep])
    | some R => exact Or.inr ⟨ta.1, ta.2, R.1, R.2.1, R.2.2, ⟨rfl, hstep⟩, by simp [run, hstep]⟩

theorem local_succ_cases (s : List (Tid × M.Act)) (k : Nat) (u : Tid) :
    (cfgAt M s (k + 1)).l u = (cfgAt M s k).l u ∨
    ∃ a g' l' obs, StepAt M s k u a g' l' obs ∧ (cfgAt M s (k + 1)).l u = l' := by
  rcases cfgAt_succ_cases s k with ⟨e, _⟩ | ⟨t, a, g', l', obs, hst, e, _⟩
  · exact Or.inl (by rw [e])
  · rw [e]
    by_cases hu : u = t
    · subst hu; exact Or.inr ⟨a, g', l', obs, hst, upd_same _ _ _⟩
    · exact Or.inl (upd_other _ _ _ _ hu)

/-- `P k` of the configuration and the log of every instant from `k` on, decided in one pass over the run
    (instant by instant from the prefixes, the run would be repeated for every `k`) -/
def checkFrom (M : Machine) (P : Nat → Config M → List (Tid × M.Obs) → Prop) [∀ k c lg, Decidable (P k c lg)] :
    Nat → Config M → List (Tid × M.Obs) → List (Tid × M.Act) → Bool
  | k, c, lg, [] => decide (P k c lg)
  | k, c, lg, (t, a) :: s =>
    decide (P k c lg) &&
      match M.step t c.g (c.l t) a with
      | none => checkFrom M P (k + 1) c lg s
      | some (g', l', obs) => checkFrom M P (k + 1) ⟨g', upd c.l t l'⟩ (lg ++ obs.map (fun o => (t, o))) s

theorem checkFrom_sound {P : Nat → Config M → List (Tid × M.Obs) → Prop} [∀ k c lg, Decidable (P k c lg)] :
    ∀ (s : List (Tid × M.Act)) (k : Nat) (c : Config M) (lg : List (Tid × M.Obs)),
      checkFrom M P k c lg s = true →
      ∀ d, d ≤ s.length → P (k + d) (run M c (s.take d)).1 (lg ++ (run M c (s.take d)).2) := by
  intro s
  induction s with
  | nil =>
    intro k c lg h d hd
    obtain rfl : d = 0 := Nat.le_zero.1 hd
    simpa [checkFrom, run] using h
  | cons ta s ih =>
    intro k c lg h d hd
    simp only [checkFrom, Bool.and_eq_true, decide_eq_true_eq] at h
    cases d with
    | zero => simpa [run] using h.1
    | succ d =>
      have h2 := h.2
      rw [List.take_succ_cons, ← Nat.add_assoc, Nat.add_right_comm]
      split at h2
      next hstep =>
        rw [run_cons_none hstep]
        exact ih _ _ _ h2 d (Nat.le_of_succ_le_succ hd)
      next hstep =>
        rw [run_cons_some hstep, ← List.append_assoc]
        exact ih _ _ _ h2 d (Nat.le_of_succ_le_succ hd)

/-- if the one pass says so, `P` holds at every instant; an instant beyond the end of the schedule is the last
    one, and is taken with its index -/
theorem check_instants {s : List (Tid × M.Act)} (P : Nat → Config M → List (Tid × M.Obs) → Prop)
    [∀ k c lg, Decidable (P k c lg)] (h : checkFrom M P 0 (Config.init M) [] s = true) (k : Nat) :
    P (min k s.length) (cfgAt M s k) (logAt M s k) := by
  have key := checkFrom_sound s 0 (Config.init M) [] h (min k s.length) (Nat.min_le_right _ _)
  rcases Nat.le_total k s.length with hk | hk
  · simpa [cfgAt, logAt, Nat.min_eq_left hk] using key
  · simpa [cfgAt_length s hk, logAt_length s hk, Nat.min_eq_right hk] using key

theorem mem_logAt {s : List (Tid × M.Act)} {k : Nat} {t : Tid} {o : M.Obs} (h : (t, o) ∈ logAt M s k) :
    ∃ j a g' l' obs, j < k ∧ StepAt M s j t a g' l' obs ∧ o ∈ obs := by
  induction k with
  | zero => cases h
  | succ k ih =>
    have lift : (∃ j a g' l' obs, j < k ∧ StepAt M s j t a g' l' obs ∧ o ∈ obs) →
        ∃ j a g' l' obs, j < k + 1 ∧ StepAt M s j t a g' l' obs ∧ o ∈ obs := by
      rintro ⟨j, a, g', l', obs, h1, h2⟩
      exact ⟨j, a, g', l', obs, by omega, h2⟩
    rcases cfgAt_succ_cases s k with ⟨_, e⟩ | ⟨t', a', g', l', obs, hst, _, e⟩
    · rw [e] at h; exact lift (ih h)
    · rw [e] at h
      rcases List.mem_append.1 h with h | h
      · exact lift (ih h)
      · obtain ⟨o', ho', e⟩ := List.mem_map.1 h
        cases e
        exact ⟨k, a', g', l', obs, Nat.lt_succ_self _, hst, ho'⟩

theorem mem_run_log {s : List (Tid × M.Act)} {t : Tid} {o : M.Obs} (h : (t, o) ∈ (run M (Config.init M) s).2) :
    ∃ j a g' l' obs, j < s.length ∧ StepAt M s j t a g' l' obs ∧ o ∈ obs := by
  rw [← logAt_length s (Nat.le_refl _)] at h
  exact mem_logAt h

end Prefix

section Step
variable {mc : Nat}

/-- **the exact abstract total** of an instrumented configuration: the sum of the operands of the updates
    whose linearization point has occurred -/
def tot (c : Config (MG mc)) : Int := lsum (ghostOf c).xOf (ghostOf c).lped

def nLp : List Obs → Nat
  | [] => 0
  | .lp _ :: r => nLp r + 1
  | .ret _ :: r => nLp r

theorem nLp_append (a b : List Obs) : nLp (a ++ b) = nLp a + nLp b := by
  induction a with
  | nil => simp [nLp]
  | cons o r ih => cases o <;> simp [nLp, ih]; omega

/-- what a step does to `lped`: nothing (and it emits no linearization point), or exactly one fresh,
    already allocated update is linearized (and the step emits exactly one marker, carrying its operand) -/
inductive StepLp (gh gh' : Ghost) (obs : List Obs) : Prop
  | silent : gh'.lped = gh.lped → lpSum obs = 0 → nLp obs = 0 → StepLp gh gh' obs
  | lp (u : Nat) : gh'.lped = u :: gh.lped → u ∉ gh.lped → u < gh.nupd → lpSum obs = gh.xOf u → nLp obs = 1 →
      StepLp gh gh' obs

theorem ghostG_lped_silent (g : G) (gh : Ghost) (l : L) (lg : LGhost) (a : Act) (obs : List Obs)
    (h : obs.any isLp = false) : (ghostG g gh l lg a obs).lped = gh.lped := by
  unfold ghostG
  cases l with
  | idle => cases a <;> rfl
  | run pc v =>
    cases lg with
    | none => rfl
    | sum _ _ => rfl
    | upd u =>
      simp only [h, Bool.false_eq_true, if_false]
      split <;> rfl

theorem stepLp_run {t : Tid} {g : G} {gh : Ghost} {pc : PC} {v : V} {lg : LGhost} {w : Nat}
    {g' : G} {l' : L} {obs : List Obs} (a : Act) (hGh : GhInv g gh) (hT : TInv g gh (.run pc v) lg)
    (hs : stepRun intAlg mc t g pc v w = (g', l', obs)) : StepLp gh (ghostG g gh (.run pc v) lg a obs) obs := by
  cases hp : preLP pc
  · rcases stepRun_obs hs with ⟨rfl, _⟩ | ⟨_, _, hpc⟩ | ⟨_, hpc⟩ | ⟨r, rfl, _⟩
    · exact .silent (ghostG_lped_silent _ _ _ _ _ _ rfl) rfl rfl
    · rcases hpc with rfl | rfl | rfl | rfl <;> cases hp
    · rcases hpc with ⟨rfl, _⟩ | ⟨rfl, _⟩ <;> cases hp
    · exact .silent (ghostG_lped_silent _ _ _ _ _ _ rfl) rfl rfl
  · obtain ⟨u, rfl, hu, hn, hx⟩ := hT.2.1 hp
    have hnot : u ∉ gh.lped := fun h => (hGh.lped_iff u).1 h hn
    rcases add_pre_step hp hs with ⟨rfl, _⟩ | ⟨rfl, _⟩ | ⟨rfl, _⟩
    · exact .silent rfl rfl rfl
    · rw [ghostG_upd_lpret]
      exact .lp u rfl hnot hu (by simp [lpSum, hx]) rfl
    · rw [ghostG_upd_lp]
      exact .lp u rfl hnot hu (by simp [lpSum, hx]) rfl

theorem step_lp {c : Config (MG mc)} (hr : Reach (MG mc) c) {t : Tid} {a : Act}
    {G' : (MG mc).G} {L' : (MG mc).L} {obs : List (MG mc).Obs}
    (hs : (MG mc).step t c.g (c.l t) a = some (G', L', obs)) :
    StepLp (ghostOf c) (Prod.snd G') (obs.map Prod.fst) := by
  have hI := sinv_reach c hr
  obtain ⟨ha, obsM, hst, hgh, _, rfl⟩ := MG_step_inv hs
  rw [hgh, map_fst_tag]
  rcases step_cases hst with ⟨hl, h⟩ | ⟨pc, v, w, hl, h⟩
  · rw [hl]
    obtain ⟨g', gh'⟩ := G'
    obtain ⟨l', lg'⟩ := L'
    cases h <;> exact .silent rfl rfl rfl
  · have hT := hI.tinv t
    rw [hl] at hT ⊢
    exact stepLp_run _ hI.ghinv hT h

theorem tot_step {c : Config (MG mc)} (hr : Reach (MG mc) c) {t : Tid} {a : Act}
    {G' : (MG mc).G} {L' : (MG mc).L} {obs : List (MG mc).Obs}
    (hs : (MG mc).step t c.g (c.l t) a = some (G', L', obs)) :
    tot (mc := mc) ⟨G', upd c.l t L'⟩ = tot c + lpSum (obs.map Prod.fst) := by
  have hE := step_ext hr hs
  have hkeep : lsum (Prod.snd G').xOf (ghostOf c).lped = lsum (ghostOf c).xOf (ghostOf c).lped :=
    lsum_congr (fun u hu => hE.xOf_keep u ((lped_spec hr).2.2 u hu))
  show lsum (Prod.snd G').xOf (Prod.snd G').lped = _
  cases step_lp hr hs with
  | silent h1 h2 _ => rw [h1, h2, hkeep]; simp [tot]
  | lp u h1 _ h3 h4 _ =>
    rw [h1, h4]
    simp only [lsum]
    rw [hkeep, hE.xOf_keep u h3]
    simp only [tot]; omega

theorem lped_nodup {c : Config (MG mc)} (hr : Reach (MG mc) c) : (ghostOf c).lped.Nodup := by
  induction hr with
  | init => exact List.nodup_nil
  | @step c t a G' L' obs hr hs ih =>
    show (Prod.snd G').lped.Nodup
    cases step_lp hr hs with
    | silent h1 _ _ => rw [h1]; exact ih
    | lp u h1 h2 _ _ _ => rw [h1]; exact List.nodup_cons.2 ⟨h2, ih⟩

/-- **the exact total is the ghost field `applied` of the heap** (C02's total) -/
theorem applied_eq_tot {c : Config (MG mc)} (hr : Reach (MG mc) c) : (heapOf c).applied = tot c := by
  induction hr with
  | init => rfl
  | @step c t a G' L' obs hr hs ih =>
    rw [tot_step hr hs, ← ih]
    obtain ⟨_, obsM, hst, _, _, rfl⟩ := MG_step_inv hs
    rw [map_fst_tag]
    exact applied_step (c := projC c) (reach_proj hr) hst ((sinv_maint hr).2 t)

/-- ... hence `base + Σ cells` (`conservation`) -/
theorem total_conserved {c : Config (MG mc)} (hr : Reach (MG mc) c) :
    (heapOf c).base + tableSum (heapOf c) = tot c := by
  rw [← applied_eq_tot hr]
  exact conservation (c := projC c) (reach_proj hr)

def OpsP (P : Int → Prop) (s : List (Tid × Act)) : Prop := ∀ p ∈ s, ∀ x, p.2 = Act.add x → P x

def AllP (P : Int → Prop) (gh : Ghost) : Prop := ∀ u, u < gh.nupd → P (gh.xOf u)

/-- every `Add` of the schedule is an `Inc` -/
abbrev UnitOps (s : List (Tid × Act)) : Prop := OpsP (· = 1) s
abbrev ZeroOneOps (s : List (Tid × Act)) : Prop := OpsP (fun x => 0 ≤ x ∧ x ≤ 1) s
abbrev NonNegOps (s : List (Tid × Act)) : Prop := OpsP (0 ≤ ·) s

theorem OpsP.mono {P Q : Int → Prop} {s : List (Tid × Act)} (hPQ : ∀ x, P x → Q x) (h : OpsP P s) : OpsP Q s :=
  fun p hp x hx => hPQ x (h p hp x hx)

theorem allP_ghostG {P : Int → Prop} (g : G) (gh : Ghost) (l : L) (lg : LGhost) (a : Act) (obs : List Obs)
    (h : AllP P gh) (ha : ∀ x, a = Act.add x → P x) : AllP P (ghostG g gh l lg a obs) := by
  unfold ghostG
  cases l with
  | idle =>
    cases a <;> try exact h
    rename_i x
    intro u hu
    have hu' : u < gh.nupd + 1 := hu
    show P (if u = gh.nupd then x else gh.xOf u)
    by_cases e : u = gh.nupd
    · rw [if_pos e]; exact ha x rfl
    · rw [if_neg e]; exact h u (by omega)
  | run pc v =>
    cases lg with
    | none => exact h
    | sum _ _ => exact h
    | upd u => dsimp only; split <;> split <;> exact h

end Step

section Along
variable {mc : Nat}

theorem ext_cfgAt (s : List (Tid × Act)) {k k' : Nat} (h : k ≤ k') :
    Ext (ghostOf (cfgAt (MG mc) s k)) (ghostOf (cfgAt (MG mc) s k')) := by
  obtain ⟨d, rfl⟩ : ∃ d, k' = k + d := ⟨k' - k, by omega⟩
  rw [cfgAt_add]
  exact run_ext _ _ (reach_cfgAt (M := MG mc) s k)

theorem allP_cfgAt {P : Int → Prop} {s : List (Tid × Act)} (hs : OpsP P s) (k : Nat) :
    AllP P (ghostOf (cfgAt (MG mc) s k)) :=
  run_ind_gen (MG mc) (fun _ a => ∀ x, a = Act.add x → P x) (fun _ c => AllP P (ghostOf c))
    (fun _ _ _ _ G' _ _ _ h ha hst => by
      obtain ⟨_, _, _, hgh, _⟩ := MG_step_inv hst
      show AllP P (Prod.snd G')
      rw [hgh]
      exact allP_ghostG _ _ _ _ _ _ h ha) (s.take k) (Config.init (MG mc)) [] Reach.init
    (fun u hu => absurd hu (Nat.not_lt_zero u)) (fun e he => hs e (List.mem_of_mem_take he))

theorem tot_succ (s : List (Tid × Act)) (k : Nat) :
    tot (cfgAt (MG mc) s (k + 1)) = tot (cfgAt (MG mc) s k) ∨
    ∃ u, u < (ghostOf (cfgAt (MG mc) s k)).nupd ∧
      tot (cfgAt (MG mc) s (k + 1)) = tot (cfgAt (MG mc) s k) + (ghostOf (cfgAt (MG mc) s k)).xOf u := by
  rcases cfgAt_succ_cases (M := MG mc) s k with ⟨e, _⟩ | ⟨t, a, G', L', obs, ⟨_, hstep⟩, e, _⟩
  · rw [e]; exact Or.inl rfl
  · have hr := reach_cfgAt (M := MG mc) s k
    rw [e, tot_step hr hstep]
    cases step_lp hr hstep with
    | silent _ h2 _ => rw [h2]; exact Or.inl (by omega)
    | lp u _ _ h3 h4 _ => rw [h4]; exact Or.inr ⟨u, h3, rfl⟩

theorem tot_succ_ops {P : Int → Prop} {s : List (Tid × Act)} (hs : OpsP P s) (k : Nat) :
    tot (cfgAt (MG mc) s (k + 1)) = tot (cfgAt (MG mc) s k) ∨
    ∃ x, P x ∧ tot (cfgAt (MG mc) s (k + 1)) = tot (cfgAt (MG mc) s k) + x := by
  rcases tot_succ (mc := mc) s k with h | ⟨u, hu, h⟩
  · exact Or.inl h
  · exact Or.inr ⟨_, allP_cfgAt hs k u hu, h⟩

theorem tot_mono {s : List (Tid × Act)} (hs : OpsP (0 ≤ ·) s) {k k' : Nat} (h : k ≤ k') :
    tot (cfgAt (MG mc) s k) ≤ tot (cfgAt (MG mc) s k') := by
  induction h with
  | refl => exact Int.le_refl _
  | @step m _ ih =>
    show _ ≤ tot (cfgAt (MG mc) s (m + 1))
    rcases tot_succ_ops (mc := mc) hs m with e | ⟨x, hx, e⟩
    · exact e ▸ ih
    · have : 0 ≤ x := hx
      omega

theorem lsum_unit {f : Nat → Int} {l : List Nat} (h : ∀ u ∈ l, f u = 1) : lsum f l = l.length := by
  induction l with
  | nil => rfl
  | cons u us ih =>
    simp only [lsum, List.length_cons]
    rw [h u (by simp), ih (fun w hw => h w (by simp [hw]))]
    omega

theorem tot_unit {s : List (Tid × Act)} (hs : OpsP (· = 1) s) (k : Nat) :
    tot (cfgAt (MG mc) s k) = (ghostOf (cfgAt (MG mc) s k)).lped.length :=
  lsum_unit (fun u hu => allP_cfgAt hs k u ((lped_spec (reach_cfgAt (M := MG mc) s k)).2.2 u hu))

/-- **A `Sum` span of the instrumented run.**  Entry `i` of the schedule is thread `t`'s invocation of `Sum`,
    met while `t` is idle; `t` is inside the operation at every instant `m`, `i < m ≤ j` (so the invocation was
    enabled, and the operation running at `j` is the one invoked at `i`); entry `j` is a step of `t` that
    emits the response `r`, tagged with the `Sum` ghosts `counted`, `must`. -/
structure SumSpanG (mc : Nat) (s : List (Tid × Act)) (t : Tid) (i j : Nat) (r : Int)
    (counted must : List Nat) : Prop where
  lt : i < j
  inv : s[i]? = some (t, Act.sum)
  idle : Prod.fst ((cfgAt (MG mc) s i).l t) = L.idle
  busy : ∀ m, i < m → m ≤ j → Prod.fst ((cfgAt (MG mc) s m).l t) ≠ L.idle
  resp : ∃ a G' L' obs, StepAt (MG mc) s j t a G' L' obs ∧ (Obs.ret (some r), LGhost.sum counted must) ∈ obs

/-- where `Sum` ghosts come from: the invocation of `Sum` by an idle thread sets `must := lped` and emits
    nothing; the later steps of the thread keep `must`, in its ghost and in the tags of what they emit -/
theorem sum_tag_step {t : Tid} {S : (MG mc).G} {ll : (MG mc).L} {a : Act}
    {G' : (MG mc).G} {L' : (MG mc).L} {obs : List (MG mc).Obs}
    (hs : (MG mc).step t S ll a = some (G', L', obs)) :
    (∀ cnt must, Prod.snd L' = LGhost.sum cnt must → Prod.fst L' ≠ L.idle ∧
      ((Prod.fst ll = L.idle ∧ a = Act.sum ∧ must = (Prod.snd S).lped) ∨ ∃ c, Prod.snd ll = LGhost.sum c must)) ∧
    (∀ o cnt must, (o, LGhost.sum cnt must) ∈ obs → ∃ c, Prod.snd ll = LGhost.sum c must) ∧
    (Prod.fst ll = L.idle → obs = []) := by
  obtain ⟨g, gh⟩ := S
  obtain ⟨l, lg⟩ := ll
  obtain ⟨g', gh'⟩ := G'
  obtain ⟨l', lg'⟩ := L'
  obtain ⟨ha, obsM, hst, _, rfl, rfl⟩ := gstep_inv hs
  rcases step_cases hst with ⟨rfl, h⟩ | ⟨pc, v, w, rfl, h⟩
  · cases h with
    | add x => exact ⟨nofun, nofun, fun _ => rfl⟩
    | sum => exact ⟨fun _ _ e => by cases e; exact ⟨nofun, .inl ⟨rfl, rfl, rfl⟩⟩, nofun, fun _ => rfl⟩
    | store | reset | sumAndReset => cases ha
  · -- a running thread keeps its ghost; a `Sum` ghost only extends its `counted`
    have key : ∀ {cnt must}, tagOf gh (.run pc v) lg a = .sum cnt must → ∃ c, lg = .sum c must := by
      cases lg with
      | sum c m => intro _ _ e; cases e; exact ⟨c, rfl⟩
      | none | upd u => nofun
    refine ⟨fun _ _ e => ?_, fun o _ _ ho => ?_, nofun⟩
    · cases l' with
      | idle => cases e
      | run _ _ => exact ⟨nofun, .inr (key e)⟩
    · obtain ⟨_, _, e⟩ := List.mem_map.1 ho
      exact key (congrArg Prod.snd e)

theorem sum_ghost_inside (s : List (Tid × Act)) (t : Tid) (m : Nat) {cnt must : List Nat}
    (h : Prod.snd ((cfgAt (MG mc) s m).l t) = LGhost.sum cnt must) :
    ∃ i, i < m ∧ s[i]? = some (t, Act.sum) ∧ Prod.fst ((cfgAt (MG mc) s i).l t) = L.idle ∧
      (∀ m', i < m' → m' ≤ m → Prod.fst ((cfgAt (MG mc) s m').l t) ≠ L.idle) ∧
      must = (ghostOf (cfgAt (MG mc) s i)).lped := by
  induction m generalizing cnt with
  | zero => cases h
  | succ m ih =>
    -- not idle since `i` up to instant `m`, and at `m + 1`
    have ext : ∀ {i}, Prod.fst ((cfgAt (MG mc) s (m + 1)).l t) ≠ L.idle →
        (∀ m', i < m' → m' ≤ m → Prod.fst ((cfgAt (MG mc) s m').l t) ≠ L.idle) →
        ∀ m', i < m' → m' ≤ m + 1 → Prod.fst ((cfgAt (MG mc) s m').l t) ≠ L.idle :=
      fun h0 h4 m' a1 a2 => (Nat.lt_or_eq_of_le a2).elim (fun lt => h4 m' a1 (Nat.le_of_lt_succ lt)) (fun e => e ▸ h0)
    rcases local_succ_cases (M := MG mc) s m t with e | ⟨a, G', L', obs, ⟨hk, hstep⟩, e⟩
    · rw [e] at h
      obtain ⟨i, h1, h2, h3, h4, h5⟩ := ih h
      exact ⟨i, Nat.lt_succ_of_lt h1, h2, h3, ext (e ▸ h4 m h1 (Nat.le_refl m)) h4, h5⟩
    · rw [e] at h
      obtain ⟨hb, ⟨hi, rfl, rfl⟩ | ⟨c, hc⟩⟩ := (sum_tag_step hstep).1 _ _ h
      · exact ⟨m, Nat.lt_succ_self m, hk, hi, ext (e ▸ hb) (fun m' a1 a2 => absurd a2 (Nat.not_le_of_lt a1)), rfl⟩
      · obtain ⟨i, h1, h2, h3, h4, h5⟩ := ih hc
        exact ⟨i, Nat.lt_succ_of_lt h1, h2, h3, ext (e ▸ hb) h4, h5⟩

/-- **Coverage.**  Every `Sum` response emitted at position `j` closes a span: there is an earlier position `i`
    at which the thread, idle, invoked this `Sum`. -/
theorem span_exists {s : List (Tid × Act)} {t : Tid} {j : Nat} {r : Int} {counted must : List Nat}
    (h : ∃ a G' L' obs, StepAt (MG mc) s j t a G' L' obs ∧ (Obs.ret (some r), LGhost.sum counted must) ∈ obs) :
    ∃ i, SumSpanG mc s t i j r counted must := by
  obtain ⟨a, G', L', obs, hst, ho⟩ := h
  obtain ⟨c, hc⟩ := (sum_tag_step hst.2).2.1 _ _ _ ho
  obtain ⟨i, h1, h2, h3, h4, _⟩ := sum_ghost_inside s t j hc
  exact ⟨i, h1, h2, h3, h4, a, G', L', obs, hst, ho⟩

theorem span_must {s : List (Tid × Act)} {t : Tid} {i j : Nat} {r : Int} {counted must : List Nat}
    (h : SumSpanG mc s t i j r counted must) : must = (ghostOf (cfgAt (MG mc) s i)).lped := by
  obtain ⟨a, G', L', obs, hst, ho⟩ := h.resp
  obtain ⟨c, hc⟩ := (sum_tag_step hst.2).2.1 _ _ _ ho
  obtain ⟨i', k1, _, k3, k4, k5⟩ := sum_ghost_inside s t j hc
  -- both `i` and `i'` are the last instant before `j` at which `t` is idle
  rcases Nat.lt_trichotomy i' i with hlt | rfl | hgt
  · exact absurd h.idle (k4 i hlt (Nat.le_of_lt h.lt))
  · exact k5
  · exact absurd k3 (h.busy i' hgt (Nat.le_of_lt k1))

theorem lsum_erase {f : Nat → Int} {a : Nat} {l : List Nat} (h : a ∈ l) : lsum f l = f a + lsum f (l.erase a) := by
  induction l with
  | nil => cases h
  | cons b r ih =>
    by_cases e : b = a
    · subst e; simp [lsum]
    · have ha : a ∈ r := by
        rcases List.mem_cons.1 h with h | h
        · exact absurd h.symm e
        · exact h
      rw [List.erase_cons_tail (by simpa using e)]
      simp only [lsum]
      rw [ih ha]; omega

theorem lsum_nonneg {f : Nat → Int} {l : List Nat} (h : ∀ u ∈ l, 0 ≤ f u) : 0 ≤ lsum f l := by
  induction l with
  | nil => exact Int.le_refl _
  | cons b r ih =>
    have h1 := h b (by simp)
    have h2 := ih (fun u hu => h u (by simp [hu]))
    simp only [lsum]; omega

theorem lsum_le_of_subset {f : Nat → Int} : ∀ {l1 l2 : List Nat}, l1.Nodup → (∀ u ∈ l1, u ∈ l2) →
    (∀ u ∈ l2, 0 ≤ f u) → lsum f l1 ≤ lsum f l2 := by
  intro l1
  induction l1 with
  | nil => intro l2 _ _ hpos; exact lsum_nonneg hpos
  | cons a r ih =>
    intro l2 hnd hsub hpos
    obtain ⟨hna, hnd'⟩ := List.nodup_cons.1 hnd
    have ha : a ∈ l2 := hsub a (by simp)
    have hsub' : ∀ u ∈ r, u ∈ l2.erase a := by
      intro u hu
      have hne : u ≠ a := fun e => hna (e ▸ hu)
      exact (List.mem_erase_of_ne hne).2 (hsub u (by simp [hu]))
    have := ih hnd' hsub' (fun u hu => hpos u (List.mem_of_mem_erase hu))
    rw [lsum_erase ha]
    simp only [lsum]; omega

theorem span_bounds {s : List (Tid × Act)} {t : Tid} {i j : Nat} {r : Int} {counted must : List Nat}
    (h : SumSpanG mc s t i j r counted must) :
    r = wrap64 (lsum (ghostOf (cfgAt (MG mc) s j)).xOf counted) ∧ counted.Nodup ∧
    (∀ u ∈ (ghostOf (cfgAt (MG mc) s i)).lped, u ∈ counted) ∧
    (∀ u ∈ counted, u ∈ (ghostOf (cfgAt (MG mc) s j)).lped ∧ u < (ghostOf (cfgAt (MG mc) s j)).nupd) := by
  have hm := span_must h
  obtain ⟨a, G', L', obs, ⟨_, hstep⟩, ho⟩ := h.resp
  obtain ⟨f1, f2, f3, f4⟩ := sum_bounds (reach_cfgAt (M := MG mc) s j) hstep ho
  exact ⟨f1, f2, fun u hu => f3 u (hm ▸ hu), fun u hu => ⟨(f4 u hu).2.1, (f4 u hu).2.2⟩⟩

/-- **Between the bounds (operands `≥ 0`).**  The response of a span is `wrap64 n`, where `n`, the total of
    the counted updates, lies between the exact totals at the invocation and at the response instant. -/
theorem sum_between {s : List (Tid × Act)} (hs : OpsP (0 ≤ ·) s) {t : Tid} {i j : Nat} {r : Int}
    {counted must : List Nat} (h : SumSpanG mc s t i j r counted must) :
    r = wrap64 (lsum (ghostOf (cfgAt (MG mc) s j)).xOf counted) ∧
    tot (cfgAt (MG mc) s i) ≤ lsum (ghostOf (cfgAt (MG mc) s j)).xOf counted ∧
    lsum (ghostOf (cfgAt (MG mc) s j)).xOf counted ≤ tot (cfgAt (MG mc) s j) := by
  obtain ⟨f1, f2, f3, f4⟩ := span_bounds h
  have hE := ext_cfgAt (mc := mc) s (Nat.le_of_lt h.lt)
  have hri := reach_cfgAt (M := MG mc) s i
  have hpos : ∀ u ∈ (ghostOf (cfgAt (MG mc) s j)).lped, 0 ≤ (ghostOf (cfgAt (MG mc) s j)).xOf u :=
    fun u hu => allP_cfgAt hs j u ((lped_spec (reach_cfgAt (M := MG mc) s j)).2.2 u hu)
  refine ⟨f1, ?_, lsum_le_of_subset f2 (fun u hu => (f4 u hu).1) hpos⟩
  have e : tot (cfgAt (MG mc) s i) =
      lsum (ghostOf (cfgAt (MG mc) s j)).xOf (ghostOf (cfgAt (MG mc) s i)).lped :=
    lsum_congr (fun u hu => (hE.xOf_keep u ((lped_spec hri).2.2 u hu)).symm)
  rw [e]
  exact lsum_le_of_subset (lped_nodup hri) f3 (fun u hu => hpos u (f4 u hu).1)

/-- **discrete intermediate value**: a sequence of integers that grows by at most one per step takes every
    value between an earlier and a later term (no monotonicity needed) -/
theorem discrete_ivt (f : Nat → Int) {i j : Nat} (hij : i ≤ j) (hstep : ∀ k, i ≤ k → k < j → f (k + 1) ≤ f k + 1)
    {n : Int} (hlo : f i ≤ n) (hhi : n ≤ f j) : ∃ k, i ≤ k ∧ k ≤ j ∧ f k = n := by
  induction hij with
  | refl => exact ⟨i, Nat.le_refl _, Nat.le_refl _, Int.le_antisymm hlo hhi⟩
  | @step m him ih =>
    by_cases hn : n ≤ f m
    · obtain ⟨k, h1, h2, h3⟩ := ih (fun k hk1 hk2 => hstep k hk1 (Nat.lt_succ_of_lt hk2)) hn
      exact ⟨k, h1, Nat.le_succ_of_le h2, h3⟩
    · -- `f m < n ≤ f (m + 1) ≤ f m + 1`
      have := hstep m him (Nat.lt_succ_self m)
      have hhi : n ≤ f (m + 1) := hhi
      exact ⟨m + 1, Nat.le_succ_of_le him, Nat.le_refl _, by omega⟩

theorem span_inv_tot {s : List (Tid × Act)} {t : Tid} {i j : Nat} {r : Int} {counted must : List Nat}
    (h : SumSpanG mc s t i j r counted must) : tot (cfgAt (MG mc) s (i + 1)) = tot (cfgAt (MG mc) s i) := by
  rcases cfgAt_succ_cases (M := MG mc) s i with ⟨e, _⟩ | ⟨t', a, G', L', obs, ⟨hk, hstep⟩, e, _⟩
  · rw [e]
  · cases h.inv.symm.trans hk
    rw [e, tot_step (reach_cfgAt (M := MG mc) s i) hstep, (sum_tag_step hstep).2.2 h.idle]
    exact Int.add_zero _

/-- **The instant (operands in `{0, 1}`).**  With `n` as in `sum_between`, there is an instant `k` after the
    invocation step and not after the response step at which the exact total is `n`. -/
theorem sum_instant {s : List (Tid × Act)} (hs : OpsP (fun x => 0 ≤ x ∧ x ≤ 1) s) {t : Tid} {i j : Nat} {r : Int}
    {counted must : List Nat} (h : SumSpanG mc s t i j r counted must) :
    ∃ (n : Int) (k : Nat), r = wrap64 n ∧ tot (cfgAt (MG mc) s i) ≤ n ∧ n ≤ tot (cfgAt (MG mc) s j) ∧
      i < k ∧ k ≤ j ∧ tot (cfgAt (MG mc) s k) = n := by
  obtain ⟨h1, h2, h3⟩ := sum_between (hs.mono (fun _ hx => hx.1)) h
  obtain ⟨k, hk1, hk2, hk3⟩ := discrete_ivt (fun k => tot (cfgAt (MG mc) s k)) (i := i + 1) (j := j) h.lt
    (fun k _ _ => by rcases tot_succ_ops (mc := mc) hs k with e | ⟨x, ⟨_, _⟩, e⟩ <;> omega)
    (by rw [span_inv_tot h]; exact h2) h3
  exact ⟨_, k, h1, h2, h3, hk1, hk2, hk3⟩

end Along

section Plain
variable {mc : Nat}

def NoMaint (s : List (Tid × Act)) : Prop := ∀ p ∈ s, noMaint p.2 = true

theorem NoMaint.take {s : List (Tid × Act)} (h : NoMaint s) (k : Nat) : NoMaint (s.take k) :=
  fun p hp => h p (List.mem_of_mem_take hp)

theorem proj_cfgAt {s : List (Tid × Act)} (hs : NoMaint s) (k : Nat) :
    projC (cfgAt (MG mc) s k) = cfgAt (M intAlg mc) s k :=
  (run_lift (mc := mc) (s.take k) (hs.take k) (Config.init (MG mc))).1

theorem proj_logAt {s : List (Tid × Act)} (hs : NoMaint s) (k : Nat) :
    (logAt (MG mc) s k).map (fun p => (p.1, Prod.fst p.2)) = logAt (M intAlg mc) s k :=
  (run_lift (mc := mc) (s.take k) (hs.take k) (Config.init (MG mc))).2

def isIdle : L → Bool
  | .idle => true
  | _ => false

theorem isIdle_iff {l : L} : isIdle l = true ↔ l = .idle := by
  cases l <;> simp [isIdle]

/-- **A `Sum` span of the plain run** (the definition of `SumSpanG`, ghosts dropped): entry `i` of the schedule
    is thread `t`'s invocation of `Sum`, met while `t` is idle; `t` is inside the operation at every instant
    `m`, `i < m ≤ j`; entry `j` is a step of `t` that emits the response `r`. -/
structure SumSpan (mc : Nat) (s : List (Tid × Act)) (t : Tid) (i j : Nat) (r : Int) : Prop where
  lt : i < j
  inv : s[i]? = some (t, Act.sum)
  idle : isIdle ((cfgAt (M intAlg mc) s i).l t) = true
  busy : ∀ m, i < m → m ≤ j → isIdle ((cfgAt (M intAlg mc) s m).l t) = false
  resp : ∃ a g' l' obs, StepAt (M intAlg mc) s j t a g' l' obs ∧ Obs.ret (some r) ∈ obs

theorem resp_iff {s : List (Tid × Act)} (hs : NoMaint s) {t : Tid} {j : Nat} {r : Int} :
    (∃ a g' l' obs, StepAt (M intAlg mc) s j t a g' l' obs ∧ Obs.ret (some r) ∈ obs) ↔
    ∃ counted must a G' L' obs, StepAt (MG mc) s j t a G' L' obs ∧
      (Obs.ret (some r), LGhost.sum counted must) ∈ obs := by
  constructor
  · rintro ⟨a, g', l', obs, ⟨hj, hstep⟩, ho⟩
    rw [← proj_cfgAt hs j] at hstep
    obtain ⟨gh', lg', obs', hG, rfl⟩ := lift_step hstep (hs (t, a) (List.mem_of_getElem? hj))
      (ghostOf (cfgAt (MG mc) s j)) (Prod.snd ((cfgAt (MG mc) s j).l t))
    obtain ⟨⟨_, tag⟩, ho', rfl⟩ := List.mem_map.1 ho
    obtain ⟨counted, must, rfl⟩ := sum_ret_tagged (reach_cfgAt (M := MG mc) s j) hG ho'
    exact ⟨counted, must, a, _, _, obs', ⟨hj, hG⟩, ho'⟩
  · rintro ⟨counted, must, a, ⟨g', gh'⟩, ⟨l', lg'⟩, obs, ⟨hj, hstep⟩, ho⟩
    refine ⟨a, g', l', obs.map Prod.fst, ⟨hj, ?_⟩, List.mem_map.2 ⟨_, ho, rfl⟩⟩
    rw [← proj_cfgAt hs j]
    exact proj_step (gh := ghostOf (cfgAt (MG mc) s j)) (lg := Prod.snd ((cfgAt (MG mc) s j).l t)) hstep

theorem span_iff {s : List (Tid × Act)} (hs : NoMaint s) {t : Tid} {i j : Nat} {r : Int} :
    SumSpan mc s t i j r ↔ ∃ counted must, SumSpanG mc s t i j r counted must := by
  have idle_iff : ∀ m, isIdle ((cfgAt (M intAlg mc) s m).l t) = true ↔
      Prod.fst ((cfgAt (MG mc) s m).l t) = L.idle := fun m => by rw [← proj_cfgAt hs m]; exact isIdle_iff
  constructor
  · intro h
    obtain ⟨counted, must, hresp⟩ := (resp_iff hs).1 h.resp
    exact ⟨counted, must, h.lt, h.inv, (idle_iff i).1 h.idle,
      fun m h1 h2 hi => Bool.eq_false_iff.1 (h.busy m h1 h2) ((idle_iff m).2 hi), hresp⟩
  · rintro ⟨counted, must, h⟩
    exact ⟨h.lt, h.inv, (idle_iff i).2 h.idle,
      fun m h1 h2 => Bool.eq_false_iff.2 (fun hi => h.busy m h1 h2 ((idle_iff m).1 hi)),
      (resp_iff hs).2 ⟨counted, must, h.resp⟩⟩

/-- **Coverage, plain machine.**  Every value-carrying response emitted at position `j` closes a `Sum` span:
    there is an earlier position `i` at which the thread, idle, invoked this `Sum`. -/
theorem span_exists_plain {s : List (Tid × Act)} (hs : NoMaint s) {t : Tid} {j : Nat} {r : Int}
    (h : ∃ a g' l' obs, StepAt (M intAlg mc) s j t a g' l' obs ∧ Obs.ret (some r) ∈ obs) :
    ∃ i, SumSpan mc s t i j r := by
  obtain ⟨counted, must, hresp⟩ := (resp_iff hs).1 h
  obtain ⟨i, hi⟩ := span_exists hresp
  exact ⟨i, (span_iff hs).2 ⟨_, _, hi⟩⟩

theorem applied_cfgAt {s : List (Tid × Act)} (hs : NoMaint s) (k : Nat) :
    G.applied (cfgAt (M intAlg mc) s k).g = tot (cfgAt (MG mc) s k) := by
  rw [← proj_cfgAt hs k]; exact applied_eq_tot (reach_cfgAt (M := MG mc) s k)

theorem conserved_cfgAt (s : List (Tid × Act)) (k : Nat) :
    G.base (cfgAt (M intAlg mc) s k).g + tableSum (cfgAt (M intAlg mc) s k).g =
      G.applied (cfgAt (M intAlg mc) s k).g :=
  conservation (reach_cfgAt (M := M intAlg mc) s k)

def obsOf (log : List (Tid × Obs)) : List Obs := log.map Prod.snd

theorem tot_log (s : List (Tid × Act)) (k : Nat) :
    tot (cfgAt (MG mc) s k) = lpSum ((logAt (MG mc) s k).map (fun p => Prod.fst p.2)) ∧
    (ghostOf (cfgAt (MG mc) s k)).lped.length = nLp ((logAt (MG mc) s k).map (fun p => Prod.fst p.2)) := by
  induction k with
  | zero => exact ⟨rfl, rfl⟩
  | succ k ih =>
    rcases cfgAt_succ_cases (M := MG mc) s k with ⟨e1, e2⟩ | ⟨t, a, G', L', obs, ⟨_, hstep⟩, e1, e2⟩
    · rw [e1, e2]; exact ih
    · have hr := reach_cfgAt (M := MG mc) s k
      have hmap : (obs.map (fun o => (t, o))).map (fun p => Prod.fst p.2) = obs.map Prod.fst := by
        rw [List.map_map]; rfl
      rw [e1, e2, List.map_append, lpSum_append, nLp_append, hmap, tot_step hr hstep, ih.1]
      refine ⟨rfl, ?_⟩
      show (Prod.snd G').lped.length = _
      cases step_lp hr hstep with
      | silent h1 _ h3 => rw [h1, h3, ih.2]; rfl
      | lp u h1 _ _ _ h5 => rw [h1, h5, List.length_cons, ih.2]

/-- **the abstract atomic counter** (an int64 number, as the bucket counters of the breaker models): every
    linearization point `lp x` performs `ctr := wrap64 (ctr + x)` atomically; responses do not touch it -/
def ctrStep (ctr : Int) : Obs → Int
  | .lp x => wrap64 (ctr + x)
  | .ret _ => ctr

/-- its value after a log, starting from `0`: what an atomic read returns at that instant -/
def ctrOf (log : List Obs) : Int := log.foldl ctrStep 0

theorem ctrOf_eq (log : List Obs) : ctrOf log = wrap64 (lpSum log) := by
  have key : ∀ (log : List Obs) (a : Int), log.foldl ctrStep (wrap64 a) = wrap64 (a + lpSum log) := by
    intro log
    induction log with
    | nil => intro a; simp [lpSum]
    | cons o r ih =>
      intro a
      cases o with
      | lp x => rw [List.foldl_cons, ctrStep, wrap64_add, ih, lpSum, Int.add_assoc]
      | ret v => exact ih a
  simpa [ctrOf, show wrap64 0 = 0 from rfl] using key log 0

theorem obsOf_logAt {s : List (Tid × Act)} (hs : NoMaint s) (k : Nat) :
    obsOf (logAt (M intAlg mc) s k) = (logAt (MG mc) s k).map (fun p => Prod.fst p.2) := by
  rw [← proj_logAt hs k, obsOf, List.map_map]
  rfl

theorem applied_log {s : List (Tid × Act)} (hs : NoMaint s) (k : Nat) :
    G.applied (cfgAt (M intAlg mc) s k).g = lpSum (obsOf (logAt (M intAlg mc) s k)) := by
  rw [applied_cfgAt hs k, (tot_log s k).1, obsOf_logAt hs k]

theorem ctr_cfgAt {s : List (Tid × Act)} (hs : NoMaint s) (k : Nat) :
    ctrOf (obsOf (logAt (M intAlg mc) s k)) = wrap64 (G.applied (cfgAt (M intAlg mc) s k).g) := by
  rw [ctrOf_eq, applied_log hs k]

theorem nLp_logAt {s : List (Tid × Act)} (hs : NoMaint s) (k : Nat) :
    nLp (obsOf (logAt (M intAlg mc) s k)) = (ghostOf (cfgAt (MG mc) s k)).lped.length := by
  rw [(tot_log s k).2, obsOf_logAt hs k]

theorem applied_unit {s : List (Tid × Act)} (hs : NoMaint s) (hu : OpsP (· = 1) s) (k : Nat) :
    G.applied (cfgAt (M intAlg mc) s k).g = (nLp (obsOf (logAt (M intAlg mc) s k)) : Int) := by
  rw [applied_cfgAt hs k, tot_unit hu k, nLp_logAt hs k]

theorem same_thread_disjoint {s : List (Tid × Act)} {t : Tid} {i1 j1 i2 j2 : Nat} {r1 r2 : Int}
    (h1 : SumSpan mc s t i1 j1 r1) (h2 : SumSpan mc s t i2 j2 r2) (h : i1 < i2) : j1 < i2 := by
  refine Nat.lt_of_not_le fun hn => ?_
  have hb := h1.busy i2 h hn
  rw [h2.idle] at hb
  cases hb

theorem span_unique {s : List (Tid × Act)} {t : Tid} {i1 i2 j : Nat} {r1 r2 : Int}
    (h1 : SumSpan mc s t i1 j r1) (h2 : SumSpan mc s t i2 j r2) : i1 = i2 := by
  rcases Nat.lt_trichotomy i1 i2 with h | h | h
  · have := same_thread_disjoint h1 h2 h; have := h2.lt; omega
  · exact h
  · have := same_thread_disjoint h2 h1 h; have := h1.lt; omega

/-- the step `a` of thread `t` from `c` emits the response `r`, as a computation -/
def emitsRet (mc : Nat) (c : Config (M intAlg mc)) (t : Tid) (a : Act) (r : Int) : Bool :=
  match step intAlg mc t c.g (c.l t) a with
  | some (_, _, obs) => obs.contains (Obs.ret (some r))
  | none => false

/-- what `SumSpan mc s t i j r`, entry `j` being `(t, a)`, says about the configuration of instant `k`:
    a decidable property of the instants, for `check_instants` -/
abbrev SpanAt (mc : Nat) (t : Tid) (i j : Nat) (a : Act) (r : Int) (k : Nat) (c : Config (M intAlg mc)) : Prop :=
  (k = i → isIdle (c.l t) = true) ∧ (i < k → k ≤ j → isIdle (c.l t) = false) ∧ (k = j → emitsRet mc c t a r = true)

theorem span_of_instants {s : List (Tid × Act)} {t : Tid} {i j : Nat} {a : Act} {r : Int} (hlt : i < j)
    (hi : s[i]? = some (t, Act.sum)) (hj : s[j]? = some (t, a))
    (H : ∀ k, k ≤ j → SpanAt mc t i j a r k (cfgAt (M intAlg mc) s k)) : SumSpan mc s t i j r := by
  refine ⟨hlt, hi, (H i (Nat.le_of_lt hlt)).1 rfl, fun m h1 h2 => (H m h2).2.1 h1 h2, a, ?_⟩
  have h := (H j (Nat.le_refl _)).2.2 rfl
  unfold emitsRet at h
  split at h
  next g' l' obs hstep => exact ⟨g', l', obs, ⟨hj, hstep⟩, List.contains_iff_mem.1 h⟩
  next => cases h

theorem opsP_of_all {P : Int → Prop} [DecidablePred P] {s : List (Tid × Act)}
    (h : s.all (fun p => match p.2 with | .add x => decide (P x) | _ => true) = true) : OpsP P s := by
  intro p hp x hx
  have := List.all_eq_true.1 h p hp
  rw [hx] at this
  exact of_decide_eq_true this

end Plain

end Garr.Adder.UnitSum
