import Garr.Breaker.Seq
/-!
# Bucket counters by outcome

`selB k` reads the success (`k = true`) or failure (`k = false`) counter of a bucket, so that what is proved of the
two counters is stated once: the equations of `mkBucket` and `Bucket.add`, and `bsumK`, the exact sum of the counters
of the buckets whose start tick satisfies a predicate, to which the sequential counting relation (`Doc.lean`) and the
concurrent one (`WindowInv.lean`) both reduce their bucket sums.
-/
namespace Garr.Breaker
open Garr

def selB (k : Bool) (bk : Bucket) : Int := match k with | true => bk.s | false => bk.f

theorem selB_mk (k : Bool) (t : Int) (b : Bool) : selB k (mkBucket t b) = if b = k then 1 else 0 := by
  cases k <;> cases b <;> rfl

theorem ts_mk (t : Int) (b : Bool) : (mkBucket t b).ts = t := by cases b <;> rfl

theorem ts_add (bk : Bucket) (b : Bool) : (bk.add b).ts = bk.ts := by cases b <;> rfl

theorem selB_add (k : Bool) (bk : Bucket) (b : Bool) (h : 0 ≤ selB b bk ∧ selB b bk < 2^62) :
    selB k (bk.add b) = selB k bk + if b = k then 1 else 0 := by
  cases b <;> cases k <;> simp [selB, Bucket.add] at h ⊢ <;> exact wrap_id (by omega) (by omega)

def bsumK (k : Bool) (p : Int → Bool) : List Bucket → Int
  | [] => 0
  | b :: bs => (if p b.ts then selB k b else 0) + bsumK k p bs

theorem bsumK_append (k : Bool) (p : Int → Bool) (bs cs : List Bucket) :
    bsumK k p (bs ++ cs) = bsumK k p bs + bsumK k p cs := by
  induction bs with
  | nil => simp [bsumK]
  | cons b bs ih => simp only [List.cons_append, bsumK, ih]; omega

theorem bsumK_insert (k : Bool) (p : Int → Bool) (bs cs : List Bucket) (b : Bucket) :
    bsumK k p (bs ++ b :: cs) = bsumK k p (bs ++ cs) + (if p b.ts then selB k b else 0) := by
  rw [bsumK_append, bsumK_append, bsumK]; omega

theorem bsumK_filter (k : Bool) (p q : Int → Bool) (bs : List Bucket) :
    bsumK k p (bs.filter (fun b => q b.ts)) = bsumK k (fun x => q x && p x) bs := by
  induction bs with
  | nil => rfl
  | cons b bs ih => by_cases h : q b.ts = true <;> simp [h, bsumK, ih]

theorem bsumK_nonneg (k : Bool) (p : Int → Bool) (bs : List Bucket) (h : ∀ b ∈ bs, 0 ≤ selB k b) : 0 ≤ bsumK k p bs := by
  induction bs with
  | nil => exact Int.le_refl 0
  | cons b bs ih =>
    have h1 := h b (List.mem_cons_self ..)
    have h2 := ih (fun c hc => h c (List.mem_cons_of_mem _ hc))
    simp only [bsumK]; split <;> omega

/-- the code's wrapping sum (`sumS` for `k = true`, `sumF` for `k = false`) is the wrap of the exact sum -/
theorem fold_eq (k : Bool) (bs : List Bucket) :
    bs.foldl (fun acc b => wrap64 (acc + selB k b)) 0 = wrap64 (bsumK k (fun _ => true) bs) := by
  have gen : ∀ (bs : List Bucket) (a : Int),
      bs.foldl (fun acc b => wrap64 (acc + selB k b)) (wrap64 a) = wrap64 (a + bsumK k (fun _ => true) bs) := by
    intro bs
    induction bs with
    | nil => intro a; simp [bsumK]
    | cons b bs ih =>
      intro a
      simp only [List.foldl_cons, bsumK, if_true]
      rw [wrap64_add, ih]
      congr 1; omega
  have h0 : (0 : Int) = wrap64 0 := by decide
  rw [h0, gen]; simp

end Garr.Breaker
