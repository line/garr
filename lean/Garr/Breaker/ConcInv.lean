import Garr.Breaker.Step
/-!
# Invariants of the concurrent circuit-breaker machine

A step (`StepR`) does nothing to `objs`, `cur`, `casWins`, or publishes one object (`Eff`); state objects are
immutable and only appended.  `BInv` = `GInv` (shared state) + `LInv` (thread locals) holds in all reachable
configurations.  The facts along a run are inductions over the schedule with the log (`run_ind`).  `SplitInv` is
about lists only; `WindowInv.lean` states `RollsOK` with it.
-/
namespace Garr.Breaker
open Garr Garr.Conc

def Obs.isWinGhost : Obs → Bool
  | .recorded .. => true
  | .rolled .. => true
  | _ => false

def core (obs : List Obs) : List Obs := obs.filter (fun o => !o.isWinGhost)

def Frame (g g' : CG) : Prop := g'.objs = g.objs ∧ g'.cur = g.cur ∧ g'.casWins = g.casWins

def transOf (obs : List Obs) : List (Nat × Kind) :=
  obs.filterMap (fun x => match x with | .transition o k => some (o, k) | _ => none)

def admOf (obs : List Obs) : List (Nat × Int) :=
  obs.filterMap (fun x => match x with | .admitted o t => some (o, t) | _ => none)

/-- effect of a step on `objs`, `cur`, `casWins`, with its `transition` observations; an admission comes only with
the transition from the same object -/
inductive Eff (g g' : CG) (obs : List Obs) : Prop
  | frame : Frame g g' → transOf obs = [] → admOf obs = [] → Eff g g' obs
  | pub (n : Obj) : g'.objs = g.objs ++ [n] → g'.cur = g.objs.length → g'.casWins = g.cur :: g.casWins →
      transOf obs = [(g.cur, n.kind)] → ((admOf obs).map Prod.fst).Sublist [g.cur] → Eff g g' obs

theorem StepR.eff {cfg : Config} {g : CG} {l : L} {a : Act} {g' : CG} {l' : L} {obs : List Obs}
    (h : StepR cfg g l a g' l' obs) : Eff g g' obs := by
  induction h
  case c3Win h => subst h; exact .pub _ rfl rfl rfl rfl (.refl _)
  case f2Win h => subst h; exact .pub _ rfl rfl rfl rfl (List.nil_sublist _)
  case h3SuccWin h => subst h; exact .pub _ rfl rfl rfl rfl (List.nil_sublist _)
  case h3OtherWin h => subst h; exact .pub _ rfl rfl rfl rfl (List.nil_sublist _)
  all_goals exact .frame ⟨rfl, rfl, rfl⟩ rfl rfl

theorem objs_prefix {cfg : Config} {t : Tid} {g : CG} {l : L} {a : Act} {g' : CG} {l' : L} {obs : List Obs}
    (h : step cfg t g l a = some (g', l', obs)) : ∃ extra, g'.objs = g.objs ++ extra := by
  cases (step_sound h).eff with
  | frame hf _ _ => exact ⟨[], by simp [hf.1]⟩
  | pub n h1 _ _ _ _ => exact ⟨[n], h1⟩

theorem obj_append_left (g g' : CG) (extra : List Obj) (h : g'.objs = g.objs ++ extra) (o : Nat)
    (ho : o < g.objs.length) : g'.obj o = g.obj o := by
  simp [CG.obj, getD', h, List.getElem?_append_left ho]

/-- `cur` designates the newest object; the expected values of successful CASes are exactly the
objects below `cur`, each once -/
def GInv (g : CG) : Prop :=
  g.cur + 1 = g.objs.length ∧ (∀ o ∈ g.casWins, o < g.cur) ∧ g.casWins.Nodup ∧ (∀ o, o < g.cur → o ∈ g.casWins)

theorem Eff.ginv {g g' : CG} {obs : List Obs} (h : Eff g g' obs) (hi : GInv g) : GInv g' := by
  obtain ⟨h1, h2, h3, h4⟩ := hi
  cases h with
  | frame hf _ _ =>
    obtain ⟨f1, f2, f3⟩ := hf
    exact ⟨by rw [f1, f2]; exact h1, by rw [f2, f3]; exact h2, by rw [f3]; exact h3, by rw [f2, f3]; exact h4⟩
  | pub n p1 p2 p3 _ _ =>
    refine ⟨by rw [p1, p2]; simp, ?_, ?_, ?_⟩
    · intro o ho
      rw [p3] at ho
      rw [p2]
      rcases List.mem_cons.mp ho with rfl | ho
      · omega
      · have := h2 o ho; omega
    · rw [p3]
      refine List.nodup_cons.mpr ⟨fun hm => ?_, h3⟩
      have := h2 _ hm; omega
    · intro o ho
      rw [p2] at ho
      rw [p3]
      by_cases hlt : o < g.cur
      · exact List.mem_cons_of_mem _ (h4 o hlt)
      · have : o = g.cur := by omega
        subst this; exact List.mem_cons_self

theorem Eff.mono {g g' : CG} {obs : List Obs} (h : Eff g g' obs) (hi : GInv g) :
    g.cur ≤ g'.cur ∧ ∀ o, o ≤ g.cur → g'.obj o = g.obj o := by
  cases h with
  | frame hf _ _ => exact ⟨by rw [hf.2.1]; exact Nat.le_refl _, fun o _ => by simp [CG.obj, hf.1]⟩
  | pub n p1 p2 _ _ _ =>
    exact ⟨by rw [p2]; have := hi.1; omega, fun o ho => obj_append_left g g' [n] p1 o (by have := hi.1; omega)⟩

/-- what a thread's local state says about the object it loaded: the object exists (`o ≤ cur`) and
its immutable fields are what the control flow has tested -/
def LInv (g : CG) : L → Prop
  | .idle => True
  | .b0 _ => True
  | .c1 o => o ≤ g.cur ∧ (g.obj o).kind ≠ .closed ∧ (g.obj o).dur > 0
  | .c2 o t1 => o ≤ g.cur ∧ (g.obj o).kind ≠ .closed ∧ (g.obj o).dur > 0 ∧ (g.obj o).timeout ≤ t1
  | .c3 o t1 _ => o ≤ g.cur ∧ (g.obj o).kind ≠ .closed ∧ (g.obj o).dur > 0 ∧ (g.obj o).timeout ≤ t1
  | .w0 c o w => o ≤ g.cur ∧ (g.obj o).kind = .closed ∧ c ≠ .can ∧ w = (g.obj o).win
  | .w1 c o w _ => o ≤ g.cur ∧ (g.obj o).kind = .closed ∧ c ≠ .can ∧ w = (g.obj o).win
  | .w2 c o w _ _ => o ≤ g.cur ∧ (g.obj o).kind = .closed ∧ c ≠ .can ∧ w = (g.obj o).win
  | .w3 c o w _ => o ≤ g.cur ∧ (g.obj o).kind = .closed ∧ c ≠ .can ∧ w = (g.obj o).win
  | .f1 o _ => o ≤ g.cur ∧ (g.obj o).kind = .closed
  | .f2 o _ _ => o ≤ g.cur ∧ (g.obj o).kind = .closed
  | .h1 c o => o ≤ g.cur ∧ (g.obj o).kind = .half ∧ c ≠ .can
  | .h1s o _ => o ≤ g.cur ∧ (g.obj o).kind = .half
  | .h2 o _ => o ≤ g.cur ∧ (g.obj o).kind = .half
  | .h3 c o _ _ => o ≤ g.cur ∧ (g.obj o).kind = .half ∧ c ≠ .can

theorem LInv.mono {g g' : CG} (hc : g.cur ≤ g'.cur) (ho : ∀ o, o ≤ g.cur → g'.obj o = g.obj o) {l : L}
    (h : LInv g l) : LInv g' l := by
  cases l <;> simp only [LInv] at h ⊢
  all_goals (obtain ⟨hle, hrest⟩ := h; rw [ho _ hle]; exact ⟨Nat.le_trans hle hc, hrest⟩)

theorem StepR.linv {cfg : Config} {g : CG} {l : L} {a : Act} {g' : CG} {l' : L} {obs : List Obs}
    (h : StepR cfg g l a g' l' obs) (hg : GInv g) (hl : LInv g l) : LInv g' l' := by
  have hm := h.eff.mono hg
  suffices LInv g l' from this.mono hm.1 hm.2
  induction h
  case b0ClosedRep hk hc => exact ⟨Nat.le_refl _, hk, hc, rfl⟩
  case b0TimedCan hk hd => exact ⟨Nat.le_refl _, hk, hd⟩
  case b0HalfRep hk hc => exact ⟨Nat.le_refl _, hk, hc⟩
  case c1Pass ht => exact ⟨hl.1, hl.2.1, hl.2.2, ht⟩
  case w3Trip => exact ⟨hl.1, hl.2.1⟩
  case h1Succ => exact ⟨hl.1, hl.2.1⟩
  case h2 => exact ⟨hl.1, hl.2, nofun⟩
  case c2 | w0 | w1Next | w2Win | f1 | h1Other | h1s => exact hl
  all_goals trivial

def BInv {cfg : Config} {t1 t2 : Int} (c : Garr.Conc.Config (M cfg t1 t2)) : Prop :=
  GInv c.g ∧ ∀ t, LInv c.g (c.l t)

theorem binv_reach {cfg : Config} {t1 t2 : Int} :
    ∀ c, Reach (M cfg t1 t2) c → BInv c := by
  apply inv_of_reach
  · refine ⟨⟨rfl, ?_, ?_, ?_⟩, fun _ => trivial⟩
    · intro o ho; exact absurd ho (by simp [Config.init, M, initG])
    · simp [Config.init, M, initG]
    · intro o ho; exact absurd ho (by simp [Config.init, M, initG])
  · intro c t a g' l' obs hi hs
    have hr := step_sound (cfg := cfg) (t := t) hs
    have hm := hr.eff.mono hi.1
    exact ⟨hr.eff.ginv hi.1, forall_upd (hr.linv hi.1 (hi.2 t)) (fun _ _ h => h.mono hm.1 hm.2) hi.2⟩

/-- reachable configurations, with the step relation: the form in which the property theorems use the invariant -/
theorem reach_step {cfg : Config} {t1 t2 : Int} {c : Garr.Conc.Config (M cfg t1 t2)} (hr : Reach (M cfg t1 t2) c)
    {t : Tid} {a : Act} {g' : CG} {l' : L} {obs : List Obs}
    (hs : step cfg t c.g (c.l t) a = some (g', l', obs)) :
    GInv c.g ∧ LInv c.g (c.l t) ∧ StepR cfg c.g (c.l t) a g' l' obs :=
  ⟨(binv_reach c hr).1, (binv_reach c hr).2 t, step_sound hs⟩

/-- the state object a thread has loaded and is working on -/
def L.held : L → Option Nat
  | .idle => none
  | .b0 _ => none
  | .c1 o => some o
  | .c2 o _ => some o
  | .c3 o _ _ => some o
  | .w0 _ o _ => some o
  | .w1 _ o _ _ => some o
  | .w2 _ o _ _ _ => some o
  | .w3 _ o _ _ => some o
  | .f1 o _ => some o
  | .f2 o _ _ => some o
  | .h1 _ o => some o
  | .h1s o _ => some o
  | .h2 o _ => some o
  | .h3 _ o _ _ => some o

theorem LInv.held_le {g : CG} {l : L} {o : Nat} (h : LInv g l) (ho : l.held = some o) : o ≤ g.cur := by
  cases l <;> cases ho <;> exact h.1

theorem GInv.replaced {g : CG} (h : GInv g) {o : Nat} (hle : o ≤ g.cur) (hne : g.cur ≠ o) : o ∈ g.casWins :=
  h.2.2.2 o (by omega)

theorem obj_publish_cur (g : CG) (o : Nat) (n : Obj) : (publish g o n).obj (publish g o n).cur = n := by
  simp [publish, CG.obj, getD']

def Obs.isCb : Obs → Bool
  | .cbState _ => true
  | .cbCount .. => true
  | .cbRejected => true
  | _ => false

/-- the observation list of a step is one of these (the window layer's ghost markers `recorded`/`rolled`,
which occur only in window steps, are ignored there) -/
inductive Shape : List Obs → Prop
  | quiet (obs : List Obs) : core obs = [] → Shape obs                 -- internal step
  | retNone (obs : List Obs) : core obs = [.ret none] → Shape obs      -- a report returns without notification
  | admitClosed : Shape [.ret (some true)]                              -- CanRequest on CLOSED
  | rejected : Shape [.cbRejected, .ret (some false)]
  | count (s f : Int) : Shape [.cbCount s f, .ret none]
  | moved (o : Nat) (k : Kind) : k ≠ .half → Shape [.transition o k, .cbState k, .ret none]
  | trial (o : Nat) (t1 : Int) : Shape [.transition o .half, .admitted o t1, .cbState .half, .ret (some true)]

theorem StepR.shape {cfg : Config} {g : CG} {l : L} {a : Act} {g' : CG} {l' : L} {obs : List Obs}
    (h : StepR cfg g l a g' l' obs) : Shape obs := by
  induction h
  case b0ClosedCan => exact .admitClosed
  case b0TimedRej => exact .rejected
  case c1Rej => exact .rejected
  case c3Lose => exact .rejected
  case c3Win => exact .trial _ _
  case f2Win => exact .moved _ _ (by simp)
  case h3SuccWin => exact .moved _ _ (by simp)
  case h3OtherWin => exact .moved _ _ (by simp)
  case w3Done => exact .count _ _
  case f2Lose => exact .count _ _
  case w1Back | w1Add | w2Lose | b0OpenRep | h3SuccLose | h3OtherLose => exact .retNone _ rfl
  all_goals exact .quiet _ rfl

theorem mem_core {obs : List Obs} {x : Obs} (h : x ∈ obs) (hx : x.isWinGhost = false) : x ∈ core obs := by
  simp [core, List.mem_filter, h, hx]

theorem filter_isCb_core (obs : List Obs) : (core obs).filter Obs.isCb = obs.filter Obs.isCb := by
  unfold core
  rw [List.filter_filter]
  apply List.filter_congr
  intro x _
  cases x <;> rfl

def SplitInv {α : Type} (Q : List α → α → Prop) (l : List α) : Prop :=
  ∀ pre e post, l = pre ++ e :: post → Q pre e

theorem SplitInv.nil {α : Type} {Q : List α → α → Prop} : SplitInv Q [] :=
  fun pre e post h => absurd h (by simp)

theorem SplitInv.cons {α : Type} {Q : List α → α → Prop} {a : α} {l : List α} (h1 : Q [] a)
    (h2 : SplitInv (fun pre => Q (a :: pre)) l) : SplitInv Q (a :: l) := by
  intro pre e post he
  cases pre with
  | nil => obtain ⟨rfl, _⟩ := List.cons.inj he; exact h1
  | cons p pre => obtain ⟨rfl, he'⟩ := List.cons.inj he; exact h2 pre e post he'

theorem SplitInv.append {α : Type} {Q : List α → α → Prop} {l1 l2 : List α} (h1 : SplitInv Q l1)
    (h2 : SplitInv (fun pre => Q (l1 ++ pre)) l2) : SplitInv Q (l1 ++ l2) := by
  intro pre e post he
  rcases List.append_eq_append_iff.mp he with ⟨as, h3, h4⟩ | ⟨bs, h3, h4⟩
  · rw [h3]; exact h2 _ _ _ h4
  · cases bs with
    | nil =>
      have := h2 [] e post h4.symm
      rw [List.append_nil] at h3 this
      exact h3 ▸ this
    | cons b bs =>
      obtain ⟨rfl, _⟩ := List.cons.inj h4
      exact h1 _ _ _ h3

theorem SplitInv.prefix {α : Type} {Q : List α → α → Prop} {l1 l2 : List α} (h : SplitInv Q (l1 ++ l2)) :
    SplitInv Q l1 :=
  fun pre e post he => h pre e (post ++ l2) (by rw [he]; simp)

section Runs
variable {cfg : Config} {t1 t2 : Int}

/-- `run_ind_gen` for `M`, with its component types spelled out (`CG`, `L`, `Obs`, `Act`) and the log started empty -/
theorem run_ind {A : Tid → Act → Prop} {P : List (Tid × Obs) → Garr.Conc.Config (M cfg t1 t2) → Prop}
    (hstep : ∀ (lg : List (Tid × Obs)) (c : Garr.Conc.Config (M cfg t1 t2)) (t : Tid) (a : Act) (g' : CG) (l' : L)
      (obs : List Obs), Reach (M cfg t1 t2) c → P lg c → A t a → step cfg t c.g (c.l t) a = some (g', l', obs) →
      P (lg ++ obs.map (fun o => (t, o))) ⟨g', upd c.l t l'⟩)
    (s : List (Tid × Act)) (c : Garr.Conc.Config (M cfg t1 t2)) (hc : Reach (M cfg t1 t2) c) (h0 : P [] c)
    (hA : ∀ e ∈ s, A e.1 e.2) : P (run (M cfg t1 t2) c s).2 (run (M cfg t1 t2) c s).1 := by
  simpa using run_ind_gen (M cfg t1 t2) A P hstep s c [] hc h0 hA

/-- the expected-object ids of the successful state CASes in a log, oldest first -/
def transSrcs (log : List (Tid × Obs)) : List Nat :=
  log.filterMap (fun p => match p.2 with | .transition o _ => some o | _ => none)

/-- the object ids from which a trial was admitted, oldest first -/
def admSrcs (log : List (Tid × Obs)) : List Nat :=
  log.filterMap (fun p => match p.2 with | .admitted o _ => some o | _ => none)

theorem filterMap_step {β γ : Type} {f : Tid × Obs → Option γ} {f' : Obs → Option β} {p : β → γ}
    (hf : ∀ t x, f (t, x) = (f' x).map p) (t : Tid) (obs : List Obs) (log : List (Tid × Obs)) :
    (log ++ obs.map (fun o => (t, o))).filterMap f = log.filterMap f ++ (obs.filterMap f').map p := by
  rw [List.filterMap_append, List.filterMap_map, List.map_filterMap]
  congr 2
  funext x
  exact hf t x

theorem transSrcs_step (t : Tid) (obs : List Obs) (log : List (Tid × Obs)) :
    transSrcs (log ++ obs.map (fun o => (t, o))) = transSrcs log ++ (transOf obs).map Prod.fst :=
  filterMap_step (fun _ x => by cases x <;> rfl) t obs log

theorem admSrcs_step (t : Tid) (obs : List Obs) (log : List (Tid × Obs)) :
    admSrcs (log ++ obs.map (fun o => (t, o))) = admSrcs log ++ (admOf obs).map Prod.fst :=
  filterMap_step (fun _ x => by cases x <;> rfl) t obs log

/-- along a run from a reachable configuration: `cur` only grows, the sources of the transitions in the
log are exactly the objects from the old `cur` up to the new one, in order, `casWins` records them, and trials are
admitted only from the source of a transition of the same step -/
theorem run_transitions (s : List (Tid × Act)) (c : Garr.Conc.Config (M cfg t1 t2)) (hc : Reach (M cfg t1 t2) c) :
    c.g.cur ≤ (run (M cfg t1 t2) c s).1.g.cur ∧
    transSrcs (run (M cfg t1 t2) c s).2 = List.range' c.g.cur ((run (M cfg t1 t2) c s).1.g.cur - c.g.cur) ∧
    (run (M cfg t1 t2) c s).1.g.casWins = (transSrcs (run (M cfg t1 t2) c s).2).reverse ++ c.g.casWins ∧
    (admSrcs (run (M cfg t1 t2) c s).2).Sublist (transSrcs (run (M cfg t1 t2) c s).2) := by
  refine run_ind (A := fun _ _ => True)
    (P := fun lg c' => c.g.cur ≤ c'.g.cur ∧ transSrcs lg = List.range' c.g.cur (c'.g.cur - c.g.cur) ∧
      c'.g.casWins = (transSrcs lg).reverse ++ c.g.casWins ∧ (admSrcs lg).Sublist (transSrcs lg))
    (fun lg c' t a g' l' obs hc' ⟨i1, i2, i3, i4⟩ _ hs => ?_)
    s c hc ⟨Nat.le_refl _, by rw [Nat.sub_self]; rfl, rfl, .refl _⟩ (fun _ _ => trivial)
  obtain ⟨hg, _, hr⟩ := reach_step hc' hs
  rw [transSrcs_step, admSrcs_step]
  cases hr.eff with
  | frame hf ht ha =>
    simp only [ht, ha, List.map_nil, List.append_nil]
    exact ⟨hf.2.1 ▸ i1, hf.2.1 ▸ i2, hf.2.2 ▸ i3, i4⟩
  | pub n p1 p2 p3 ht ha =>
    have h1 : CG.cur c'.g + 1 = (CG.objs c'.g).length := hg.1
    have i1' : CG.cur c.g ≤ CG.cur c'.g := i1
    refine ⟨?_, ?_, ?_, ht ▸ i4.append ha⟩
    · show _ ≤ CG.cur g'
      omega
    · -- the new `cur` is the old `cur + 1`: the range grows by the old `cur`, the source of this transition
      show _ = List.range' _ (CG.cur g' - _)
      rw [ht, i2, p2, ← h1, show CG.cur c'.g + 1 - CG.cur c.g = CG.cur c'.g - CG.cur c.g + 1 by omega,
        List.range'_concat, Nat.one_mul, Nat.add_sub_cancel' i1']
      rfl
    · show CG.casWins g' = _
      rw [ht, p3, i3, List.reverse_append]; rfl

theorem Shape.of_admitted {obs : List Obs} (h : Shape obs) {o : Nat} {r : Int} (hm : Obs.admitted o r ∈ obs) :
    obs = [.transition o .half, .admitted o r, .cbState .half, .ret (some true)] := by
  induction h
  case quiet ho => have := mem_core hm rfl; rw [ho] at this; simp at this
  case retNone ho => have := mem_core hm rfl; rw [ho] at this; simp at this
  case trial o' r' => simp at hm; obtain ⟨rfl, rfl⟩ := hm; rfl
  all_goals simp at hm

theorem Shape.of_transition {obs : List Obs} (h : Shape obs) {o : Nat} {k : Kind} (hm : Obs.transition o k ∈ obs) :
    (k ≠ .half ∧ obs = [.transition o k, .cbState k, .ret none]) ∨
    (k = .half ∧ ∃ r, obs = [.transition o .half, .admitted o r, .cbState .half, .ret (some true)]) := by
  induction h
  case quiet ho => have := mem_core hm rfl; rw [ho] at this; simp at this
  case retNone ho => have := mem_core hm rfl; rw [ho] at this; simp at this
  case trial o' r' => simp at hm; obtain ⟨rfl, rfl⟩ := hm; exact .inr ⟨rfl, r', rfl⟩
  case moved o' k' hk => simp at hm; obtain ⟨rfl, rfl⟩ := hm; exact .inl ⟨hk, rfl⟩
  all_goals simp at hm

/-- in the log of a run, every `admitted o r` entry is immediately preceded by the entry
`transition o HALF_OPEN` of the same thread (they are emitted by the same step) -/
theorem run_admitted_after_transition (s : List (Tid × Act)) (c : Garr.Conc.Config (M cfg t1 t2)) (hc : Reach (M cfg t1 t2) c)
    (pre post : List (Tid × Obs)) (t : Tid) (o : Nat) (r : Int)
    (h : (run (M cfg t1 t2) c s).2 = pre ++ (t, Obs.admitted o r) :: post) :
    ∃ pre', pre = pre' ++ [(t, Obs.transition o .half)] := by
  let Q : List (Tid × Obs) → Tid × Obs → Prop :=
    fun pre e => ∀ o r, e.2 = Obs.admitted o r → ∃ pre', pre = pre' ++ [(e.1, Obs.transition o .half)]
  suffices hall : SplitInv Q (run (M cfg t1 t2) c s).2 from hall pre _ post h o r rfl
  refine run_ind (A := fun _ _ => True) (P := fun lg _ => SplitInv Q lg) (fun lg c u a g' l' obs _ hP _ hs => ?_)
    s c hc SplitInv.nil (fun _ _ => trivial)
  refine SplitInv.append hP (fun pre' e post' he o r hadm => ?_)
  have hmem : e ∈ obs.map (fun o => (u, o)) := by rw [he]; simp
  obtain ⟨x, hx, rfl⟩ := List.mem_map.mp hmem
  cases hadm
  rw [(step_sound hs).shape.of_admitted hx] at he
  -- the step's entries are `transition, admitted, cbState, ret`: the one before `admitted` is the transition
  have hQ : SplitInv (fun pre => Q (lg ++ pre)) ([.transition o .half, .admitted o r, .cbState .half,
      .ret (some true)].map (fun x : Obs => (u, x))) :=
    .cons nofun (.cons (fun o' r' h => by cases h; exact ⟨lg, rfl⟩) (.cons nofun (.cons nofun .nil)))
  exact hQ pre' _ post' he o r rfl

theorem run_obj_stable (s : List (Tid × Act)) (c : Garr.Conc.Config (M cfg t1 t2)) (hc : Reach (M cfg t1 t2) c) (o : Nat)
    (ho : o ≤ c.g.cur) : (run (M cfg t1 t2) c s).1.g.obj o = c.g.obj o := by
  refine (run_ind (A := fun _ _ => True) (P := fun _ c' => o ≤ c'.g.cur ∧ c'.g.obj o = c.g.obj o)
    (fun _ c' t a g' l' obs hc' ⟨i1, i2⟩ _ hs => ?_) s c hc ⟨ho, rfl⟩ (fun _ _ => trivial)).2
  obtain ⟨hg, _, hr⟩ := reach_step hc' hs
  have hm := hr.eff.mono hg
  exact ⟨Nat.le_trans i1 hm.1, (hm.2 o i1).trans i2⟩

end Runs

end Garr.Breaker
