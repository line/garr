import Garr.Breaker.Bucket
/-!
# The documented circuit-breaker machine over an event log, and the refinement proof

`docStep` transcribes the reference `docMachine` of `harness/seqdiff/breaker.go` (functions `closeFresh`,
`report`, `canRequest`, `notifyState`): the state is a kind, a deadline, the list of reports since the last
close (each stamped with the start tick of the update interval it was recorded in, or with its own tick when
the ticker had stepped back) and the start tick of the current interval.  Arithmetic is exact (`Int`, no
wrap), counts are `List.length ∘ List.filter`.

`C06_refines_doc`: under the explicit no-wrap guard `NoWrap`, one call of the code-shaped model
(`stepOp`, `Garr/Breaker/Seq.lean`) and one call of the documented machine produce the same result, the same
callbacks, consume the same readings and end in related states.  `C06_run_refines_doc` lifts this to every
operation sequence and every ticker trace.
-/
namespace Garr.Breaker
open Garr

structure DocEv where
  stamp : Int
  succ : Bool
deriving Repr, DecidableEq

structure Doc where
  kind : Kind
  deadline : Int
  events : List DocEv
  curStart : Int
deriving Repr, DecidableEq

/-- `closeFresh`: CLOSED with an empty log; first reading is the start of the interval, second is discarded -/
def docCloseFresh (d : Doc) (ts : List Int) : Doc × List Int :=
  let (t1, ts1) := pop ts
  let (_, ts2) := pop ts1
  ({ d with kind := .closed, events := [], curStart := t1 }, ts2)

/-- the documented initial state (what `execBreaker` builds: `closeFresh` then `notifyState("C")`) -/
def docCreate (cfg : Config) (ts : List Int) : Doc × List Int × List Cb :=
  let (d, ts1) := docCloseFresh { kind := .closed, deadline := 0, events := [], curStart := 0 } ts
  (d, ts1, fanState cfg.listeners .closed)

def docKept (window t : Int) (es : List DocEv) : List DocEv :=
  es.filter (fun e => decide (e.stamp ≥ t - window))

def docSucc (es : List DocEv) : Int := ((es.filter (fun e => e.succ)).length : Nat)
def docFail (es : List DocEv) : Int := ((es.filter (fun e => !e.succ)).length : Nat)

/-- the documented trip rule, on exact counts -/
def docTrips (cfg : Config) (s f : Int) : Bool :=
  decide (s + f > 0) && decide (s + f ≥ cfg.minReq) &&
    F64.lt cfg.thr (F64.div (F64.ofInt f) (F64.ofInt (s + f)))

/-- the sliding-window part of `report` in CLOSED (the same code is the reference tally of the `window` mode):
log, start of the current interval ↦ new log, new start, the count if this report completes the interval -/
def docOnEvent (window interval : Int) (es : List DocEv) (cur : Int) (t : Int) (succ : Bool) :
    List DocEv × Int × Option (Int × Int) :=
  if t < cur then (es ++ [⟨t, succ⟩], cur, none)
  else if t < cur + interval then (es ++ [⟨cur, succ⟩], cur, none)
  else
    -- the interval is complete: count what the sliding window holds (this report opens the next interval)
    let kept := docKept window t es
    (kept ++ [⟨t, succ⟩], t, some (docSucc kept, docFail kept))

/-- `report(succ)` -/
def docReport (cfg : Config) (d : Doc) (ts : List Int) (succ : Bool) : Doc × List Int × List Cb :=
  match d.kind with
  | .closed =>
    let (t, ts1) := pop ts
    let (es, cur, e) := docOnEvent cfg.window cfg.interval d.events d.curStart t succ
    let d1 : Doc := { d with events := es, curStart := cur }
    match e with
    | none => (d1, ts1, [])
    | some (s, f) =>
      if !succ && docTrips cfg s f then
        let (t2, ts2) := pop ts1
        ({ d1 with kind := .opn, deadline := t2 + cfg.openW }, ts2, fanState cfg.listeners .opn)
      else (d1, ts1, fanCount cfg.listeners s f)
  | .half =>
    if succ then
      let (d', ts1) := docCloseFresh d ts
      (d', ts1, fanState cfg.listeners .closed)
    else
      let (t, ts1) := pop ts
      ({ d with kind := .opn, deadline := t + cfg.openW }, ts1, fanState cfg.listeners .opn)
  | .opn => (d, ts, [])

/-- `canRequest()` -/
def docCan (cfg : Config) (d : Doc) (ts : List Int) : Doc × List Int × Bool × List Cb :=
  match d.kind with
  | .closed => (d, ts, true, [])
  | _ =>
    let (t1, ts1) := pop ts
    if d.deadline ≤ t1 then
      let (t2, ts2) := pop ts1
      ({ d with kind := .half, deadline := t2 + cfg.trial }, ts2, true, fanState cfg.listeners .half)
    else (d, ts1, false, fanRejected cfg.listeners)

def docStep (cfg : Config) (d : Doc) (ts : List Int) : Op → Doc × List Int × Out
  | .can => let r := docCan cfg d ts; (r.1, r.2.1, ⟨some r.2.2.1, r.2.2.2⟩)
  | .succ => let r := docReport cfg d ts true; (r.1, r.2.1, ⟨none, r.2.2⟩)
  | .fail => let r := docReport cfg d ts false; (r.1, r.2.1, ⟨none, r.2.2⟩)

def docRun (cfg : Config) : Doc → List Int → List Op → List Out × Doc × List Int
  | d, ts, [] => ([], d, ts)
  | d, ts, op :: ops =>
    let r := docStep cfg d ts op
    let rest := docRun cfg r.1 r.2.1 ops
    (r.2.2 :: rest.1, rest.2.1, rest.2.2)

/-- a ticker reading far enough from the `int64` limits that no deadline / window limit wraps -/
def InRange (t : Int) : Prop := -(2^62) ≤ t ∧ t ≤ 2^62

def CfgOK (cfg : Config) : Prop :=
  (0 < cfg.interval ∧ cfg.interval ≤ 2^61) ∧ (0 < cfg.window ∧ cfg.window ≤ 2^61) ∧
  (0 < cfg.openW ∧ cfg.openW ≤ 2^61) ∧ (0 < cfg.trial ∧ cfg.trial ≤ 2^61)

/-- the explicit guard under which `wrap64` is the identity on every sum the code forms
(the bound on the number of reports is a separate hypothesis `… < 2^62` of the theorems) -/
def NoWrap (cfg : Config) (ts : List Int) : Prop := CfgOK cfg ∧ ∀ t ∈ ts, InRange t

instance (t : Int) : Decidable (InRange t) := by unfold InRange; infer_instance
instance (cfg : Config) : Decidable (CfgOK cfg) := by unfold CfgOK; infer_instance
instance (cfg : Config) (ts : List Int) : Decidable (NoWrap cfg ts) := by unfold NoWrap; infer_instance

theorem NoWrap.pop {cfg : Config} {ts : List Int} (h : NoWrap cfg ts) :
    InRange (pop ts).1 ∧ NoWrap cfg (pop ts).2 := by
  cases ts with
  | nil => exact ⟨by decide, h⟩
  | cons a as => exact ⟨h.2 a (List.mem_cons_self ..), h.1, fun t ht => h.2 t (List.mem_cons_of_mem _ ht)⟩

theorem wrap_add_id {t d : Int} (ht : InRange t) (h0 : 0 < d) (h1 : d ≤ 2^61) : wrap64 (t + d) = t + d := by
  unfold InRange at ht; exact wrap_id (by omega) (by omega)

def cntS (p : Int → Bool) (es : List DocEv) : Nat := (es.filter (fun e => e.succ && p e.stamp)).length
def cntF (p : Int → Bool) (es : List DocEv) : Nat := (es.filter (fun e => !e.succ && p e.stamp)).length

def bsumS (p : Int → Bool) : List Bucket → Int
  | [] => 0
  | b :: bs => (if p b.ts then b.s else 0) + bsumS p bs
def bsumF (p : Int → Bool) : List Bucket → Int
  | [] => 0
  | b :: bs => (if p b.ts then b.f else 0) + bsumF p bs

def cntK (k : Bool) (p : Int → Bool) (es : List DocEv) : Nat := (es.filter (fun e => (e.succ == k) && p e.stamp)).length

theorem cntS_eq (p : Int → Bool) (es : List DocEv) : cntS p es = cntK true p es := by
  unfold cntS cntK; congr 2; funext e; cases e.succ <;> rfl

theorem cntF_eq (p : Int → Bool) (es : List DocEv) : cntF p es = cntK false p es := by
  unfold cntF cntK; congr 2; funext e; cases e.succ <;> rfl

theorem bsumS_eq (p : Int → Bool) (bs : List Bucket) : bsumS p bs = bsumK true p bs := by
  induction bs with
  | nil => rfl
  | cons b bs ih => exact congrArg _ ih

theorem bsumF_eq (p : Int → Bool) (bs : List Bucket) : bsumF p bs = bsumK false p bs := by
  induction bs with
  | nil => rfl
  | cons b bs ih => exact congrArg _ ih

theorem cntK_append (k : Bool) (p : Int → Bool) (es : List DocEv) (e : DocEv) :
    cntK k p (es ++ [e]) = cntK k p es + (if p e.stamp then (if e.succ = k then 1 else 0) else 0) := by
  unfold cntK
  rw [List.filter_append, List.length_append]
  by_cases hp : p e.stamp = true <;> by_cases hk : e.succ = k <;> simp [hp, hk]

theorem cntK_filter (k : Bool) (p q : Int → Bool) (es : List DocEv) :
    cntK k p (es.filter (fun e => q e.stamp)) = cntK k (fun x => q x && p x) es := by
  unfold cntK
  rw [List.filter_filter]
  congr 2
  funext e
  show (_ && p e.stamp && q e.stamp) = (_ && (q e.stamp && p e.stamp))
  cases (e.succ == k) <;> cases q e.stamp <;> cases p e.stamp <;> rfl

theorem cntK_le (k : Bool) (p : Int → Bool) (es : List DocEv) : cntK k p es ≤ es.length := List.length_filter_le _ _

theorem docSucc_eq (es : List DocEv) : docSucc es = (cntK true (fun _ => true) es : Nat) := by
  simp [docSucc, cntK]
theorem docFail_eq (es : List DocEv) : docFail es = (cntK false (fun _ => true) es : Nat) := by
  simp [docFail, cntK]

/-- the window counter `w` represents the log `es` with current interval start `cur`:
for every predicate on stamps, the logged successes / failures with that stamp are exactly the bucket counts
of the buckets with that start tick (plus what the no-wrap argument needs: range of `cur`, non-negative buckets) -/
structure WinRel (w : Win) (es : List DocEv) (cur : Int) : Prop where
  start : cur = w.cur.ts
  range : InRange cur
  nonneg : ∀ b ∈ w.res ++ [w.cur], 0 ≤ b.s ∧ 0 ≤ b.f
  countS : ∀ p : Int → Bool, ((cntS p es : Nat) : Int) = bsumS p (w.res ++ [w.cur])
  countF : ∀ p : Int → Bool, ((cntF p es : Nat) : Int) = bsumF p (w.res ++ [w.cur])

/-- the buckets `bs` tally the log `es`: for every outcome and every predicate on stamps, the logged events of that
outcome with such a stamp are as many as the counters of the buckets with such a start tick hold together; no
counter is negative (which the no-wrap argument needs) -/
structure Tally (es : List DocEv) (bs : List Bucket) : Prop where
  nonneg : ∀ k, ∀ b ∈ bs, 0 ≤ selB k b
  count : ∀ k p, ((cntK k p es : Nat) : Int) = bsumK k p bs

theorem winRel_iff {w : Win} {es : List DocEv} {cur : Int} :
    WinRel w es cur ↔ cur = w.cur.ts ∧ InRange cur ∧ Tally es (w.res ++ [w.cur]) := by
  constructor
  · intro h
    refine ⟨h.start, h.range, fun k b hb => ?_, fun k p => ?_⟩ <;> cases k
    · exact (h.nonneg b hb).2
    · exact (h.nonneg b hb).1
    · rw [← cntF_eq, ← bsumF_eq]; exact h.countF p
    · rw [← cntS_eq, ← bsumS_eq]; exact h.countS p
  · intro ⟨hs, hr, hn, hc⟩
    exact ⟨hs, hr, fun b hb => ⟨hn true b hb, hn false b hb⟩, fun p => by rw [cntS_eq, bsumS_eq]; exact hc true p,
      fun p => by rw [cntF_eq, bsumF_eq]; exact hc false p⟩

/-- the fresh bucket goes anywhere among the buckets: into the reservoir when the ticker stepped back, as the new
current bucket when the interval is complete -/
theorem Tally.fresh {es : List DocEv} {bs cs : List Bucket} (h : Tally es (bs ++ cs)) (t : Int) (succ : Bool) :
    Tally (es ++ [⟨t, succ⟩]) (bs ++ mkBucket t succ :: cs) := by
  refine ⟨fun k b hb => ?_, fun k p => ?_⟩
  · simp only [List.mem_append, List.mem_cons] at hb
    rcases hb with hb | rfl | hb
    · exact h.nonneg k b (List.mem_append_left _ hb)
    · rw [selB_mk]; split <;> decide
    · exact h.nonneg k b (List.mem_append_right _ hb)
  · rw [cntK_append, bsumK_insert, ← h.count k p, ts_mk, selB_mk]
    by_cases hp : p t = true <;> by_cases hk : succ = k <;> simp [hp, hk]

/-- the counter of the last bucket is at most the number of logged events, so the increment does not wrap -/
theorem Tally.add {es : List DocEv} {bs : List Bucket} {b : Bucket} (h : Tally es (bs ++ [b])) (hn : es.length < 2^62)
    (succ : Bool) : Tally (es ++ [⟨b.ts, succ⟩]) (bs ++ [b.add succ]) := by
  have hb := fun k => h.nonneg k b (List.mem_append_right _ (List.mem_singleton_self b))
  have hadd : ∀ k, selB k (b.add succ) = selB k b + if succ = k then 1 else 0 := by
    have h0 := h.count succ (fun _ => true)
    rw [bsumK_append, bsumK, bsumK] at h0
    have := bsumK_nonneg succ (fun _ => true) bs (fun c hc => h.nonneg succ c (List.mem_append_left _ hc))
    have := cntK_le succ (fun _ => true) es
    have := hb succ
    exact fun k => selB_add k b succ ⟨by omega, by simp only [if_true] at h0; omega⟩
  refine ⟨fun k c hc => ?_, fun k p => ?_⟩
  · simp only [List.mem_append, List.mem_singleton] at hc
    rcases hc with hc | rfl
    · exact h.nonneg k c (List.mem_append_left _ hc)
    · have := hb k
      rw [hadd]; split <;> omega
  · have := h.count k p
    rw [bsumK_append, bsumK, bsumK] at this ⊢
    rw [cntK_append, ts_add, hadd]
    by_cases hp : p b.ts = true <;> by_cases hk : succ = k <;> simp [hp, hk] at this ⊢ <;> omega

theorem Tally.filter {es : List DocEv} {bs : List Bucket} (h : Tally es bs) (q : Int → Bool) :
    Tally (es.filter (fun e => q e.stamp)) (bs.filter (fun b => q b.ts)) :=
  ⟨fun k b hb => h.nonneg k b (List.mem_filter.mp hb).1, fun k p => by rw [cntK_filter, bsumK_filter]; exact h.count k _⟩

theorem Tally.sum {es : List DocEv} {bs : List Bucket} (h : Tally es bs) (hn : es.length < 2^62) (k : Bool) :
    bs.foldl (fun acc b => wrap64 (acc + selB k b)) 0 = (cntK k (fun _ => true) es : Nat) := by
  rw [fold_eq, ← h.count]
  exact wrap_nat _ (Nat.lt_of_le_of_lt (cntK_le ..) hn)

theorem trim_filter_eq (L : Int) :
    (fun b : Bucket => !(decide (b.ts < L))) = (fun b : Bucket => (fun x : Int => decide (x ≥ L)) b.ts) := by
  funext b; simp only [← decide_not, Int.not_lt, ge_iff_le]

theorem exceeds_eq_docTrips (cfg : Config) (s f : Int) (h1 : -(2^63) ≤ s + f) (h2 : s + f < 2^63) :
    exceeds cfg s f = docTrips cfg s f := by
  unfold exceeds docTrips
  simp only [wrap_id h1 h2]
  by_cases h0 : s + f = 0
  · simp [h0]
  · simp [h0]

/-- One report handled by the sliding-window counter (`onEvent`, wrapping `int64` arithmetic, buckets + reservoir)
and by the documented log (`docOnEvent`, exact arithmetic), in explicit form: both return the same count `e`
(`trimAndSum`'s sums are the numbers of logged successes / failures stamped inside the window), the counting
invariant is re-established, and on that count the code's trip test is the documented one. -/
theorem onEvent_refines (cfg : Config) (w : Win) (es : List DocEv) (cur t : Int) (succ : Bool)
    (hc : CfgOK cfg) (ht : InRange t) (hn : es.length < 2^62) (hr : WinRel w es cur) :
    ∃ w' es' cur' e, onEvent cfg.window cfg.interval w t succ = (w', e) ∧
      docOnEvent cfg.window cfg.interval es cur t succ = (es', cur', e) ∧
      WinRel w' es' cur' ∧ es'.length ≤ es.length + 1 ∧
      ∀ c ∈ e, exceeds cfg c.1 c.2 = docTrips cfg c.1 c.2 := by
  obtain ⟨rfl, hrng, hcnt⟩ := winRel_iff.mp hr
  obtain ⟨⟨hi1, hi2⟩, ⟨hw1, hw2⟩, _, _⟩ := hc
  have hwi : wrap64 (w.cur.ts + cfg.interval) = w.cur.ts + cfg.interval := wrap_add_id hrng hi1 hi2
  have hwl : wrap64 (t - cfg.window) = t - cfg.window := by unfold InRange at ht; exact wrap_id (by omega) (by omega)
  by_cases h1 : t < w.cur.ts
  · -- the ticker stepped back: a bucket of its own / a log entry with its own stamp
    refine ⟨{ w with res := w.res ++ [mkBucket t succ] }, es ++ [⟨t, succ⟩], w.cur.ts, none,
      by simp only [onEvent, h1, if_true], by simp only [docOnEvent, h1, if_true],
      winRel_iff.mpr ⟨rfl, hrng, ?_⟩, by simp, nofun⟩
    rw [List.append_assoc]; exact hcnt.fresh t succ
  · by_cases h2 : t < w.cur.ts + cfg.interval
    · -- inside the update interval: the current bucket / a log entry stamped with the interval start
      exact ⟨{ w with cur := w.cur.add succ }, es ++ [⟨w.cur.ts, succ⟩], w.cur.ts, none,
        by simp only [onEvent, h1, hwi, h2, if_true, if_false], by simp only [docOnEvent, h1, h2, if_true, if_false],
        winRel_iff.mpr ⟨(ts_add ..).symm, hrng, hcnt.add hn succ⟩, by simp, nofun⟩
    · -- the interval is complete: trim, count, open the next interval
      let q : Int → Bool := fun x => decide (x ≥ t - cfg.window)
      let keptB := (w.res ++ [w.cur]).filter (fun b => q b.ts)
      let keptE := es.filter (fun e => q e.stamp)
      have hk : Tally keptE keptB := hcnt.filter q
      have kl : keptE.length ≤ es.length := List.length_filter_le _ _
      have hkn : keptE.length < 2^62 := Nat.lt_of_le_of_lt kl hn
      have eS : sumS keptB = (cntK true (fun _ => true) keptE : Nat) := hk.sum hkn true
      have eF : sumF keptB = (cntK false (fun _ => true) keptE : Nat) := hk.sum hkn false
      refine ⟨⟨mkBucket t succ, keptB, (sumS keptB, sumF keptB)⟩, keptE ++ [⟨t, succ⟩], t, some (sumS keptB, sumF keptB),
        by simp only [onEvent, h1, hwi, h2, if_false, trimAndSum, hwl, trim_filter_eq, keptB, q],
        by simp only [docOnEvent, h1, h2, if_false, docKept, eS, eF, docSucc_eq, docFail_eq, keptE, q],
        winRel_iff.mpr ⟨(ts_mk ..).symm, ht, ?_⟩, by simp; omega, fun c hc => ?_⟩
      · rw [← List.append_nil keptB] at hk
        exact hk.fresh t succ
      · cases hc
        have := cntK_le true (fun _ => true) keptE
        have := cntK_le false (fun _ => true) keptE
        exact exceeds_eq_docTrips cfg _ _ (by omega) (by omega)

/-- **window_refines_log**: one report handled by the sliding-window counter and by the documented log returns
the same count and re-establishes the counting invariant. -/
theorem window_refines_log (cfg : Config) (w : Win) (es : List DocEv) (cur t : Int) (succ : Bool)
    (hc : CfgOK cfg) (ht : InRange t) (hn : es.length < 2^62) (hr : WinRel w es cur) :
    (onEvent cfg.window cfg.interval w t succ).2 = (docOnEvent cfg.window cfg.interval es cur t succ).2.2 ∧
    WinRel (onEvent cfg.window cfg.interval w t succ).1 (docOnEvent cfg.window cfg.interval es cur t succ).1
      (docOnEvent cfg.window cfg.interval es cur t succ).2.1 ∧
    (docOnEvent cfg.window cfg.interval es cur t succ).1.length ≤ es.length + 1 := by
  obtain ⟨_, _, _, _, h1, h2, hw, hl, _⟩ := onEvent_refines cfg w es cur t succ hc ht hn hr
  rw [h1, h2]
  exact ⟨rfl, hw, hl⟩

theorem canRequest_closed {cfg : Config} {st : St} {ts : List Int} (h : st.kind = .closed) :
    canRequest cfg st ts = (st, ts, true, []) := by
  simp only [canRequest, h]

theorem canRequest_wait {cfg : Config} {st : St} {ts : List Int}
    (hk : st.kind ≠ .closed) (hd : st.dur > 0) (ht : ¬ st.timeout ≤ (pop ts).1) :
    canRequest cfg st ts = (st, (pop ts).2, false, fanRejected cfg.listeners) := by
  unfold canRequest
  split
  · contradiction
  · simp only [hd, ht, if_true, if_false]

theorem canRequest_trial {cfg : Config} {st : St} {ts : List Int}
    (hk : st.kind ≠ .closed) (hd : st.dur > 0) (ht : st.timeout ≤ (pop ts).1) :
    canRequest cfg st ts =
      ({ kind := .half, timeout := wrap64 ((pop (pop ts).2).1 + cfg.trial), dur := cfg.trial, win := st.win },
       (pop (pop ts).2).2, true, fanState cfg.listeners .half) := by
  unfold canRequest
  split
  · contradiction
  · simp only [hd, ht, if_true, newTimed]

theorem docCan_closed {cfg : Config} {d : Doc} {ts : List Int} (h : d.kind = .closed) :
    docCan cfg d ts = (d, ts, true, []) := by
  simp only [docCan, h]

theorem docCan_wait {cfg : Config} {d : Doc} {ts : List Int} (hk : d.kind ≠ .closed) (ht : ¬ d.deadline ≤ (pop ts).1) :
    docCan cfg d ts = (d, (pop ts).2, false, fanRejected cfg.listeners) := by
  unfold docCan
  split
  · contradiction
  · simp only [ht, if_false]

theorem docCan_trial {cfg : Config} {d : Doc} {ts : List Int} (hk : d.kind ≠ .closed) (ht : d.deadline ≤ (pop ts).1) :
    docCan cfg d ts =
      ({ d with kind := .half, deadline := (pop (pop ts).2).1 + cfg.trial },
       (pop (pop ts).2).2, true, fanState cfg.listeners .half) := by
  unfold docCan
  split
  · contradiction
  · simp only [ht, if_true]

theorem onSuccess_closed_none {cfg : Config} {st : St} {ts : List Int} {w : Win} (h : st.kind = .closed)
    (he : onEvent cfg.window cfg.interval st.win (pop ts).1 true = (w, none)) :
    onSuccess cfg st ts = ({ st with win := w }, (pop ts).2, []) := by
  simp only [onSuccess, h, he]

theorem onSuccess_closed_some {cfg : Config} {st : St} {ts : List Int} {w : Win} {s f : Int} (h : st.kind = .closed)
    (he : onEvent cfg.window cfg.interval st.win (pop ts).1 true = (w, some (s, f))) :
    onSuccess cfg st ts = ({ st with win := w }, (pop ts).2, fanCount cfg.listeners s f) := by
  simp only [onSuccess, h, he]

theorem onFailure_closed_none {cfg : Config} {st : St} {ts : List Int} {w : Win} (h : st.kind = .closed)
    (he : onEvent cfg.window cfg.interval st.win (pop ts).1 false = (w, none)) :
    onFailure cfg st ts = ({ st with win := w }, (pop ts).2, []) := by
  simp only [onFailure, h, he]

theorem onFailure_closed_ok {cfg : Config} {st : St} {ts : List Int} {w : Win} {s f : Int} (h : st.kind = .closed)
    (he : onEvent cfg.window cfg.interval st.win (pop ts).1 false = (w, some (s, f))) (hx : exceeds cfg s f = false) :
    onFailure cfg st ts = ({ st with win := w }, (pop ts).2, fanCount cfg.listeners s f) := by
  simp only [onFailure, h, he, hx, Bool.false_eq_true, if_false]

theorem onFailure_closed_trip {cfg : Config} {st : St} {ts : List Int} {w : Win} {s f : Int} (h : st.kind = .closed)
    (he : onEvent cfg.window cfg.interval st.win (pop ts).1 false = (w, some (s, f))) (hx : exceeds cfg s f = true) :
    onFailure cfg st ts =
      ({ kind := .opn, timeout := wrap64 ((pop (pop ts).2).1 + cfg.openW), dur := cfg.openW, win := w },
       (pop (pop ts).2).2, fanState cfg.listeners .opn) := by
  simp only [onFailure, h, he, hx, if_true, newTimed]

theorem docReport_closed_none {cfg : Config} {d : Doc} {ts : List Int} {succ : Bool} {es : List DocEv} {cur : Int}
    (h : d.kind = .closed)
    (he : docOnEvent cfg.window cfg.interval d.events d.curStart (pop ts).1 succ = (es, cur, none)) :
    docReport cfg d ts succ = ({ d with events := es, curStart := cur }, (pop ts).2, []) := by
  simp only [docReport, h, he]

theorem docReport_closed_ok {cfg : Config} {d : Doc} {ts : List Int} {succ : Bool} {es : List DocEv} {cur s f : Int}
    (h : d.kind = .closed)
    (he : docOnEvent cfg.window cfg.interval d.events d.curStart (pop ts).1 succ = (es, cur, some (s, f)))
    (hx : (!succ && docTrips cfg s f) = false) :
    docReport cfg d ts succ = ({ d with events := es, curStart := cur }, (pop ts).2, fanCount cfg.listeners s f) := by
  simp only [docReport, h, he, hx, Bool.false_eq_true, if_false]

theorem docReport_closed_trip {cfg : Config} {d : Doc} {ts : List Int} {succ : Bool} {es : List DocEv} {cur s f : Int}
    (h : d.kind = .closed)
    (he : docOnEvent cfg.window cfg.interval d.events d.curStart (pop ts).1 succ = (es, cur, some (s, f)))
    (hx : (!succ && docTrips cfg s f) = true) :
    docReport cfg d ts succ =
      ({ kind := .opn, deadline := (pop (pop ts).2).1 + cfg.openW, events := es, curStart := cur },
       (pop (pop ts).2).2, fanState cfg.listeners .opn) := by
  simp only [docReport, h, he, hx, if_true]

/-- the code-shaped state `st` represents the documented state `d` -/
structure Rel (st : St) (d : Doc) : Prop where
  kind : st.kind = d.kind
  closed : d.kind = .closed → WinRel st.win d.events d.curStart
  timed : d.kind ≠ .closed → st.timeout = d.deadline ∧ st.dur > 0

theorem winRel_new (t : Int) (ht : InRange t) : WinRel (newWin t) [] t := by
  refine ⟨rfl, ht, ?_, ?_, ?_⟩
  · intro b hb
    simp only [newWin, List.nil_append, List.mem_singleton] at hb
    subst hb; simp
  · intro p; simp [cntS, newWin, bsumS]
  · intro p; simp [cntF, newWin, bsumF]

theorem rel_timed {k : Kind} {t dur : Int} {w : Win} {es : List DocEv} {c : Int} (ht : InRange t) (h0 : 0 < dur)
    (h1 : dur ≤ 2^61) (hk : k ≠ .closed) : Rel ⟨k, wrap64 (t + dur), dur, w⟩ ⟨k, t + dur, es, c⟩ :=
  ⟨rfl, (absurd · hk), fun _ => ⟨wrap_add_id ht h0 h1, h0⟩⟩

/-- what one call of the two machines, from a documented state with `n` logged reports, agrees on: the answer, the
readings left, related states, a log at most one longer, the guard for the next call -/
def Agree (cfg : Config) (n : Nat) {α : Type} (r : St × List Int × α) (r' : Doc × List Int × α) : Prop :=
  r.2.2 = r'.2.2 ∧ r.2.1 = r'.2.1 ∧ Rel r.1 r'.1 ∧ r'.1.events.length ≤ n + 1 ∧ NoWrap cfg r'.2.1

/-- **C06_refines_doc** (one call).  Under the no-wrap guard, from related states, every call
(`CanRequest`, `OnSuccess`, `OnFailure`) of the code-shaped model and of the documented machine returns the same
result and callback log, consumes the same ticker readings, and ends in related states
(the last two conjuncts re-establish the guard for the next call). -/
theorem C06_refines_doc (cfg : Config) (st : St) (d : Doc) (ts : List Int) (op : Op)
    (hg : NoWrap cfg ts) (hn : d.events.length < 2^62) (hr : Rel st d) :
    (stepOp cfg st ts op).2.2 = (docStep cfg d ts op).2.2 ∧
    (stepOp cfg st ts op).2.1 = (docStep cfg d ts op).2.1 ∧
    Rel (stepOp cfg st ts op).1 (docStep cfg d ts op).1 ∧
    (docStep cfg d ts op).1.events.length ≤ d.events.length + 1 ∧
    NoWrap cfg (docStep cfg d ts op).2.1 := by
  obtain ⟨htr, hg1⟩ := hg.pop
  obtain ⟨htr2, hg2⟩ := hg1.pop
  obtain ⟨_, _, ⟨ho1, ho2⟩, ⟨ht1, ht2⟩⟩ := hg.1
  have same : ∀ {α : Type} (x : α), Agree cfg d.events.length (st, ts, x) (d, ts, x) :=
    fun _ => ⟨rfl, rfl, hr, Nat.le_succ _, hg⟩
  obtain ⟨hk, hcl, htm⟩ := hr
  -- both machines branch on the kind, which is the same, and then on the same tests
  cases op
  · suffices h : Agree cfg d.events.length (canRequest cfg st ts) (docCan cfg d ts) from
      ⟨congrArg (fun x : Bool × List Cb => (⟨some x.1, x.2⟩ : Out)) h.1, h.2⟩
    by_cases hd : d.kind = .closed
    · rw [canRequest_closed (hk.trans hd), docCan_closed hd]
      exact same _
    · obtain ⟨hto, hdur⟩ := htm hd
      by_cases hw : d.deadline ≤ (pop ts).1
      · rw [canRequest_trial (hk ▸ hd) hdur (hto ▸ hw), docCan_trial hd hw]
        exact ⟨rfl, rfl, rel_timed htr2 ht1 ht2 nofun, Nat.le_succ _, hg2⟩
      · rw [canRequest_wait (hk ▸ hd) hdur (hto ▸ hw), docCan_wait hd hw]
        exact ⟨rfl, rfl, ⟨hk, hcl, htm⟩, Nat.le_succ _, hg1⟩
  · suffices h : Agree cfg d.events.length (onSuccess cfg st ts) (docReport cfg d ts true) from
      ⟨congrArg (Out.mk none) h.1, h.2⟩
    cases hd : d.kind with
    | opn => simp only [onSuccess, docReport, hk.trans hd, hd]; exact same _
    | half =>
      simp only [onSuccess, docReport, hk.trans hd, hd, newClosed, docCloseFresh]
      exact ⟨rfl, rfl, ⟨rfl, fun _ => winRel_new _ htr, (absurd rfl ·)⟩, Nat.zero_le _, hg2⟩
    | closed =>
      obtain ⟨w', es', cur', e, h1, h2, hw, hl, _⟩ :=
        onEvent_refines cfg st.win d.events d.curStart (pop ts).1 true hg.1 htr hn (hcl hd)
      rcases e with _ | ⟨s, f⟩
      · rw [onSuccess_closed_none (hk.trans hd) h1, docReport_closed_none hd h2]
        exact ⟨rfl, rfl, ⟨hk, fun _ => hw, (absurd hd ·)⟩, hl, hg1⟩
      · rw [onSuccess_closed_some (hk.trans hd) h1, docReport_closed_ok hd h2 rfl]
        exact ⟨rfl, rfl, ⟨hk, fun _ => hw, (absurd hd ·)⟩, hl, hg1⟩
  · suffices h : Agree cfg d.events.length (onFailure cfg st ts) (docReport cfg d ts false) from
      ⟨congrArg (Out.mk none) h.1, h.2⟩
    cases hd : d.kind with
    | opn => simp only [onFailure, docReport, hk.trans hd, hd]; exact same _
    | half =>
      simp only [onFailure, docReport, hk.trans hd, hd, newTimed]
      exact ⟨rfl, rfl, rel_timed htr ho1 ho2 nofun, Nat.le_succ _, hg1⟩
    | closed =>
      obtain ⟨w', es', cur', e, h1, h2, hw, hl, htrip⟩ :=
        onEvent_refines cfg st.win d.events d.curStart (pop ts).1 false hg.1 htr hn (hcl hd)
      rcases e with _ | ⟨s, f⟩
      · rw [onFailure_closed_none (hk.trans hd) h1, docReport_closed_none hd h2]
        exact ⟨rfl, rfl, ⟨hk, fun _ => hw, (absurd hd ·)⟩, hl, hg1⟩
      · have hx := htrip (s, f) rfl
        cases ht : docTrips cfg s f
        · rw [onFailure_closed_ok (hk.trans hd) h1 (hx.trans ht), docReport_closed_ok hd h2 (by rw [ht]; rfl)]
          exact ⟨rfl, rfl, ⟨hk, fun _ => hw, (absurd hd ·)⟩, hl, hg1⟩
        · rw [onFailure_closed_trip (hk.trans hd) h1 (hx.trans ht), docReport_closed_trip hd h2 (by rw [ht]; rfl)]
          exact ⟨rfl, rfl, rel_timed htr2 ho1 ho2 nofun, hl, hg2⟩

/-- the constructor and the documented initial state (CLOSED, empty log, `curStart` = first reading, second
reading discarded) are related, notify identically and consume the same two readings -/
theorem create_refines_doc (cfg : Config) (ts : List Int) (hg : NoWrap cfg ts) :
    (create cfg ts).2.2 = (docCreate cfg ts).2.2 ∧
    (create cfg ts).2.1 = (docCreate cfg ts).2.1 ∧
    Rel (create cfg ts).1 (docCreate cfg ts).1 ∧
    (docCreate cfg ts).1.events = [] ∧
    NoWrap cfg (docCreate cfg ts).2.1 := by
  obtain ⟨htr, hg1⟩ := hg.pop
  exact ⟨rfl, rfl, ⟨rfl, fun _ => winRel_new _ htr, (absurd rfl ·)⟩, rfl, hg1.pop.2⟩

/-- **C06_refines_doc** (runs).  From related states, every operation sequence produces the same outputs, leaves
the same readings and ends in related states. -/
theorem C06_run_refines_doc (cfg : Config) (ops : List Op) : ∀ (st : St) (d : Doc) (ts : List Int),
    NoWrap cfg ts → d.events.length + ops.length < 2^62 → Rel st d →
    (runOps cfg st ts ops).1 = (docRun cfg d ts ops).1 ∧
    (runOps cfg st ts ops).2.2 = (docRun cfg d ts ops).2.2 ∧
    Rel (runOps cfg st ts ops).2.1 (docRun cfg d ts ops).2.1 := by
  induction ops with
  | nil => intro st d ts _ _ hr; exact ⟨rfl, rfl, hr⟩
  | cons op ops ih =>
    intro st d ts hg hn hr
    simp only [List.length_cons] at hn
    obtain ⟨h1, h2, h3, h4, h5⟩ := C06_refines_doc cfg st d ts op hg (by omega) hr
    obtain ⟨i1, i2, i3⟩ := ih _ _ _ h5 (by omega) h3
    simp only [runOps, docRun]
    rw [h2, h1, i1]
    exact ⟨rfl, i2, i3⟩

/-- **C06** end to end: a breaker built by the constructor and the documented machine started in its initial
state agree on the constructor's callbacks, on the result and callback log of every call of every operation
sequence, and on the readings consumed — for every ticker trace (advancing, standing still, stepping
backwards) within the guard. -/
theorem C06_breaker_follows_doc (cfg : Config) (ts : List Int) (ops : List Op)
    (hg : NoWrap cfg ts) (hlen : ops.length < 2^62) :
    (create cfg ts).2.2 = (docCreate cfg ts).2.2 ∧
    (runOps cfg (create cfg ts).1 (create cfg ts).2.1 ops).1 =
      (docRun cfg (docCreate cfg ts).1 (docCreate cfg ts).2.1 ops).1 ∧
    (runOps cfg (create cfg ts).1 (create cfg ts).2.1 ops).2.2 =
      (docRun cfg (docCreate cfg ts).1 (docCreate cfg ts).2.1 ops).2.2 ∧
    Rel (runOps cfg (create cfg ts).1 (create cfg ts).2.1 ops).2.1
      (docRun cfg (docCreate cfg ts).1 (docCreate cfg ts).2.1 ops).2.1 := by
  obtain ⟨c1, c2, c3, c4, c5⟩ := create_refines_doc cfg ts hg
  rw [c2]
  obtain ⟨r1, r2, r3⟩ := C06_run_refines_doc cfg ops _ _ _ c5 (by rw [c4]; simpa using hlen) c3
  exact ⟨c1, r1, r2, r3⟩

end Garr.Breaker
