import Garr.Breaker.FineOwn
/-!
# Full-stack window counter: the bucket counters are exactly the logged adds

`Cnt` equates the counters of the buckets (`W.sel`, and its sum `bsum` over the buckets inside a window) with the adds in
the ghost log (`cntAdds`, `cntAddsTo`); `CntEff` is what a micro-step does to the counters.
-/
namespace Garr.Breaker.Fine
open Garr Garr.Conc

/-- counter `k` (`true`: successes, `false`: failures) of bucket `b`
(same notion as `Garr.Breaker.selB`, which is on `Bucket` records) -/
def W.sel (w : W) (k : Bool) (b : Nat) : Nat := if k then w.sc b else w.fc b

/-- sum of counter `k` over the buckets `< n` with timestamp `≥ lim`
(same notion as `Garr.Breaker.bsumK`, which is on a list of `Bucket` records) -/
def bsum (w : W) (k : Bool) (lim : Int) : Nat → Nat
  | 0 => 0
  | n + 1 => bsum w k lim n + (if lim ≤ w.ts n then w.sel k n else 0)

def isAdd (k : Bool) (lim : Int) (e : Tid × Ev) : Bool :=
  match e.2 with
  | .added _ s _ st => s == k && decide (lim ≤ st)
  | _ => false

def isAddTo (k : Bool) (b : Nat) (e : Tid × Ev) : Bool :=
  match e.2 with
  | .added _ s b' _ => s == k && b' == b
  | _ => false

def Ev.isAdded : Ev → Bool | .added .. => true | _ => false

def cntAdds (k : Bool) (lim : Int) (lg : List (Tid × Ev)) : Nat := lg.countP (isAdd k lim)
def cntAddsTo (k : Bool) (b : Nat) (lg : List (Tid × Ev)) : Nat := lg.countP (isAddTo k b)

abbrev tagE (tid : Tid) (es : List Ev) : List (Tid × Ev) := es.map (fun e => (tid, e))

theorem cntAdds_append (k : Bool) (lim : Int) (a b : List (Tid × Ev)) :
    cntAdds k lim (a ++ b) = cntAdds k lim a + cntAdds k lim b := by simp [cntAdds]
theorem cntAddsTo_append (k : Bool) (x : Nat) (a b : List (Tid × Ev)) :
    cntAddsTo k x (a ++ b) = cntAddsTo k x a + cntAddsTo k x b := by simp [cntAddsTo]

theorem cntAdds_quiet {es : List Ev} (h : ∀ e ∈ es, e.isAdded = false) (tid : Tid) (k : Bool) (lim : Int) :
    cntAdds k lim (tagE tid es) = 0 := by
  simp only [cntAdds, List.countP_eq_zero, tagE, List.mem_map]
  rintro _ ⟨e, he, rfl⟩
  have := h e he
  cases e <;> simp [isAdd, Ev.isAdded] at this ⊢

theorem cntAddsTo_quiet {es : List Ev} (h : ∀ e ∈ es, e.isAdded = false) (tid : Tid) (k : Bool) (b : Nat) :
    cntAddsTo k b (tagE tid es) = 0 := by
  simp only [cntAddsTo, List.countP_eq_zero, tagE, List.mem_map]
  rintro _ ⟨e, he, rfl⟩
  have := h e he
  cases e <;> simp [isAddTo, Ev.isAdded] at this ⊢

theorem bsum_congr {w w' : W} {k : Bool} {lim : Int} {n : Nat}
    (h : ∀ b, b < n → w'.ts b = w.ts b ∧ w'.sel k b = w.sel k b) : bsum w' k lim n = bsum w k lim n := by
  induction n with
  | zero => rfl
  | succ n ih =>
    simp only [bsum]
    rw [ih (fun b hb => h b (by omega)), (h n (by omega)).1, (h n (by omega)).2]

theorem sel_alloc (w : W) (t : Int) (k : Bool) (x : Nat) : (w.alloc t).sel k x = if x = w.nb then 0 else w.sel k x := by
  cases k <;> rfl

theorem sel_addTo (w : W) (b : Nat) (s k : Bool) (c : Nat) :
    (w.addTo b s).sel k c = w.sel k c + (if c = b ∧ s = k then 1 else 0) := by
  unfold W.addTo W.sel
  cases s <;> cases k <;> by_cases h : c = b <;> simp [h]

theorem bsum_addTo (w : W) (b : Nat) (s k : Bool) (lim : Int) (n : Nat) :
    bsum (w.addTo b s) k lim n = bsum w k lim n + (if b < n ∧ s = k ∧ lim ≤ w.ts b then 1 else 0) := by
  induction n with
  | zero => simp [bsum]
  | succ n ih =>
    simp only [bsum, ih, addTo_ts, sel_addTo]
    by_cases hb : n = b
    · subst hb
      by_cases h1 : s = k <;> by_cases h2 : lim ≤ w.ts n <;> simp [h1, h2] <;> omega
    · have h3 : (b < n + 1) ↔ (b < n) := by omega
      simp only [h3, hb, false_and, if_false, Nat.add_zero]
      omega

/-- buckets mentioned in the locals exist; of the bucket a thread is about to offer, `Own.held_lt` says so -/
def refsOK (g : G) (l : L) : Prop :=
  match l.w with
  | .add _ _ b => b < g.w.nb
  | .rollAdd _ _ old _ => old < g.w.nb
  | .cas _ old _ => old < g.w.nb
  | _ => True

structure Cnt (g : G) (ls : Tid → L) : Prop where
  refs : ∀ t, refsOK g (ls t)
  sum : ∀ k lim, cntAdds k lim g.w.log = bsum g.w k lim g.w.nb
  per : ∀ k b, g.w.sel k b = cntAddsTo k b g.w.log
  stamp : ∀ tid t s b st, (tid, Ev.added t s b st) ∈ g.w.log → b < g.w.nb ∧ g.w.ts b = st

inductive CntEff (tid : Tid) (g : G) (l : L) (g' : G) (l' : L) : Prop
  | quiet (es : List Ev) : g'.w.nb = g.w.nb → g'.w.ts = g.w.ts → g'.w.sc = g.w.sc → g'.w.fc = g.w.fc →
      g'.w.log = g.w.log ++ tagE tid es → (∀ e ∈ es, e.isAdded = false) →
      (refsOK g l → g.w.cur < g.w.nb → refsOK g' l') → CntEff tid g l g' l'
  | alloc (t : Int) : g'.w = g.w.alloc t → (g.w.cur < g.w.nb → refsOK g' l') → CntEff tid g l g' l'
  | add (t : Int) (s : Bool) (b : Nat) : b < g.w.nb →
      g'.w = (g.w.addTo b s).emit tid [.added t s b (g.w.ts b)] → (refsOK g l → refsOK g' l') → CntEff tid g l g' l'

theorem linkedEv_quiet (g : G) (b : Nat) (o : List Queue.Obs) : ∀ x ∈ linkedEv g b o, x.isAdded = false := by
  unfold linkedEv; split
  · exact forall_mem_one rfl
  · exact forall_mem_nil

theorem eff_cnt {cfg : Cfg} {tid : Tid} {g g' : G} {ls : Tid → L} {l' : L} (ho : Own g ls) (hr : refsOK g (ls tid))
    (he : Eff cfg tid g (ls tid) g' l') : CntEff tid g (ls tid) g' l' := by
  have hh := ho.held_lt tid
  induction he
  case ldBs t hw _ => exact .alloc t rfl (fun _ => trivial)
  case ldRoll t hw _ _ => exact .alloc t rfl (fun h => Nat.lt_succ_of_lt h)
  case bsAdd succ t b hw hq => exact .add t succ b (hh b (by simp only [held, hw])).1 rfl (fun _ => trivial)
  case addSame succ t b hw => exact .add t succ b (by simpa only [refsOK, hw] using hr) rfl (fun _ => trivial)
  case rollAdd succ t old nw hw =>
    exact .add t succ nw (hh nw (by simp only [held, hw])).1 rfl (fun h => by simpa only [refsOK, hw, emit_nb, addTo_nb] using h)
  case ldSame => exact .quiet [] rfl rfl rfl rfl (List.append_nil _).symm forall_mem_nil (fun _ h => h)
  case casWin | casLose | rdS | rdF | headExit =>
    exact .quiet [_] rfl rfl rfl rfl rfl (forall_mem_one rfl) (fun _ _ => trivial)
  case offerCont b _ _ o hw _ _ =>
    refine .quiet _ rfl rfl rfl rfl rfl (linkedEv_quiet g b o) (fun _ _ => ?_)
    rcases hw with hw | hw | ⟨t, hw⟩ <;> simp only [refsOK, hw]
  case offerRet b _ o _ _ => exact .quiet _ rfl rfl rfl rfl rfl (linkedEv_quiet g b o) (fun _ _ => trivial)
  case winRet b _ o _ _ =>
    refine .quiet _ rfl rfl rfl rfl rfl (fun x hx => ?_) (fun _ _ => trivial)
    rcases List.mem_append.1 hx with hx | hx
    · exact linkedEv_quiet g b o x hx
    · cases List.mem_singleton.1 hx; rfl
  case removeRet =>
    refine .quiet _ rfl rfl rfl rfl rfl ?_ (fun _ _ => trivial)
    split
    · exact forall_mem_one rfl
    · exact forall_mem_nil
  case mkIterCont hw _ _ | nextCont hw _ _ =>
    exact .quiet [] rfl rfl rfl rfl (List.append_nil _).symm forall_mem_nil (fun _ _ => by simp only [refsOK, hw])
  case call | tick | store | headNext | mkIterRet | nextRemove | nextKeep =>
    exact .quiet [] rfl rfl rfl rfl (List.append_nil _).symm forall_mem_nil (fun _ _ => trivial)

theorem refsOK_mono {g g' : G} {l : L} (h : g.w.nb ≤ g'.w.nb) (hr : refsOK g l) : refsOK g' l := by
  unfold refsOK at hr ⊢
  split
  · rename_i hw; rw [hw] at hr; exact Nat.lt_of_lt_of_le hr h
  · rename_i hw; rw [hw] at hr; exact Nat.lt_of_lt_of_le hr h
  · rename_i hw; rw [hw] at hr; exact Nat.lt_of_lt_of_le hr h
  · trivial

theorem cnt_pres {g g' : G} {ls : Tid → L} {tid : Tid} {l' : L} (ho : Own g ls) (hc : Cnt g ls)
    (he : CntEff tid g (ls tid) g' l') : Cnt g' (upd ls tid l') := by
  obtain ⟨c1, c2, c3, c4⟩ := hc
  have hrefs : g.w.nb ≤ g'.w.nb → refsOK g' l' → ∀ u, refsOK g' (upd ls tid l' u) :=
    fun hn h => forall_upd h (fun _ _ => refsOK_mono hn) c1
  induction he with
  | quiet es a b c d e f h =>
    have hsel : ∀ k x, g'.w.sel k x = g.w.sel k x := by intro k x; simp [W.sel, c, d]
    refine ⟨hrefs (Nat.le_of_eq a.symm) (h (c1 tid) ho.cur_lt), ?_, ?_, ?_⟩
    · intro k lim
      rw [e, cntAdds_append, cntAdds_quiet f, a, Nat.add_zero, c2]
      exact (bsum_congr (fun x _ => ⟨by rw [b], hsel k x⟩)).symm
    · intro k x; rw [e, cntAddsTo_append, cntAddsTo_quiet f, hsel, c3]; rfl
    · intro u t s x st hm
      rw [e] at hm
      rcases List.mem_append.1 hm with hm | hm
      · rw [a, b]; exact c4 u t s x st hm
      · obtain ⟨e', he', heq⟩ := List.mem_map.1 hm
        cases heq
        cases f _ he'
  | alloc t a h =>
    have hnb : g'.w.nb = g.w.nb + 1 := by rw [a]; rfl
    have e1 : g'.w.log = g.w.log := by rw [a]; rfl
    refine ⟨hrefs (hnb ▸ Nat.le_succ _) (h ho.cur_lt), ?_, ?_, ?_⟩
    · intro k lim
      rw [hnb, bsum]
      have e2 : g'.w.sel k g.w.nb = 0 := by rw [a, sel_alloc, if_pos rfl]
      rw [e1, c2, e2]
      have : bsum g'.w k lim g.w.nb = bsum g.w k lim g.w.nb := by
        apply bsum_congr
        intro x hx
        have hne : x ≠ g.w.nb := Nat.ne_of_lt hx
        rw [a, sel_alloc, if_neg hne]; exact ⟨if_neg hne, rfl⟩
      rw [this]; simp
    · intro k x
      rw [e1, ← c3]
      by_cases hx : x = g.w.nb
      · subst hx
        have : g.w.sel k g.w.nb = 0 := by
          rw [c3, cntAddsTo, List.countP_eq_zero]
          intro e he
          obtain ⟨u, ev⟩ := e
          cases ev <;> simp [isAddTo]
          rename_i t' s' b' st'
          intro _; exact Nat.ne_of_lt (c4 u t' s' b' st' he).1
        rw [this, a, sel_alloc, if_pos rfl]
      · rw [a, sel_alloc, if_neg hx]
    · intro u t' s x st hm
      rw [e1] at hm
      obtain ⟨h1, h2⟩ := c4 u t' s x st hm
      have hne : x ≠ g.w.nb := Nat.ne_of_lt h1
      rw [a]; simp [W.alloc, hne]; exact ⟨Nat.lt_succ_of_lt h1, h2⟩
  | add t s b hb a h =>
    have hnb : g'.w.nb = g.w.nb := by rw [a]; simp [addTo_nb]
    have hts : g'.w.ts = g.w.ts := by rw [a]; simp [addTo_ts]
    have hlog : g'.w.log = g.w.log ++ [(tid, .added t s b (g.w.ts b))] := by rw [a]; simp [addTo_log]
    refine ⟨hrefs (Nat.le_of_eq hnb.symm) (h (c1 tid)), ?_, ?_, ?_⟩
    · intro k lim
      have : bsum g'.w k lim g.w.nb = bsum (g.w.addTo b s) k lim g.w.nb :=
        bsum_congr (fun x _ => by rw [a]; exact ⟨rfl, rfl⟩)
      rw [hnb, this, bsum_addTo, hlog, cntAdds_append, c2]
      congr 1
      simp only [cntAdds, List.countP_cons, List.countP_nil, isAdd, hb, true_and]
      by_cases h1 : s = k <;> by_cases h2 : lim ≤ g.w.ts b <;> simp [h1, h2]
    · intro k x
      have : g'.w.sel k x = (g.w.addTo b s).sel k x := by rw [a]; rfl
      rw [this, sel_addTo, hlog, cntAddsTo_append, c3]
      congr 1
      simp only [cntAddsTo, List.countP_cons, List.countP_nil, isAddTo]
      by_cases h1 : s = k <;> by_cases h2 : x = b
      · subst h1 h2; simp
      · have : ¬ b = x := fun e => h2 e.symm
        simp [h2, this]
      · simp [h1]
      · simp [h1]
    · intro u t' s' x st hm
      rw [hlog] at hm
      rw [hnb, hts]
      rcases List.mem_append.1 hm with hm | hm
      · exact c4 u t' s' x st hm
      · simp at hm; obtain ⟨_, _, _, rfl, rfl⟩ := hm; exact ⟨hb, rfl⟩

theorem cnt_init (t0 : Int) : Cnt ⟨initW t0, Queue.init⟩ (fun _ => ⟨.idle, .idle⟩) := by
  refine ⟨fun _ => trivial, ?_, ?_, ?_⟩
  · intro k lim; simp [cntAdds, initW, bsum, W.sel]
  · intro k b; simp [cntAddsTo, initW, W.sel]
  · intro tid t s b st h; simp [initW] at h

end Garr.Breaker.Fine
