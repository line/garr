import Garr.Breaker.FineProj
import Garr.Queue.Iter
/-!
# Full-stack window counter: classification of steps, structural invariants

`Eff` lists the micro-steps of the composed machine (each contains at most one shared queue access); every step of
`Fine.step` is one micro-step or two (the second being the loop head, through the transient pc `head`): `step_eff`.
All invariants are proved per micro-step.
-/
namespace Garr.Breaker.Fine
open Garr Garr.Conc

/-- the value carried by a pc of `Offer` before the linking CAS -/
def offVal : Queue.L → Option Nat
  | .o0 v | .o1 v _ _ | .o2 v _ _ | .o4 v _ _ | .o4b v _ | .o5 v _ _ _ => some v
  | _ => none

def isO3 : Queue.L → Bool | .o3 _ _ => true | _ => false

def InOffer (b : Nat) (ql : Queue.L) : Prop := offVal ql = some b ∨ isO3 ql = true

def inMkIter : Queue.L → Bool
  | .k0 .iter | .k1 .iter _ _ | .k2 .iter _ _ | .u1 _ _ (.iter _) | .u2 _ (.iter _) => true
  | _ => false

def inNext : Queue.L → Bool
  | .n0 _ _ | .n0h _ _ | .n1 _ _ _ | .n2 _ _ _ | .n2h _ _ _ | .n3 _ _ _ _ => true
  | _ => false

def isIdleIt : Queue.L → Bool | .idleIt _ => true | _ => false
def isR0 : Queue.L → Bool | .r0 _ _ => true | _ => false
def isIdle : Queue.L → Bool | .idle => true | _ => false

def Wf (l : L) : Prop :=
  match l.w with
  | .idle | .tick _ | .ldCur _ _ | .bsAdd _ _ _ | .add _ _ _ | .rollAdd _ _ _ _ | .cas _ _ _ | .store _ => l.q = .idle
  | .bsOffer b | .loseOffer b | .winOffer _ b => InOffer b l.q
  | .mkIter _ _ => inMkIter l.q = true
  | .next _ => inNext l.q = true
  | .remove _ _ => isR0 l.q = true
  | .rdS _ _ | .rdF _ _ | .head _ => isIdleIt l.q = true

theorem Wf.offer {l : L} {b : Nat} (h : Wf l) (hw : l.w = .bsOffer b ∨ l.w = .loseOffer b ∨ ∃ t, l.w = .winOffer t b) :
    InOffer b l.q := by rcases hw with hw | hw | ⟨t, hw⟩ <;> simpa [Wf, hw] using h
theorem Wf.mkIter {l : L} {t : Int} {n0 : Nat} (h : Wf l) (hw : l.w = .mkIter t n0) : inMkIter l.q = true := by
  simpa [Wf, hw] using h
theorem Wf.next {l : L} {r : Tr} (h : Wf l) (hw : l.w = .next r) : inNext l.q = true := by simpa [Wf, hw] using h
theorem Wf.remove {l : L} {r : Tr} {b : Nat} (h : Wf l) (hw : l.w = .remove r b) : isR0 l.q = true := by
  simpa [Wf, hw] using h

/-- The micro-steps.  `offerCont` is a step inside any of the three `Offer`s that does not return; the winner's `Offer`
returns by `winRet` (it goes on to `Iterator()`), the other two by `offerRet` (`onEvent` returns). -/
inductive Eff (cfg : Cfg) (tid : Tid) (g : G) (l : L) : G → L → Prop
  | call (succ : Bool) : l.w = .idle → Eff cfg tid g l g { l with w := .tick succ }
  | tick (succ : Bool) (t : Int) : l.w = .tick succ → Eff cfg tid g l g { l with w := .ldCur succ t }
  | ldBs (succ : Bool) (t : Int) : l.w = .ldCur succ t → t < g.w.ts g.w.cur →
      Eff cfg tid g l { g with w := g.w.alloc t } { l with w := .bsAdd succ t g.w.nb }
  | ldSame (succ : Bool) (t : Int) : l.w = .ldCur succ t → ¬ t < g.w.ts g.w.cur → t < g.w.ts g.w.cur + cfg.interval →
      Eff cfg tid g l g { l with w := .add succ t g.w.cur }
  | ldRoll (succ : Bool) (t : Int) : l.w = .ldCur succ t → ¬ t < g.w.ts g.w.cur → ¬ t < g.w.ts g.w.cur + cfg.interval →
      Eff cfg tid g l { g with w := g.w.alloc t } { l with w := .rollAdd succ t g.w.cur g.w.nb }
  | bsAdd (succ : Bool) (t : Int) (b : Nat) : l.w = .bsAdd succ t b → l.q = .idle →
      Eff cfg tid g l ⟨(g.w.addTo b succ).emit tid [.added t succ b (g.w.ts b)], g.q⟩ ⟨.bsOffer b, .o0 b⟩
  | addSame (succ : Bool) (t : Int) (b : Nat) : l.w = .add succ t b →
      Eff cfg tid g l ⟨(g.w.addTo b succ).emit tid [.added t succ b (g.w.ts b)], g.q⟩ ⟨.idle, l.q⟩
  | rollAdd (succ : Bool) (t : Int) (old nw : Nat) : l.w = .rollAdd succ t old nw →
      Eff cfg tid g l ⟨(g.w.addTo nw succ).emit tid [.added t succ nw (g.w.ts nw)], g.q⟩ ⟨.cas t old nw, l.q⟩
  | casWin (t : Int) (old nw : Nat) : l.w = .cas t old nw → l.q = .idle → g.w.cur = old →
      Eff cfg tid g l ⟨({ g.w with cur := nw } : W).emit tid [.swapped old nw], g.q⟩ ⟨.winOffer t old, .o0 old⟩
  | casLose (t : Int) (old nw : Nat) : l.w = .cas t old nw → l.q = .idle → g.w.cur ≠ old →
      Eff cfg tid g l ⟨g.w.emit tid [.lost nw], g.q⟩ ⟨.loseOffer nw, .o0 nw⟩
  | rdS (r : Tr) (b : Nat) : l.w = .rdS r b →
      Eff cfg tid g l ⟨g.w.emit tid [.cntS b (g.w.sc b)], g.q⟩ ⟨.rdF { r with s := r.s + g.w.sc b } b, l.q⟩
  | rdF (r : Tr) (b : Nat) : l.w = .rdF r b →
      Eff cfg tid g l ⟨g.w.emit tid [.cntF b (g.w.fc b)], g.q⟩ ⟨.head { r with f := r.f + g.w.fc b }, l.q⟩
  | store (e : Nat × Nat) : l.w = .store e → Eff cfg tid g l ⟨{ g.w with snap := e }, g.q⟩ ⟨.idle, l.q⟩
  | headNext (r : Tr) (it : Queue.Iter) (p : Nat) : l.w = .head r → l.q = .idleIt it → it.nextNode = some p →
      Eff cfg tid g l g ⟨.next r, .n0 { it with lastRet := some p } p⟩
  | headExit (r : Tr) (it : Queue.Iter) : l.w = .head r → l.q = .idleIt it → it.nextNode = none →
      Eff cfg tid g l ⟨g.w.emit tid [.rolled r.t r.s r.f r.n0 r.kl], g.q⟩ ⟨.store (r.s, r.f), .idle⟩
  | offerCont (b : Nat) (gq1 : Queue.G) (ql1 : Queue.L) (o : List Queue.Obs) :
      (l.w = .bsOffer b ∨ l.w = .loseOffer b ∨ ∃ t, l.w = .winOffer t b) →
      Queue.step tid g.q l.q .tau = some (gq1, ql1, o) → ql1 ≠ .idle →
      Eff cfg tid g l ⟨g.w.emit tid (linkedEv g b o), gq1⟩ ⟨l.w, ql1⟩
  | offerRet (b : Nat) (gq1 : Queue.G) (o : List Queue.Obs) : (l.w = .bsOffer b ∨ l.w = .loseOffer b) →
      Queue.step tid g.q l.q .tau = some (gq1, .idle, o) →
      Eff cfg tid g l ⟨g.w.emit tid (linkedEv g b o), gq1⟩ ⟨.idle, .idle⟩
  | winRet (t : Int) (b : Nat) (gq1 : Queue.G) (o : List Queue.Obs) : l.w = .winOffer t b →
      Queue.step tid g.q l.q .tau = some (gq1, .idle, o) →
      Eff cfg tid g l ⟨g.w.emit tid (linkedEv g b o ++ [.iterStart t gq1.n]), gq1⟩ ⟨.mkIter t gq1.n, .k0 .iter⟩
  | mkIterCont (t : Int) (n0 : Nat) (gq1 : Queue.G) (ql1 : Queue.L) (o : List Queue.Obs) : l.w = .mkIter t n0 →
      Queue.step tid g.q l.q .tau = some (gq1, ql1, o) → isIdleIt ql1 = false →
      Eff cfg tid g l ⟨g.w, gq1⟩ ⟨l.w, ql1⟩
  | mkIterRet (t : Int) (n0 : Nat) (gq1 : Queue.G) (it : Queue.Iter) (o : List Queue.Obs) : l.w = .mkIter t n0 →
      Queue.step tid g.q l.q .tau = some (gq1, .idleIt it, o) →
      Eff cfg tid g l ⟨g.w, gq1⟩ ⟨.head ⟨t, 0, 0, n0, []⟩, .idleIt it⟩
  | nextCont (r : Tr) (gq1 : Queue.G) (ql1 : Queue.L) (o : List Queue.Obs) : l.w = .next r →
      Queue.step tid g.q l.q .tau = some (gq1, ql1, o) → isIdleIt ql1 = false →
      Eff cfg tid g l ⟨g.w, gq1⟩ ⟨l.w, ql1⟩
  | nextRemove (r : Tr) (gq1 : Queue.G) (it : Queue.Iter) (pos b : Nat) : l.w = .next r →
      Queue.step tid g.q l.q .tau = some (gq1, .idleIt it, [.itNext pos b, .retAux (.val b)]) →
      g.w.ts b < r.t - cfg.window → it.lastRet = some pos →
      Eff cfg tid g l ⟨g.w, gq1⟩ ⟨.remove r b, .r0 it pos⟩
  | nextKeep (r : Tr) (gq1 : Queue.G) (it : Queue.Iter) (pos b : Nat) : l.w = .next r →
      Queue.step tid g.q l.q .tau = some (gq1, .idleIt it, [.itNext pos b, .retAux (.val b)]) →
      ¬ g.w.ts b < r.t - cfg.window → it.lastRet = some pos →
      Eff cfg tid g l ⟨g.w, gq1⟩ ⟨.rdS { r with kl := b :: r.kl } b, .idleIt it⟩
  | removeRet (r : Tr) (b : Nat) (gq1 : Queue.G) (it : Queue.Iter) (o : List Queue.Obs) : l.w = .remove r b →
      Queue.step tid g.q l.q .tau = some (gq1, .idleIt it, o) →
      Eff cfg tid g l ⟨g.w.emit tid (if o.any isLpRemoveLive then [.removed b (r.t - cfg.window)] else []), gq1⟩
        ⟨.head r, .idleIt it⟩

inductive Steps (cfg : Cfg) (tid : Tid) (g : G) (l : L) (g' : G) (l' : L) : Prop
  | one : Eff cfg tid g l g' l' → Steps cfg tid g l g' l'
  | two {g1 l1} : Eff cfg tid g l g1 l1 → l1.w.isHead = true → Eff cfg tid g1 l1 g' l' → Steps cfg tid g l g' l'


def QSame (gq gq1 : Queue.G) : Prop := gq1.n = gq.n ∧ gq1.val = gq.val ∧ gq1.live = gq.live

theorem QSame.rfl' (gq : Queue.G) : QSame gq gq := ⟨rfl, rfl, rfl⟩

theorem live_of_same {gq gq1 : Queue.G} (h : QSame gq gq1) (p : Nat) : gq1.live p = gq.live p := by rw [h.2.2]

theorem offer_tau {tid : Tid} {gq gq1 : Queue.G} {ql ql1 : Queue.L} {o : List Queue.Obs} {b : Nat}
    (hin : InOffer b ql) (hs : Queue.step tid gq ql .tau = some (gq1, ql1, o)) :
    (offVal ql = some b ∧ offVal ql1 = some b ∧ QSame gq gq1 ∧ o.any isLpOffer = false) ∨
    (offVal ql = some b ∧ (isO3 ql1 = true ∨ ql1 = .idle) ∧ (∃ p, gq1 = Queue.link gq p b) ∧ o.any isLpOffer = true) ∨
    (offVal ql = none ∧ ql1 = .idle ∧ QSame gq gq1 ∧ o.any isLpOffer = false) := by
  have h := Queue.Step.of_step hs
  generalize Queue.Act.tau = a at h
  rcases hin with hv | h3
  · induction h with
    | o2_link => cases hv; exact .inr (.inl ⟨rfl, .inl rfl, ⟨_, rfl⟩, rfl⟩)
    | o2_link_ret => cases hv; exact .inr (.inl ⟨rfl, .inr rfl, ⟨_, rfl⟩, rfl⟩)
    | o0 | o1_nil | o1_self | o1_off | o1_adv | o2_fail | o4_moved | o4_same | o4b | o5_moved | o5_same =>
      exact .inl ⟨hv, hv, .rfl' _, rfl⟩
    | _ => cases hv
  · induction h with
    | o3_swing | o3_skip => exact .inr (.inr ⟨rfl, rfl, ⟨rfl, rfl, rfl⟩, rfl⟩)
    | _ => cases h3

theorem offVal_after_link {ql1 : Queue.L} (h : isO3 ql1 = true ∨ ql1 = .idle) : offVal ql1 = none := by
  rcases h with h | rfl
  · unfold isO3 at h; split at h
    · rfl
    · cases h
  · rfl

theorem finish_iter (it : Queue.Iter) : (Queue.finish (.iter it)).1 = .idleIt it := rfl

theorem goUpd_iter_shape (h tgt : Nat) (it : Queue.Iter) :
    inMkIter (Queue.goUpd h tgt (.iter it)).1 = true ∨ isIdleIt (Queue.goUpd h tgt (.iter it)).1 = true := by
  unfold Queue.goUpd; split
  · exact Or.inr rfl
  · exact Or.inl rfl

theorem filterMap_itPos_quiet {o : List Queue.Obs} (h : ∀ x ∈ o, x.quiet = true) : o.filterMap Queue.Obs.itPos = [] :=
  List.filterMap_eq_nil_iff.2 fun x hx => by have := h x hx; cases x <;> first | rfl | cases this

theorem mkIter_tau {tid : Tid} {gq gq1 : Queue.G} {ql ql1 : Queue.L} {o : List Queue.Obs}
    (hin : inMkIter ql = true) (hs : Queue.step tid gq ql .tau = some (gq1, ql1, o)) :
    (inMkIter ql1 = true ∨ isIdleIt ql1 = true) ∧ o.filterMap Queue.Obs.itPos = [] := by
  have h := Queue.Step.of_step hs
  generalize Queue.Act.tau = a at h
  -- `hin` fixes the mode `iter` of the scan and the continuation `iter _` of `updateHead`
  induction h with
  | k0 | k1_dead | k2_self | k2_adv => cases ‹Queue.Mode› <;> cases hin; exact ⟨.inl rfl, rfl⟩
  | k1_live | k2_nil =>
    cases ‹Queue.Mode› <;> cases hin; exact ⟨goUpd_iter_shape _ _ _, filterMap_itPos_quiet (Queue.goUpd_quiet _ _ _)⟩
  | u1_cas => cases ‹Queue.Cont› <;> cases hin; exact ⟨.inl rfl, rfl⟩
  | u1_fail | u2 => cases ‹Queue.Cont› <;> cases hin; exact ⟨.inr rfl, rfl⟩
  | _ => cases hin

theorem next_tau {tid : Tid} {gq gq1 : Queue.G} {ql ql1 : Queue.L} {o : List Queue.Obs}
    (hn : inNext ql = true) (hI : Queue.IterInv gq ql) (hs : Queue.step tid gq ql .tau = some (gq1, ql1, o)) :
    inNext ql1 = true ∨ ∃ it pos b, ql1 = .idleIt it ∧ o = [.itNext pos b, .retAux (.val b)] ∧ it.lastRet = some pos := by
  have h := Queue.Step.of_step hs
  generalize Queue.Act.tau = a at h
  induction h with
  | n0_nil | n1_live | n2_nil => exact .inr ⟨_, _, _, rfl, rfl, hI.2.1⟩
  | n0_self | n0_adv | n0h | n1_dead | n2_self | n2_adv | n2h | n3_cas | n3_fail => exact .inl rfl
  | _ => cases hn

theorem trav_tau_same {tid : Tid} {gq gq1 : Queue.G} {ql ql1 : Queue.L} {o : List Queue.Obs}
    (hL : Queue.LInv gq ql) (h : inMkIter ql = true ∨ inNext ql = true)
    (hs : Queue.step tid gq ql .tau = some (gq1, ql1, o)) : QSame gq gq1 := by
  rcases Queue.step_effect hL hs with ⟨v, tl, p, rfl, _⟩ | ⟨h', p, rfl, _⟩ | ⟨it, k, rfl, _⟩ | ⟨h1, h2, h3, _⟩
  · rcases h with h | h <;> cases h
  · rcases h with h | h <;> cases h
  · rcases h with h | h <;> cases h
  · exact ⟨h1, h2, h3⟩

theorem remove_tau {tid : Tid} {gq gq1 : Queue.G} {ql ql1 : Queue.L} {o : List Queue.Obs}
    (h : isR0 ql = true) (hs : Queue.step tid gq ql .tau = some (gq1, ql1, o)) :
    ∃ it k, ql = .r0 it k ∧ gq1 = Queue.kill gq k ∧ ql1 = .idleIt { it with lastRet := none } ∧
      o = [.lpRemove k (gq.live k), .ret .unit] := by
  unfold isR0 at h
  split at h
  · cases hs; exact ⟨_, _, rfl, rfl, rfl, rfl⟩
  · cases h

theorem loopHead_eff {cfg : Cfg} {tid : Tid} {w : W} {es : List Ev} {r : Tr} {x : QX} {g' : G} {l' : L} {obs : List Obs}
    (h : loopHead tid w es r x = some (g', l', obs)) :
    Eff cfg tid ⟨w.emit tid es, x.1⟩ ⟨.head r, x.2.1⟩ g' l' := by
  obtain ⟨gq, ql, o⟩ := x
  unfold loopHead at h
  dsimp only at h
  split at h
  · rename_i it
    split at h <;> cases h
    · rename_i hsome
      obtain ⟨p, hp⟩ := Option.isSome_iff_exists.1 hsome
      -- with `nextNode = some p` in place the two queue actions evaluate
      obtain ⟨nn, nv, lr, pv⟩ := it
      cases hp
      exact .headNext r _ p rfl rfl rfl
    · rename_i hnone
      have e := Eff.headExit (cfg := cfg) (tid := tid) (g := ⟨w.emit tid es, gq⟩) (l := ⟨.head r, .idleIt it⟩) r it
        rfl rfl (by simpa using hnone)
      rw [emit_emit] at e; exact e
  · contradiction

theorem qtau_eq {tid : Tid} {g : G} {l : L} {x : QX} (h : qtau tid g l = some x) :
    Queue.step tid g.q l.q .tau = some x := by
  unfold qtau at h
  split at h
  · contradiction
  · rename_i he; exact he.trans h

theorem isIdleIt_false {ql : Queue.L} (h : ∀ it, ql = .idleIt it → False) : isIdleIt ql = false := by
  unfold isIdleIt; split
  · exact (h _ rfl).elim
  · rfl

theorem offerStep_eff {cfg : Cfg} {tid : Tid} {g : G} {l : L} {b : Nat} {g' : G} {l' : L} {obs : List Obs}
    (hw : l.w = .bsOffer b ∨ l.w = .loseOffer b) (h : offerStep tid g l b = some (g', l', obs)) :
    Eff cfg tid g l g' l' := by
  unfold offerStep at h
  split at h
  · contradiction
  · rename_i x hx
    obtain ⟨gq1, ql1, o⟩ := x
    have hq := qtau_eq hx
    dsimp only at h
    split at h <;> cases h
    · exact .offerRet b _ _ hw hq
    · exact .offerCont b _ _ _ (hw.elim .inl fun h => .inr (.inl h)) hq ‹_›

theorem step_eff {cfg : Cfg} {tid : Tid} {g : G} {l : L} {a : Act} {g' : G} {l' : L} {obs : List Obs}
    (hwf : Wf l) (hI : Queue.IterInv g.q l.q) (h : step cfg tid g l a = some (g', l', obs)) :
    Steps cfg tid g l g' l' := by
  -- with `l` taken apart the cases of `step` fix its pc, and `Wf` the queue pc that goes with it
  obtain ⟨pc, ql⟩ := l
  unfold step at h
  dsimp only at h
  split at h
  · split at h
    · cases h; exact .one (.call _ rfl)
    · contradiction
  · split at h
    · cases h; exact .one (.tick _ _ rfl)
    · contradiction
  · split at h
    · split at h
      · cases h; exact .one (.ldBs _ _ rfl ‹_›)
      · split at h <;> cases h
        · exact .one (.ldSame _ _ rfl ‹_› ‹_›)
        · exact .one (.ldRoll _ _ rfl ‹_› ‹_›)
    · cases hwf; cases h; exact .one (.bsAdd _ _ _ rfl rfl)
    · cases h; exact .one (.addSame _ _ _ rfl)
    · cases h; exact .one (.rollAdd _ _ _ _ rfl)
    · cases hwf
      split at h <;> cases h
      · exact .one (.casWin _ _ _ rfl rfl ‹_›)
      · exact .one (.casLose _ _ _ rfl rfl ‹_›)
    · cases h; exact .one (.rdS _ _ rfl)
    · exact .two (.rdF _ _ rfl) rfl (loopHead_eff h)
    · cases h; simpa using Steps.one (Eff.store (cfg := cfg) (tid := tid) (g := g) (l := ⟨_, ql⟩) _ rfl)
    · contradiction
  · split at h
    rotate_right -- the last goal is the default of the match
    · contradiction
    · exact .one (offerStep_eff (.inl rfl) h)
    · exact .one (offerStep_eff (.inr rfl) h)
    all_goals
      split at h
      · contradiction
      rename_i x hx
      obtain ⟨gq1, ql1, o⟩ := x
      have hq := qtau_eq hx
      dsimp only at h
      split at h
    · cases h; exact .one (.winRet _ _ _ _ rfl hq)
    · cases h; exact .one (.offerCont _ _ _ _ (.inr (.inr ⟨_, rfl⟩)) hq ‹_›)
    · exact .two (.mkIterRet _ _ _ _ _ rfl hq) rfl (by simpa using loopHead_eff (cfg := cfg) h)
    · cases h; simpa using Steps.one (Eff.mkIterCont (cfg := cfg) _ _ _ _ _ rfl hq (isIdleIt_false ‹_›))
    · -- `Next()` has returned: `o` is the element at `lastRet`
      rename_i it
      obtain hn | ⟨_, pos, b, hit, rfl, hlr⟩ := next_tau hwf hI hq
      · cases hn
      injection hit with hit
      subst hit
      obtain ⟨nn, nv, lr, pv⟩ := it
      cases hlr
      simp only [List.findSome?, itVal] at h
      split at h <;> cases h <;> rw [emit_nil]
      · exact .one (.nextRemove _ _ _ pos b rfl hq ‹_› rfl)
      · exact .one (.nextKeep _ _ _ pos b rfl hq ‹_› rfl)
    · cases h; simpa using Steps.one (Eff.nextCont (cfg := cfg) _ _ _ _ rfl hq (isIdleIt_false ‹_›))
    · exact .two (.removeRet _ _ _ _ _ rfl hq) rfl (loopHead_eff h)
    · -- `Remove` returns in one step
      obtain ⟨_, _, _, _, hr, _⟩ := remove_tau hwf hq
      exact absurd hr (‹∀ it, ql1 = .idleIt it → False› _)

-- `Queue.M.G`, `Queue.M.L`, `Queue.M.step` are `Queue.G`, `Queue.L`, `Queue.step` only after unfolding `Queue.M`
set_option backward.isDefEq.respectTransparency false

def pq (g : G) (ls : Tid → L) : Config Queue.M := ⟨g.q, fun t => (ls t).q⟩

theorem pq_same {g g' : G} {ls : Tid → L} {tid : Tid} {l' : L} (hg : g'.q = g.q) (hl : l'.q = (ls tid).q)
    (hr : Reach Queue.M (pq g ls)) : Reach Queue.M (pq g' (upd ls tid l')) := by
  unfold pq at hr ⊢
  rwa [upd_map L.q ls tid l', hl, upd_self, hg]

theorem pq_step {g g' : G} {ls : Tid → L} {tid : Tid} {l' : L} {a : Queue.Act} {o : List Queue.Obs}
    (hs : Queue.step tid g.q (ls tid).q a = some (g'.q, l'.q, o)) (hr : Reach Queue.M (pq g ls)) :
    Reach Queue.M (pq g' (upd ls tid l')) := by
  unfold pq
  rw [upd_map L.q ls tid l']
  exact Reach.step (M := Queue.M) (c := pq g ls) (t := tid) (a := a) hr (by exact hs)

structure Base (g : G) (ls : Tid → L) : Prop where
  qreach : Reach Queue.M (pq g ls)
  wf : ∀ t, Wf (ls t)

theorem Base.ginv {g : G} {ls : Tid → L} (h : Base g ls) : Queue.GInv g.q := (Queue.reach_invs h.qreach 0).1
theorem Base.linv {g : G} {ls : Tid → L} (h : Base g ls) (t : Tid) : Queue.LInv g.q (ls t).q :=
  (Queue.reach_invs h.qreach t).2.1
theorem Base.iinv {g : G} {ls : Tid → L} (h : Base g ls) (t : Tid) : Queue.IterInv g.q (ls t).q :=
  (Queue.reach_invs h.qreach t).2.2

theorem pq_step2 {g g' : G} {ls : Tid → L} {tid : Tid} {l' : L} {a1 a2 : Queue.Act} {o1 o2 : List Queue.Obs}
    {ql1 : Queue.L}
    (hs1 : Queue.step tid g.q (ls tid).q a1 = some (g'.q, ql1, o1))
    (hs2 : Queue.step tid g'.q ql1 a2 = some (g'.q, l'.q, o2)) (hr : Reach Queue.M (pq g ls)) :
    Reach Queue.M (pq g' (upd ls tid l')) := by
  have h1 := pq_step (g' := g') (l' := ⟨l'.w, ql1⟩) hs1 hr
  have h2 := pq_step (g := g') (g' := g') (ls := upd ls tid ⟨l'.w, ql1⟩) (tid := tid) (l' := l')
    (by simpa using hs2) h1
  rwa [upd_upd] at h2

theorem base_eff {cfg : Cfg} {tid : Tid} {g g' : G} {ls : Tid → L} {l' : L} (hb : Base g ls)
    (he : Eff cfg tid g (ls tid) g' l') : Base g' (upd ls tid l') := by
  have hwf := hb.wf tid
  have hI := hb.iinv tid
  have key : Reach Queue.M (pq g' (upd ls tid l')) ∧ Wf l' := by
    have tau : ∀ {gq1 ql1 o pc}, Queue.step tid g.q (ls tid).q .tau = some (gq1, ql1, o) → ∀ {w},
        Reach Queue.M (pq ⟨w, gq1⟩ (upd ls tid ⟨pc, ql1⟩)) :=
      fun hs _ => pq_step (a := .tau) hs hb.qreach
    induction he
    case bsAdd b hw hq | casLose b hw hq _ =>
      exact ⟨pq_step (a := .offer b) (o := []) (by rw [hq]; rfl) hb.qreach, Or.inl rfl⟩
    case casWin old _ hw hq _ =>
      exact ⟨pq_step (a := .offer old) (o := []) (by rw [hq]; rfl) hb.qreach, Or.inl rfl⟩
    case headNext it _ hw hq hp =>
      obtain ⟨_, _, _, _⟩ := it
      cases hp
      exact ⟨pq_step (a := .next) (o := []) (by rw [hq]; rfl) hb.qreach, rfl⟩
    case headExit hw hq hp => exact ⟨pq_step (a := .drop) (o := []) (by rw [hq]; rfl) hb.qreach, rfl⟩
    case offerCont b _ ql1 _ hw hs hne =>
      have hin := hwf.offer hw
      have hin1 : InOffer b ql1 := by
        rcases offer_tau hin hs with ⟨_, h, _⟩ | ⟨_, h | h, _⟩ | ⟨_, h, _⟩
        · exact Or.inl h
        · exact Or.inr h
        · exact absurd h hne
        · exact absurd h hne
      exact ⟨tau hs, by rcases hw with hw | hw | ⟨t, hw⟩ <;> simpa [Wf, hw] using hin1⟩
    case offerRet hs => exact ⟨tau hs, rfl⟩
    case winRet hs =>
      exact ⟨pq_step2 (a1 := .tau) (a2 := .iterator) (o2 := []) hs rfl hb.qreach, rfl⟩
    case mkIterCont hw hs hni =>
      refine ⟨tau hs, ?_⟩
      rcases (mkIter_tau (hwf.mkIter hw) hs).1 with h | h
      · simpa [Wf, hw] using h
      · rw [hni] at h; cases h
    case nextCont hw hs hni =>
      refine ⟨tau hs, ?_⟩
      rcases next_tau (hwf.next hw) hI hs with h | ⟨_, _, _, h, _⟩
      · simpa [Wf, hw] using h
      · rw [h] at hni; cases hni
    case nextRemove it _ _ _ hs _ hlr =>
      obtain ⟨_, _, _, _⟩ := it
      cases hlr
      exact ⟨pq_step2 (a1 := .tau) (a2 := .remove) (o2 := []) hs rfl hb.qreach, rfl⟩
    case mkIterRet hs | nextKeep hs _ _ | removeRet hs => exact ⟨tau hs, rfl⟩
    -- the steps of the window layer leave the queue component alone
    case call hw | tick hw | ldBs hw _ | ldSame hw _ _ | ldRoll hw _ _ | addSame hw | rollAdd hw | rdS hw | rdF hw |
        store hw =>
      exact ⟨pq_same rfl rfl hb.qreach, by simpa [Wf, hw] using hwf⟩
  exact ⟨key.1, forall_upd key.2 (fun _ _ h => h) hb.wf⟩


/-- **The two micro-steps of a step.**  What every micro-step preserves — from a state that satisfies `Base`, at the pc
of the step or at the transient pc `head` — the step preserves. -/
theorem steps_ind {cfg : Cfg} {tid : Tid} {P : G → (Tid → L) → Prop} {g g' : G} {ls : Tid → L} {l' : L}
    (hstep : ∀ g1 ls1 g2 l2, (ls1 tid).w = (ls tid).w ∨ (ls1 tid).w.isHead = true → Base g1 ls1 → P g1 ls1 →
      Eff cfg tid g1 (ls1 tid) g2 l2 → P g2 (upd ls1 tid l2))
    (hb : Base g ls) (hp : P g ls) (he : Steps cfg tid g (ls tid) g' l') :
    Base g' (upd ls tid l') ∧ P g' (upd ls tid l') := by
  cases he with
  | one e => exact ⟨base_eff hb e, hstep _ _ _ _ (Or.inl rfl) hb hp e⟩
  | two e1 hh e2 =>
    rename_i g1 l1
    have hb1 := base_eff hb e1
    have hp1 := hstep _ _ _ _ (Or.inl rfl) hb hp e1
    have e2' : Eff cfg tid g1 (upd ls tid l1 tid) g' l' := by rw [upd_same]; exact e2
    have h2 := And.intro (base_eff hb1 e2') (hstep _ _ _ _ (Or.inr (by rw [upd_same]; exact hh)) hb1 hp1 e2')
    rwa [upd_upd] at h2

theorem reach_ind {cfg : Cfg} {t0 : Int} (I : G → (Tid → L) → Prop)
    (h0 : I ⟨initW t0, Queue.init⟩ (fun _ => ⟨.idle, .idle⟩))
    (hstep : ∀ g ls tid g' l', Base g ls → I g ls → Eff cfg tid g (ls tid) g' l' → I g' (upd ls tid l')) :
    ∀ c, Reach (M cfg t0) c → Base c.g c.l ∧ I c.g c.l := by
  apply inv_of_reach
  · exact ⟨⟨Reach.init, fun _ => rfl⟩, h0⟩
  · intro c tid a g' l' obs ⟨hb, hi⟩ hs
    have hs' : step cfg tid c.g (c.l tid) a = some (g', l', obs) := hs
    exact steps_ind (fun _ _ _ _ _ hb1 hi1 e => hstep _ _ _ _ _ hb1 hi1 e) hb hi (step_eff (hb.wf tid) (hb.iinv tid) hs')

theorem reach_base {cfg : Cfg} {t0 : Int} (c : Config (M cfg t0)) (h : Reach (M cfg t0) c) : Base c.g c.l :=
  (reach_ind (cfg := cfg) (t0 := t0) (fun _ _ => True) trivial (fun _ _ _ _ _ _ _ _ => trivial) c h).1

end Garr.Breaker.Fine
