import Garr.Breaker.FineTrav
/-!
# Full-stack window counter: invariants of the ghost log

`LogInv`: the `linked` entries are the nodes (`LinkLog`), the `removed` entries the dead nodes (`DeadLog`), and `EntryOK`
holds of every entry with respect to the log before it (`SplitInv`); for a `rolled` entry that is the upper bound, which
rests on `sumK_bsum`.  `Full` collects `Own`, `Cnt`, `TravOK` and `LogInv`, preserved by every micro-step (`full_eff`); the
invariants of the later files assume it.
-/
namespace Garr.Breaker.Fine
open Garr Garr.Conc

/-- events that matter only for the counting invariant -/
def Ev.inert : Ev → Bool | .added .. => true | .lost _ => true | _ => false

/-- how a micro-step extends the log and changes the nodes of the reservoir -/
inductive LEff (cfg : Cfg) (tid : Tid) (g : G) (l : L) (g' : G) (l' : L) : Prop
  | quiet (es : List Ev) : g'.w.log = g.w.log ++ tagE tid es → (∀ e ∈ es, e.inert = true) →
      QSame g.q g'.q → LEff cfg tid g l g' l'
  | swap (t : Int) (old nw : Nat) : g.w.cur = old →
      g'.w.log = g.w.log ++ [(tid, .swapped old nw)] → QSame g.q g'.q → l' = ⟨.winOffer t old, .o0 old⟩ →
      LEff cfg tid g l g' l'
  | link (b : Nat) (es' : List Ev) : held l = some b →
      g'.w.log = g.w.log ++ tagE tid (.linked b g.q.n :: es') →
      (es' = [] ∨ ∃ t, es' = [.iterStart t (g.q.n + 1)]) →
      g'.q.n = g.q.n + 1 → g'.q.val g.q.n = b → (∀ p, p ≠ g.q.n → g'.q.val p = g.q.val p) →
      g'.q.live g.q.n = true → (∀ p, p ≠ g.q.n → g'.q.live p = g.q.live p) → LEff cfg tid g l g' l'
  | start (t : Int) : g'.w.log = g.w.log ++ [(tid, .iterStart t g.q.n)] → QSame g.q g'.q → LEff cfg tid g l g' l'
  | cntS (r : Tr) (b : Nat) : l.w = .rdS r b → g'.w.log = g.w.log ++ [(tid, .cntS b (g.w.sc b))] →
      QSame g.q g'.q → LEff cfg tid g l g' l'
  | cntF (r : Tr) (b : Nat) : l.w = .rdF r b → g'.w.log = g.w.log ++ [(tid, .cntF b (g.w.fc b))] →
      QSame g.q g'.q → LEff cfg tid g l g' l'
  | kill (r : Tr) (b : Nat) (it : Queue.Iter) (k : Nat) : l.w = .remove r b → l.q = .r0 it k →
      g'.q = Queue.kill g.q k →
      g'.w.log = g.w.log ++ (if g.q.live k then [(tid, .removed b (r.t - cfg.window))] else []) →
      LEff cfg tid g l g' l'
  | roll (r : Tr) (it : Queue.Iter) : l.w = .head r → l.q = .idleIt it → it.nextNode = none →
      g'.w.log = g.w.log ++ [(tid, .rolled r.t r.s r.f r.n0 r.kl)] → QSame g.q g'.q → LEff cfg tid g l g' l'

theorem offer_leff {cfg : Cfg} {g : G} {l : L} {tid : Tid} {b : Nat} {gq1 : Queue.G} {ql1 : Queue.L} {o : List Queue.Obs}
    {l' : L} (hw : l.w = .bsOffer b ∨ l.w = .loseOffer b ∨ ∃ t, l.w = .winOffer t b) (hwf : Wf l)
    (hs : Queue.step tid g.q l.q .tau = some (gq1, ql1, o)) :
    LEff cfg tid g l ⟨g.w.emit tid (linkedEv g b o), gq1⟩ l' := by
  have hin : InOffer b l.q := hwf.offer hw
  have hh : held l = offVal l.q := by rcases hw with hw | hw | ⟨t, hw⟩ <;> simp [held, hw]
  rcases offer_tau hin hs with ⟨h1, h2, h3, h4⟩ | ⟨h1, h2, ⟨p, rfl⟩, h4⟩ | ⟨h1, h2, h3, h4⟩
  · exact .quiet [] (by simp only [linkedEv, h4]; rfl) forall_mem_nil h3
  · exact .link b [] (by rw [hh, h1]) (by simp only [linkedEv, h4]; rfl) (Or.inl rfl) rfl (if_pos rfl)
      (fun p' hp' => if_neg hp') (if_pos rfl) (fun p' hp' => if_neg hp')
  · exact .quiet [] (by simp only [linkedEv, h4]; rfl) forall_mem_nil h3

theorem eff_leff {cfg : Cfg} {tid : Tid} {g g' : G} {ls : Tid → L} {l' : L} (hb : Base g ls)
    (he : Eff cfg tid g (ls tid) g' l') : LEff cfg tid g (ls tid) g' l' := by
  have hwf := hb.wf tid
  have hL := hb.linv tid
  induction he
  case bsAdd | addSame | rollAdd =>
    exact .quiet [_] (by rw [emit_log, addTo_log]) (forall_mem_one rfl) (.rfl' _)
  case casWin t old nw hw hq hc => exact .swap t old nw hc rfl (.rfl' _) rfl
  case casLose nw _ _ _ => exact .quiet [.lost nw] rfl (forall_mem_one rfl) (.rfl' _)
  case rdS r b hw => exact .cntS r b hw rfl (.rfl' _)
  case rdF r b hw => exact .cntF r b hw rfl (.rfl' _)
  case headExit r it hw hq hp => exact .roll r it hw hq hp rfl (.rfl' _)
  case offerCont hw hs hne => exact offer_leff hw hwf hs
  case offerRet hw hs => exact offer_leff (hw.elim Or.inl (fun h => Or.inr (Or.inl h))) hwf hs
  case winRet t b gq1 o hw hs =>
    have hin := hwf.offer (.inr (.inr ⟨_, hw⟩))
    have hh : held (ls tid) = offVal (ls tid).q := by simp only [held, hw]
    rcases offer_tau hin hs with ⟨h1, h2, h3, h4⟩ | ⟨h1, h2, ⟨p, rfl⟩, h4⟩ | ⟨h1, h2, h3, h4⟩
    · cases h2
    · exact .link b [.iterStart t (g.q.n + 1)] (by rw [hh, h1]) (by simp only [linkedEv, h4]; rfl)
        (Or.inr ⟨t, rfl⟩) rfl (if_pos rfl) (fun p' hp' => if_neg hp') (if_pos rfl) (fun p' hp' => if_neg hp')
    · exact .start t (by simp [linkedEv, h4, h3.1]) h3
  case mkIterCont hw hs _ | mkIterRet hw hs =>
    exact .quiet [] (List.append_nil _).symm forall_mem_nil (trav_tau_same hL (.inl (hwf.mkIter hw)) hs)
  case nextCont hw hs _ | nextRemove hw hs _ _ | nextKeep hw hs _ _ =>
    exact .quiet [] (List.append_nil _).symm forall_mem_nil (trav_tau_same hL (.inr (hwf.next hw)) hs)
  case removeRet r b gq1 it o hw hs =>
    obtain ⟨it0, k, hq, rfl, _, rfl⟩ := remove_tau (hwf.remove hw) hs
    refine .kill r b it0 k hw hq rfl ?_
    cases hlive : g.q.live k <;> simp [isLpRemoveLive]
  case call | tick | ldBs | ldSame | ldRoll | store | headNext =>
    exact .quiet [] (List.append_nil _).symm forall_mem_nil (.rfl' _)


def Ev.isRolled : Ev → Bool | .rolled .. => true | _ => false

theorem leff_new {cfg : Cfg} {tid : Tid} {g g' : G} {l l' : L} (he : LEff cfg tid g l g' l') :
    (∃ es, g'.w.log = g.w.log ++ tagE tid es ∧ ∀ e ∈ es, e.isRolled = false) ∨
    (∃ r it, l.w = .head r ∧ l.q = .idleIt it ∧ it.nextNode = none ∧
      g'.w.log = g.w.log ++ [(tid, Ev.rolled r.t r.s r.f r.n0 r.kl)]) := by
  induction he with
  | quiet es a b c => exact Or.inl ⟨es, a, fun e he => by have := b e he; cases e <;> first | rfl | cases this⟩
  | link b es' hh a hes hn hvn hv hln hlv =>
    refine Or.inl ⟨_, a, ?_⟩
    rcases hes with rfl | ⟨t, rfl⟩
    · exact forall_mem_one rfl
    · exact List.forall_mem_cons.2 ⟨rfl, forall_mem_one rfl⟩
  | kill r b it k hw hq a c =>
    cases hl : g.q.live k
    · exact Or.inl ⟨[], by rw [c, hl]; rfl, forall_mem_nil⟩
    · exact Or.inl ⟨[_], by rw [c, hl]; rfl, forall_mem_one rfl⟩
  | roll r it hw hq hnn a c => exact Or.inr ⟨r, it, hw, hq, hnn, a⟩
  | swap _ _ _ _ a | start _ a | cntS _ _ _ a | cntF _ _ _ a => exact Or.inl ⟨[_], a, forall_mem_one rfl⟩

theorem leff_removed {cfg : Cfg} {tid : Tid} {g g' : G} {l l' : L} (he : LEff cfg tid g l g' l') {u : Tid} {b : Nat}
    {lim : Int} (hm : (u, Ev.removed b lim) ∈ g'.w.log) :
    (u, Ev.removed b lim) ∈ g.w.log ∨ ∃ r, l.w = .remove r b ∧ lim = r.t - cfg.window := by
  induction he with
  | quiet es a b' c =>
    refine Or.inl (mem_old hm a fun e he h => ?_)
    obtain ⟨e', he', rfl⟩ := List.mem_map.1 he
    cases h
    cases b' _ he'
  | link b' es' hh a hes hn hvn hv hln hlv =>
    refine Or.inl (mem_old hm a ?_)
    rcases hes with rfl | ⟨t, rfl⟩
    · exact forall_mem_one nofun
    · exact List.forall_mem_cons.2 ⟨nofun, forall_mem_one nofun⟩
  | kill r b' it k hw hq a c =>
    rw [c] at hm
    rcases List.mem_append.1 hm with h | h
    · exact Or.inl h
    · split at h
      · cases List.mem_singleton.1 h; exact Or.inr ⟨r, hw, rfl⟩
      · cases h
  | swap _ _ _ _ a | start _ a | cntS _ _ _ a | cntF _ _ _ a | roll _ _ _ _ _ a =>
    exact Or.inl (mem_old hm a (forall_mem_one nofun))

/-- `P pre e` holds for every entry `e` of the log, `pre` being the log before it
(same notion as `Garr.Breaker.SplitInv` of the layered model, `Garr/Breaker/ConcInv.lean`) -/
def SplitInv {α : Type} (P : List α → α → Prop) (lg : List α) : Prop := ∀ pre e post, lg = pre ++ e :: post → P pre e

theorem SplitInv.nil {α : Type} (P : List α → α → Prop) : SplitInv P [] := by
  intro pre e post h; simp at h

theorem split_snoc {α : Type} {lg es pre post : List α} {e : α} (h : lg ++ es = pre ++ e :: post) :
    (∃ post0, lg = pre ++ e :: post0 ∧ post = post0 ++ es) ∨ (∃ pre1, pre = lg ++ pre1 ∧ es = pre1 ++ e :: post) := by
  rcases List.append_eq_append_iff.1 h with ⟨a', h1, h2⟩ | ⟨c', h1, h2⟩
  · exact Or.inr ⟨a', h1, h2⟩
  · cases c' with
    | nil => simp at h1 h2; exact Or.inr ⟨[], by simp [h1], h2.symm⟩
    | cons x c'' =>
      simp at h2
      obtain ⟨rfl, rfl⟩ := h2
      exact Or.inl ⟨c'', h1, rfl⟩

theorem SplitInv.append {α : Type} {P : List α → α → Prop} {lg es : List α} (h : SplitInv P lg)
    (h2 : ∀ pre1 e post1, es = pre1 ++ e :: post1 → P (lg ++ pre1) e) : SplitInv P (lg ++ es) := by
  intro pre e post he
  rcases split_snoc he with ⟨post0, h3, _⟩ | ⟨pre1, h3, h4⟩
  · exact h pre e post0 h3
  · rw [h3]; exact h2 pre1 e post h4

theorem SplitInv.append_one {α : Type} {P : List α → α → Prop} {lg : List α} {e : α} (h : SplitInv P lg)
    (h2 : P lg e) : SplitInv P (lg ++ [e]) := by
  apply h.append
  intro pre1 e' post1 he
  cases pre1 with
  | nil => simp at he; rw [he.1] at h2; simpa using h2
  | cons x r => simp at he

theorem SplitInv.append_all {α : Type} {P : List α → α → Prop} {lg es : List α} (h : SplitInv P lg)
    (h2 : ∀ pre e, e ∈ es → P pre e) : SplitInv P (lg ++ es) := by
  apply h.append
  intro pre1 e post1 he
  exact h2 _ e (by rw [he]; simp)

def linkPos : Tid × Ev → Option Nat
  | (_, .linked _ pos) => some pos
  | _ => none

/-- the `linked` entries of the log are exactly the nodes of the reservoir (position 0 is the dummy) -/
structure LinkLog (g : G) : Prop where
  sound : ∀ u b pos, (u, Ev.linked b pos) ∈ g.w.log → 1 ≤ pos ∧ pos < g.q.n ∧ g.q.val pos = b
  compl : ∀ pos, 1 ≤ pos → pos < g.q.n → ∃ u, (u, Ev.linked (g.q.val pos) pos) ∈ g.w.log
  uniq : (g.w.log.filterMap linkPos).Nodup

/-- the dead nodes of the reservoir are exactly the buckets removed as expired -/
structure DeadLog (g : G) : Prop where
  dead : ∀ p, 1 ≤ p → p < g.q.n → g.q.live p = false → ∃ u lim, (u, Ev.removed (g.q.val p) lim) ∈ g.w.log
  removed : ∀ u b lim, (u, Ev.removed b lim) ∈ g.w.log →
    g.w.ts b < lim ∧ ∃ p, 1 ≤ p ∧ p < g.q.n ∧ g.q.val p = b ∧ g.q.live p = false

def sumAdds (k : Bool) (kl : List Nat) (lg : List (Tid × Ev)) : Nat := (kl.map (fun b => cntAddsTo k b lg)).sum

structure RollOK (cfg : Cfg) (pre : List (Tid × Ev)) (tid : Tid) (t : Int) (s f n0 : Nat) (kl : List Nat) : Prop where
  upperS : s ≤ cntAdds true (t - cfg.window) pre
  upperF : f ≤ cntAdds false (t - cfg.window) pre
  tightS : s ≤ sumAdds true kl pre
  tightF : f ≤ sumAdds false kl pre
  nodup : kl.Nodup
  linked : ∀ b ∈ kl, ∃ u pos, (u, Ev.linked b pos) ∈ pre
  compl : ∀ u b pos, (u, Ev.linked b pos) ∈ pre → pos < n0 → (∀ u' lim, (u', Ev.removed b lim) ∉ pre) → b ∈ kl
  started : (tid, Ev.iterStart t n0) ∈ pre

/-- what holds of a `cntS`/`cntF` entry: an atomic read of the counter of a bucket that is in the reservoir -/
def CntOK (pre : List (Tid × Ev)) (k : Bool) (b n : Nat) : Prop :=
  n = cntAddsTo k b pre ∧ ∃ u pos, (u, Ev.linked b pos) ∈ pre

def EntryOK (cfg : Cfg) (pre : List (Tid × Ev)) (e : Tid × Ev) : Prop :=
  match e.2 with
  | .rolled t s f n0 kl => RollOK cfg pre e.1 t s f n0 kl
  | .cntS b n => CntOK pre true b n
  | .cntF b n => CntOK pre false b n
  | .iterStart _ n0 => ∀ u b pos, (u, Ev.linked b pos) ∈ pre → pos < n0
  | .swapped old _ => ∀ u pos, (u, Ev.linked old pos) ∉ pre
  | _ => True

structure LogInv (cfg : Cfg) (g : G) : Prop where
  link : LinkLog g
  dead : DeadLog g
  entries : SplitInv (EntryOK cfg) g.w.log

theorem entryOK_inert {cfg : Cfg} {pre : List (Tid × Ev)} {tid : Tid} {e : Ev} (h : e.inert = true) :
    EntryOK cfg pre (tid, e) := by
  cases e <;> simp [Ev.inert] at h <;> trivial

theorem linkPos_inert {tid : Tid} {es : List Ev} (h : ∀ e ∈ es, e.inert = true) : (tagE tid es).filterMap linkPos = [] := by
  rw [List.filterMap_eq_nil_iff]
  intro x hx
  simp only [tagE, List.mem_map] at hx
  obtain ⟨e, he, rfl⟩ := hx
  have := h e he
  cases e <;> simp [Ev.inert] at this <;> rfl


theorem sumK_filter_ne (w : W) (k : Bool) (x : Nat) : ∀ (kl : List Nat), kl.Nodup →
    sumK w k kl = sumK w k (kl.filter (· != x)) + (if x ∈ kl then w.sel k x else 0) := by
  intro kl
  induction kl with
  | nil => intro _; simp
  | cons b kl ih =>
    intro hnd
    obtain ⟨hb, hnd'⟩ := List.nodup_cons.1 hnd
    have := ih hnd'
    by_cases hbx : b = x
    · subst hbx
      have hf : kl.filter (· != b) = kl := by
        rw [List.filter_eq_self]; intro y hy; simp; intro e; subst e; exact hb hy
      simp [hb, hf]; omega
    · have hxb : ¬ x = b := fun e => hbx e.symm
      simp [hbx, hxb, this]; omega

theorem sumK_bsum (w : W) (k : Bool) (lim : Int) : ∀ (n : Nat) (kl : List Nat), kl.Nodup →
    (∀ b ∈ kl, b < n ∧ lim ≤ w.ts b) →
    sumK w k kl ≤ bsum w k lim n ∧ ((∀ b, b < n → lim ≤ w.ts b → b ∈ kl) → sumK w k kl = bsum w k lim n) := by
  intro n
  induction n with
  | zero =>
    intro kl _ h
    cases kl with
    | nil => exact ⟨Nat.le_refl _, fun _ => rfl⟩
    | cons b kl => exact absurd (h b (List.mem_cons_self ..)).1 (Nat.not_lt_zero _)
  | succ n ih =>
    intro kl hnd h
    have hne : ∀ {b}, b ∈ kl → (b != n) = true → b < n := fun hb hbn =>
      Nat.lt_of_le_of_ne (Nat.le_of_lt_succ (h _ hb).1) (by simpa using hbn)
    obtain ⟨ih1, ih2⟩ := ih (kl.filter (· != n)) (hnd.filter _) fun b hb =>
      ⟨hne (List.mem_filter.1 hb).1 (List.mem_filter.1 hb).2, (h b (List.mem_filter.1 hb).1).2⟩
    have hall : (∀ b, b < n + 1 → lim ≤ w.ts b → b ∈ kl) → ∀ b, b < n → lim ≤ w.ts b → b ∈ kl.filter (· != n) :=
      fun hc b hb hl => List.mem_filter.2 ⟨hc b (Nat.lt_succ_of_lt hb) hl, by simpa using Nat.ne_of_lt hb⟩
    rw [sumK_filter_ne w k n kl hnd, bsum]
    by_cases hn : n ∈ kl
    · rw [if_pos hn, if_pos (h n hn).2]
      exact ⟨Nat.add_le_add_right ih1 _, fun hc => by rw [ih2 (hall hc)]⟩
    · rw [if_neg hn, Nat.add_zero]
      refine ⟨Nat.le_trans ih1 (Nat.le_add_right _ _), fun hc => ?_⟩
      rw [if_neg fun hl => hn (hc n (Nat.lt_succ_self n) hl), Nat.add_zero]
      exact ih2 (hall hc)

theorem sumK_eq_sumAdds {g : G} {ls : Tid → L} (hc : Cnt g ls) (k : Bool) (kl : List Nat) :
    sumK g.w k kl = sumAdds k kl g.w.log := by
  unfold sumK sumAdds
  congr 1
  apply List.map_congr_left
  intro b _
  exact hc.per k b

def Ev.isRemoved : Ev → Bool | .removed .. => true | _ => false

theorem mem_linkPos {lg : List (Tid × Ev)} {x : Nat} (h : x ∈ lg.filterMap linkPos) : ∃ u b, (u, Ev.linked b x) ∈ lg := by
  obtain ⟨e, he, hx⟩ := List.mem_filterMap.1 h
  obtain ⟨u, ev⟩ := e
  cases ev <;> simp [linkPos] at hx
  subst hx; exact ⟨_, _, he⟩

theorem logInv_same {cfg : Cfg} {g g' : G} {ls : Tid → L} {new : List (Tid × Ev)} (ho : Own g ls) (hg : Guar g g')
    (hi : LogInv cfg g) (hlog : g'.w.log = g.w.log ++ new) (hn : g'.q.n = g.q.n) (hv : g'.q.val = g.q.val)
    (hl : ∀ p, g'.q.live p = g.q.live p ∨ g'.q.live p = false ∧ ∃ u lim, (u, Ev.removed (g.q.val p) lim) ∈ new)
    (h1 : new.filterMap linkPos = [])
    (h2 : ∀ u b lim, (u, Ev.removed b lim) ∈ new →
      g.w.ts b < lim ∧ ∃ p, 1 ≤ p ∧ p < g.q.n ∧ g.q.val p = b ∧ g'.q.live p = false)
    (h3 : ∀ pre1 e post1, new = pre1 ++ e :: post1 → EntryOK cfg (g.w.log ++ pre1) e) : LogInv cfg g' := by
  obtain ⟨⟨a1, a2, a3⟩, ⟨b1, b2⟩, c⟩ := hi
  refine ⟨⟨?_, ?_, ?_⟩, ⟨?_, ?_⟩, ?_⟩ <;> simp only [hlog, hn, hv]
  · intro u b pos hm
    rcases List.mem_append.1 hm with hm | hm
    · exact a1 u b pos hm
    · cases List.filterMap_eq_nil_iff.1 h1 _ hm
  · intro pos p1 p2
    obtain ⟨u, hu⟩ := a2 pos p1 p2
    exact ⟨u, List.mem_append_left _ hu⟩
  · rw [List.filterMap_append, h1, List.append_nil]; exact a3
  · intro p p1 p2 p3
    rcases hl p with e | ⟨_, u, lim, h⟩
    · obtain ⟨u, lim, h⟩ := b1 p p1 p2 (e ▸ p3)
      exact ⟨u, lim, List.mem_append_left _ h⟩
    · exact ⟨u, lim, List.mem_append_right _ h⟩
  · intro u b lim hm
    obtain ⟨x, p, p1, p2, p3, p4⟩ :
        g.w.ts b < lim ∧ ∃ p, 1 ≤ p ∧ p < g.q.n ∧ g.q.val p = b ∧ g'.q.live p = false := by
      rcases List.mem_append.1 hm with hm | hm
      · obtain ⟨x, p, p1, p2, p3, p4⟩ := b2 u b lim hm
        exact ⟨x, p, p1, p2, p3, (hl p).elim (fun e => e ▸ p4) (·.1)⟩
      · exact h2 u b lim hm
    have hb : b < g.w.nb := by rw [← p3]; exact (ho.res_lt p p1 p2).1
    exact ⟨by rw [hg.ts b hb]; exact x, p, p1, p2, p3, p4⟩
  · exact c.append h3


theorem one_split {α : Type} {x e : α} {pre1 post1 : List α} (h : [x] = pre1 ++ e :: post1) : pre1 = [] ∧ e = x := by
  cases pre1 with
  | nil => simp at h; exact ⟨rfl, h.1.symm⟩
  | cons y r => simp at h

theorem logInv_one {cfg : Cfg} {g g' : G} {ls : Tid → L} {u : Tid} {e : Ev} (ho : Own g ls) (hg : Guar g g')
    (hi : LogInv cfg g) (hlog : g'.w.log = g.w.log ++ [(u, e)]) (hq : QSame g.q g'.q) (h1 : linkPos (u, e) = none)
    (h2 : e.isRemoved = false) (h3 : EntryOK cfg g.w.log (u, e)) : LogInv cfg g' :=
  logInv_same ho hg hi hlog hq.1 hq.2.1 (fun p => .inl (by rw [hq.2.2])) (List.filterMap_cons_none h1)
    (fun _ _ _ hm => by cases List.mem_singleton.1 hm; cases h2)
    (fun pre1 e' post1 h => by obtain ⟨rfl, rfl⟩ := one_split h; rwa [List.append_nil])

theorem cntOK_kept {cfg : Cfg} {tid : Tid} {g : G} {ls : Tid → L} {r : Tr} {ql : Queue.L} {b : Nat} (hc : Cnt g ls)
    (hi : LogInv cfg g) (hk : TrK cfg tid g r ql) (hb : b ∈ r.kl) (k : Bool) : CntOK g.w.log k b (g.w.sel k b) := by
  obtain ⟨_, p, p1, p2, p3, _⟩ := hk.kept b hb
  obtain ⟨u, hu⟩ := hi.link.compl p p1 p2
  exact ⟨hc.per k b, u, p, p3 ▸ hu⟩

theorem logInv_link {cfg : Cfg} {g g' : G} {ls : Tid → L} {tid : Tid} {b : Nat} {es' : List Ev} (hnpos : 1 ≤ g.q.n)
    (ho : Own g ls) (hg : Guar g g') (hi : LogInv cfg g) (a : g'.w.log = g.w.log ++ tagE tid (.linked b g.q.n :: es'))
    (hes : es' = [] ∨ ∃ t, es' = [.iterStart t (g.q.n + 1)]) (hn : g'.q.n = g.q.n + 1) (hvn : g'.q.val g.q.n = b)
    (hv : ∀ p, p ≠ g.q.n → g'.q.val p = g.q.val p) (hln : g'.q.live g.q.n = true)
    (hlv : ∀ p, p ≠ g.q.n → g'.q.live p = g.q.live p) : LogInv cfg g' := by
  obtain ⟨⟨a1, a2, a3⟩, ⟨b1, b2⟩, c'⟩ := hi
  have hmem : ∀ u x pos, (u, Ev.linked x pos) ∈ g'.w.log →
      (u, Ev.linked x pos) ∈ g.w.log ∨ (u = tid ∧ x = b ∧ pos = g.q.n) := by
    intro u x pos hm
    rw [a] at hm
    rcases List.mem_append.1 hm with hm | hm
    · exact Or.inl hm
    · simp only [tagE, List.map_cons, List.mem_cons] at hm
      rcases hm with hm | hm
      · simp at hm; exact Or.inr ⟨hm.1, hm.2.1, hm.2.2⟩
      · rcases hes with rfl | ⟨t, rfl⟩ <;> simp at hm
  refine ⟨⟨?_, ?_, ?_⟩, ⟨?_, ?_⟩, ?_⟩
  · intro u x pos hm
    rw [hn]
    rcases hmem u x pos hm with hm | ⟨_, rfl, rfl⟩
    · obtain ⟨p1, p2, p3⟩ := a1 u x pos hm
      exact ⟨p1, Nat.lt_succ_of_lt p2, by rw [hv pos (Nat.ne_of_lt p2)]; exact p3⟩
    · exact ⟨hnpos, Nat.lt_succ_self _, hvn⟩
  all_goals simp only [a, hn]
  · intro pos p1 p2
    by_cases hp : pos = g.q.n
    · subst hp; rw [hvn]; exact ⟨tid, by simp [tagE]⟩
    · obtain ⟨u, hu⟩ := a2 pos p1 (Nat.lt_of_le_of_ne (Nat.le_of_lt_succ p2) hp)
      rw [hv pos hp]; exact ⟨u, List.mem_append_left _ hu⟩
  · rw [List.filterMap_append]
    have : (tagE tid (Ev.linked b g.q.n :: es')).filterMap linkPos = [g.q.n] := by
      rcases hes with rfl | ⟨t, rfl⟩ <;> rfl
    rw [this]
    refine List.nodup_append.2 ⟨a3, by simp, ?_⟩
    intro x hx y hy
    simp at hy; subst hy
    obtain ⟨u, x', hx'⟩ := mem_linkPos hx
    exact Nat.ne_of_lt (a1 u x' x hx').2.1
  · intro p p1 p2 p3
    have hp : p ≠ g.q.n := by intro e; rw [e, hln] at p3; contradiction
    rw [hlv p hp] at p3
    obtain ⟨u, lim, h⟩ := b1 p p1 (Nat.lt_of_le_of_ne (Nat.le_of_lt_succ p2) hp) p3
    rw [hv p hp]; exact ⟨u, lim, List.mem_append_left _ h⟩
  · intro u x lim hm
    rcases List.mem_append.1 hm with hm | hm
    · obtain ⟨y, p, p1, p2, p3, p4⟩ := b2 u x lim hm
      have hx : x < g.w.nb := by rw [← p3]; exact (ho.res_lt p p1 p2).1
      have hp : p ≠ g.q.n := Nat.ne_of_lt p2
      exact ⟨by rw [hg.ts x hx]; exact y, p, p1, Nat.lt_succ_of_lt p2, by rw [hv p hp]; exact p3, by rw [hlv p hp]; exact p4⟩
    · simp only [tagE, List.map_cons, List.mem_cons] at hm
      rcases hm with hm | hm
      · simp at hm
      · rcases hes with rfl | ⟨t, rfl⟩ <;> simp at hm
  · apply c'.append
    intro pre1 e post1 h
    rcases hes with rfl | ⟨t, rfl⟩
    · obtain ⟨_, rfl⟩ := one_split h; trivial
    · cases pre1 with
      | nil => simp [tagE] at h; rw [← h.1]; trivial
      | cons y r =>
        simp [tagE] at h
        obtain ⟨rfl, h⟩ := h
        obtain ⟨rfl, rfl⟩ := one_split h
        intro u x pos hm
        rcases List.mem_append.1 hm with hm | hm
        · exact Nat.lt_succ_of_lt (a1 u x pos hm).2.1
        · simp at hm; exact hm.2.2 ▸ Nat.lt_succ_self _

theorem logInv_pres {cfg : Cfg} {tid : Tid} {g g' : G} {ls : Tid → L} {l' : L} (hb : Base g ls) (ho : Own g ls)
    (hc : Cnt g ls) (ht : TravOK cfg tid g (ls tid)) (hg : Guar g g') (hi : LogInv cfg g)
    (he : LEff cfg tid g (ls tid) g' l') : LogInv cfg g' := by
  have hL := hb.linv tid
  induction he with
  | quiet es a b c =>
    have hin : ∀ e ∈ tagE tid es, e.2.inert = true := fun e he => by
      obtain ⟨e', he', rfl⟩ := List.mem_map.1 he; exact b e' he'
    refine logInv_same ho hg hi a c.1 c.2.1 (fun p => .inl (by rw [c.2.2])) (linkPos_inert b)
      (fun _ _ _ hm => by cases hin _ hm) fun pre1 e post1 h => ?_
    exact entryOK_inert (hin e (by rw [h]; exact List.mem_append_right _ (List.mem_cons_self ..)))
  | swap t old nw hcur a b c =>
    refine logInv_one ho hg hi a b rfl rfl fun u pos hm => ?_
    obtain ⟨p1, p2, p3⟩ := hi.link.sound u old pos hm
    exact (ho.res_lt pos p1 p2).2.1 (by rw [p3, hcur])
  | start t a b => exact logInv_one ho hg hi a b rfl rfl fun u x pos hm => (hi.link.sound u x pos hm).2.1
  | cntS r b hw a c =>
    simp only [TravOK, hw] at ht
    obtain ⟨hk, kl', ekl, _⟩ := ht
    exact logInv_one ho hg hi a c rfl rfl (cntOK_kept hc hi hk (ekl ▸ List.mem_cons_self ..) true)
  | cntF r b hw a c =>
    simp only [TravOK, hw] at ht
    obtain ⟨hk, kl', ekl, _⟩ := ht
    exact logInv_one ho hg hi a c rfl rfl (cntOK_kept hc hi hk (ekl ▸ List.mem_cons_self ..) false)
  | roll r it hw hq hnn a c =>
    simp only [TravOK, hw] at ht
    obtain ⟨hk, hs1, hs2⟩ := ht
    have hkl : ∀ x ∈ r.kl, x < g.w.nb ∧ r.t - cfg.window ≤ g.w.ts x :=
      fun x hx => ⟨hk.kl_lt ho x hx, (hk.kept x hx).1⟩
    refine logInv_one ho hg hi a c rfl rfl ⟨?_, ?_, ?_, ?_, hk.nodup, ?_, ?_, hk.started⟩
    · rw [hc.sum]; exact Nat.le_trans hs1 (sumK_bsum _ _ _ _ _ hk.nodup hkl).1
    · rw [hc.sum]; exact Nat.le_trans hs2 (sumK_bsum _ _ _ _ _ hk.nodup hkl).1
    · rw [← sumK_eq_sumAdds hc]; exact hs1
    · rw [← sumK_eq_sumAdds hc]; exact hs2
    · intro x hx
      obtain ⟨_, u, p, hu⟩ := cntOK_kept hc hi hk hx true
      exact ⟨u, p, hu⟩
    · intro u x pos hm hpos hnr
      obtain ⟨p1, p2, p3⟩ := hi.link.sound u x pos hm
      have hlive : g.q.live pos = true := by
        cases e : g.q.live pos with
        | true => rfl
        | false =>
          obtain ⟨u', lim, h'⟩ := hi.dead.dead pos p1 p2 e
          rw [p3] at h'
          exact absurd h' (hnr u' lim)
      rcases hk.compl pos p1 hpos hlive with h' | h' | ⟨it', h'⟩
      · rw [p3] at h'; exact h'
      · rw [hq] at h'
        obtain ⟨q, hq', _⟩ := h'
        rw [hnn] at hq'; cases hq'
      · rw [hq] at h'; cases h'
  | kill r b it k hw hq a c =>
    simp only [TravOK, hw] at ht
    obtain ⟨hk, _, ⟨it', k', hq', hv, hk1⟩, hts⟩ := ht
    rw [hq] at hq'; cases hq'
    have hkn : k < g.q.n := by rw [hq] at hL; exact hL.1
    -- if the node was live it dies and the removal is logged; else nothing happens
    refine logInv_same ho hg hi c (by rw [a]; rfl) (by rw [a]; rfl) (fun p => ?_) (by split <;> rfl)
      (fun u x lim hm => ?_) (fun pre1 e post1 h => ?_)
    · rw [a]; simp only [Queue.kill]; split
      · rename_i e; subst e
        cases hlive : g.q.live p
        · exact .inl rfl
        · exact .inr ⟨rfl, tid, _, by rw [hv]; exact List.mem_singleton.2 rfl⟩
      · exact .inl rfl
    · split at hm
      · cases List.mem_singleton.1 hm; exact ⟨hts, k, hk1, hkn, hv, by rw [a]; simp [Queue.kill]⟩
      · cases hm
    · split at h
      · obtain ⟨_, rfl⟩ := one_split h; trivial
      · simp at h
  | link b es' hh a hes hn hvn hv hln hlv =>
    exact logInv_link hb.ginv.npos ho hg hi a hes hn hvn hv hln hlv


structure Full (cfg : Cfg) (g : G) (ls : Tid → L) : Prop where
  own : Own g ls
  cnt : Cnt g ls
  trav : ∀ t, TravOK cfg t g (ls t)
  log : LogInv cfg g

theorem full_init (cfg : Cfg) (t0 : Int) : Full cfg ⟨initW t0, Queue.init⟩ (fun _ => ⟨.idle, .idle⟩) := by
  refine ⟨own_init t0, cnt_init t0, fun _ => trivial, ⟨⟨?_, ?_, ?_⟩, ⟨?_, ?_⟩, SplitInv.nil _⟩⟩
  · intro u b pos h; simp [initW] at h
  · intro pos h1 h2; simp [Queue.init] at h2; omega
  · simp [initW]
  · intro p h1 h2; simp [Queue.init] at h2; omega
  · intro u b lim h; simp [initW] at h

theorem full_eff {cfg : Cfg} {tid : Tid} {g g' : G} {ls : Tid → L} {l' : L} (hb : Base g ls) (hf : Full cfg g ls)
    (he : Eff cfg tid g (ls tid) g' l') : Full cfg g' (upd ls tid l') := by
  obtain ⟨ho, hc, ht, hi⟩ := hf
  have hg := eff_guar hb ho hc he
  refine ⟨own_pres hb.ginv.npos ho (eff_own hb he), cnt_pres ho hc (eff_cnt ho (hc.refs _) he), fun u => ?_,
    logInv_pres hb ho hc (ht tid) hg hi (eff_leff hb he)⟩
  by_cases hu : u = tid
  · subst hu; simpa using travOK_eff hb ho (ht u) he
  · simpa [upd, hu] using travOK_stable ho (hb.linv u) hg (ht u)

end Garr.Breaker.Fine
