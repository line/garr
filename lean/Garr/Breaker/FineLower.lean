import Garr.Breaker.FineSwap
/-!
# Full-stack window counter: a lower bound for every roll; the snapshot; the invariants of reachable configurations

`LowInv`: every roll counts at least the adds that had taken effect, when its traversal started (`iterStart`), on the
buckets it counts — and it counts every bucket archived before the traversal started that has not expired
(`RollOK.compl`).  Together with the upper bound: a roll whose traversal is not overlapped by adds on archived buckets is
exact on them.  `SnapInv`: what `Count()` loads is the count of some roll.

`reach_inv` proves `Full`, `SwapInv`, `LowInv` and `SnapInv` of every reachable configuration in one induction
(`Mono` needs `0 ≤ interval` and has its own, `reach_mono`).
-/
namespace Garr.Breaker.Fine
open Garr Garr.Conc

/-- the partial sums are at least the adds logged before this traversal's `iterStart` on the buckets `kS` / `kF` -/
def Lower (tid : Tid) (g : G) (r : Tr) (kS kF : List Nat) : Prop :=
  ∃ pre mid, g.w.log = pre ++ (tid, Ev.iterStart r.t r.n0) :: mid ∧
    sumAdds true kS pre ≤ r.s ∧ sumAdds false kF pre ≤ r.f

def LowOK (tid : Tid) (g : G) (l : L) : Prop :=
  match l.w with
  | .head r => Lower tid g r r.kl r.kl
  | .next r => Lower tid g r r.kl r.kl
  | .remove r _ => Lower tid g r r.kl r.kl
  | .rdS r b => ∃ kl', r.kl = b :: kl' ∧ Lower tid g r kl' kl'
  | .rdF r b => ∃ kl', r.kl = b :: kl' ∧ Lower tid g r r.kl kl'
  | _ => True

theorem Lower.transfer {tid : Tid} {g g' : G} {r r' : Tr} {kS kF : List Nat} (h : Lower tid g r kS kF)
    (hlog : ∃ es, g'.w.log = g.w.log ++ es) (h1 : r'.t = r.t) (h2 : r'.n0 = r.n0) (h3 : r.s ≤ r'.s) (h4 : r.f ≤ r'.f) :
    Lower tid g' r' kS kF := by
  obtain ⟨pre, mid, a, b, c⟩ := h
  obtain ⟨es, e⟩ := hlog
  exact ⟨pre, mid ++ es, by rw [e, a, h1, h2]; simp, by omega, by omega⟩

theorem lowOK_stable {tid : Tid} {g g' : G} {l : L} (hlog : ∃ es, g'.w.log = g.w.log ++ es) (h : LowOK tid g l) :
    LowOK tid g' l := by
  unfold LowOK at h ⊢
  split
  iterate 3 (· rename_i hw; rw [hw] at h; exact h.transfer hlog rfl rfl (Nat.le_refl _) (Nat.le_refl _))
  iterate 2
    · rename_i hw; rw [hw] at h
      obtain ⟨kl', e, h⟩ := h
      exact ⟨kl', e, h.transfer hlog rfl rfl (Nat.le_refl _) (Nat.le_refl _)⟩
  · trivial

@[simp] theorem sumAdds_nil (k : Bool) (lg : List (Tid × Ev)) : sumAdds k [] lg = 0 := rfl
@[simp] theorem sumAdds_cons (k : Bool) (b : Nat) (kl : List Nat) (lg : List (Tid × Ev)) :
    sumAdds k (b :: kl) lg = cntAddsTo k b lg + sumAdds k kl lg := by simp [sumAdds]

theorem read_lower {g : G} {ls : Tid → L} (hc : Cnt g ls) (k : Bool) (b : Nat) {pre rest : List (Tid × Ev)}
    (h : g.w.log = pre ++ rest) : cntAddsTo k b pre ≤ g.w.sel k b := by
  rw [hc.per k b, h, cntAddsTo_append]; exact Nat.le_add_right _ _

theorem lowOK_eff {cfg : Cfg} {tid : Tid} {g g' : G} {ls : Tid → L} {l' : L} (hb : Base g ls) (hf : Full cfg g ls)
    (h : LowOK tid g (ls tid)) (he : Eff cfg tid g (ls tid) g' l') : LowOK tid g' l' := by
  have htr := hf.trav tid
  have hlog := (eff_guar hb hf.own hf.cnt he).log
  induction he
  case offerCont hw _ _ => rcases hw with hw | hw | ⟨t, hw⟩ <;> simp only [LowOK, hw]
  case mkIterCont hw _ _ => simp only [LowOK, hw]
  case mkIterRet t n0 gq1 it o hw hs =>
    simp only [TravOK, hw] at htr
    obtain ⟨pre, mid, e⟩ := List.append_of_mem htr.2.2
    exact ⟨pre, mid, e, Nat.le_refl _, Nat.le_refl _⟩
  case headNext hw _ _ => simp only [LowOK, hw] at h ⊢; exact h
  case nextCont hw _ _ | nextRemove hw _ _ _ | removeRet hw _ =>
    simp only [LowOK, hw] at h ⊢; exact h.transfer hlog rfl rfl (Nat.le_refl _) (Nat.le_refl _)
  case nextKeep r _ _ _ _ hw _ _ _ =>
    simp only [LowOK, hw] at h ⊢
    exact ⟨r.kl, rfl, h.transfer hlog rfl rfl (Nat.le_refl _) (Nat.le_refl _)⟩
  case rdS r b hw =>
    simp only [LowOK, hw] at h ⊢
    obtain ⟨kl', e, pre, mid, a, b1, b2⟩ := h
    refine ⟨kl', e, pre, mid ++ [(tid, Ev.cntS b (g.w.sc b))], by simp [a], ?_, b2⟩
    rw [e, sumAdds_cons]
    exact Nat.add_comm _ _ ▸ Nat.add_le_add b1 (read_lower hf.cnt true b a)
  case rdF r b hw =>
    simp only [LowOK, hw] at h ⊢
    obtain ⟨kl', e, pre, mid, a, b1, b2⟩ := h
    refine ⟨pre, mid ++ [(tid, Ev.cntF b (g.w.fc b))], by simp [a], b1, ?_⟩
    rw [e, sumAdds_cons]
    exact Nat.add_comm _ _ ▸ Nat.add_le_add b2 (read_lower hf.cnt false b a)
  all_goals exact trivial

def LowEntry (pre : List (Tid × Ev)) (e : Tid × Ev) : Prop :=
  match e.2 with
  | .rolled t s f n0 kl => ∃ p1 p2, pre = p1 ++ (e.1, Ev.iterStart t n0) :: p2 ∧ sumAdds true kl p1 ≤ s ∧ sumAdds false kl p1 ≤ f
  | _ => True

structure LowInv (g : G) (ls : Tid → L) : Prop where
  pcs : ∀ t, LowOK t g (ls t)
  entries : SplitInv LowEntry g.w.log

theorem low_eff {cfg : Cfg} {tid : Tid} {g g' : G} {ls : Tid → L} {l' : L} (hb : Base g ls) (hf : Full cfg g ls)
    (h : LowInv g ls) (he : Eff cfg tid g (ls tid) g' l') : LowInv g' (upd ls tid l') := by
  have hlog := (eff_guar hb hf.own hf.cnt he).log
  refine ⟨fun u => ?_, ?_⟩
  · by_cases hu : u = tid
    · subst hu; simpa using lowOK_eff hb hf (h.pcs u) he
    · simpa [upd, hu] using lowOK_stable hlog (h.pcs u)
  · rcases leff_new (eff_leff hb he) with ⟨es, e1, e2⟩ | ⟨r, _, hw, _, _, e1⟩
    · rw [e1]
      apply h.entries.append_all
      intro pre e hm
      simp only [tagE, List.mem_map] at hm
      obtain ⟨ev, hev, rfl⟩ := hm
      have := e2 ev hev
      cases ev <;> simp [Ev.isRolled] at this <;> trivial
    · rw [e1]
      apply h.entries.append_one
      have := h.pcs tid
      simp only [LowOK, hw] at this
      exact this

def storeOK (tid : Tid) (g : G) (l : L) : Prop :=
  match l.w with
  | .store e => ∃ t n0 kl, (tid, Ev.rolled t e.1 e.2 n0 kl) ∈ g.w.log
  | _ => True

structure SnapInv (g : G) (ls : Tid → L) : Prop where
  snap : g.w.snap = (0, 0) ∨ ∃ u t n0 kl, (u, Ev.rolled t g.w.snap.1 g.w.snap.2 n0 kl) ∈ g.w.log
  pcs : ∀ t, storeOK t g (ls t)

theorem snap_eff {cfg : Cfg} {tid : Tid} {g g' : G} {ls : Tid → L} {l' : L} (hb : Base g ls) (hf : Full cfg g ls)
    (h : SnapInv g ls) (he : Eff cfg tid g (ls tid) g' l') : SnapInv g' (upd ls tid l') := by
  obtain ⟨es, hlog⟩ := (eff_guar hb hf.own hf.cnt he).log
  have hmem : ∀ e ∈ g.w.log, e ∈ g'.w.log := fun e he => by rw [hlog]; exact List.mem_append_left _ he
  have hpc := h.pcs tid
  have key : storeOK tid g' l' ∧
      (g'.w.snap = g.w.snap ∨ ∃ e, (ls tid).w = .store e ∧ g'.w.snap = e ∧ g'.w.log = g.w.log) := by
    induction he
    case headExit r it hw hq hp =>
      exact ⟨⟨r.t, r.n0, r.kl, List.mem_append_right _ (List.mem_singleton.2 rfl)⟩, Or.inl rfl⟩
    case store e hw => exact ⟨trivial, Or.inr ⟨e, hw, rfl, rfl⟩⟩
    case offerCont hw _ _ =>
      exact ⟨by rcases hw with hw | hw | ⟨t, hw⟩ <;> simp only [storeOK, hw], Or.inl rfl⟩
    case mkIterCont hw _ _ | nextCont hw _ _ => exact ⟨by simp only [storeOK, hw], Or.inl rfl⟩
    case bsAdd | addSame | rollAdd => exact ⟨trivial, Or.inl (addTo_snap ..)⟩
    all_goals exact ⟨trivial, Or.inl rfl⟩
  refine ⟨?_, fun u => ?_⟩
  · rcases key.2 with e | ⟨e, hw, e1, e2⟩
    · rw [e]
      rcases h.snap with h' | ⟨u, t, n0, kl, h'⟩
      · exact Or.inl h'
      · exact Or.inr ⟨u, t, n0, kl, hmem _ h'⟩
    · have := h.pcs tid
      simp only [storeOK, hw] at this
      obtain ⟨t, n0, kl, hm⟩ := this
      exact Or.inr ⟨tid, t, n0, kl, by rw [e1]; exact hmem _ hm⟩
  · by_cases hu : u = tid
    · subst hu; simpa using key.1
    · have := h.pcs u
      simp only [upd, hu, if_false]
      unfold storeOK at this ⊢
      split
      · rename_i e hw
        simp only [hw] at this
        obtain ⟨t, n0, kl, hm⟩ := this
        exact ⟨t, n0, kl, hmem _ hm⟩
      · trivial

theorem reach_inv {cfg : Cfg} {t0 : Int} (c : Config (M cfg t0)) (h : Reach (M cfg t0) c) :
    Base c.g c.l ∧ Full cfg c.g c.l ∧ SwapInv c.g c.l ∧ LowInv c.g c.l ∧ SnapInv c.g c.l :=
  reach_ind (cfg := cfg) (t0 := t0) (fun g ls => Full cfg g ls ∧ SwapInv g ls ∧ LowInv g ls ∧ SnapInv g ls)
    ⟨full_init cfg t0, fun _ _ _ h => (List.not_mem_nil h).elim, ⟨fun _ => trivial, SplitInv.nil _⟩,
      ⟨Or.inl rfl, fun _ => trivial⟩⟩
    (fun _ _ _ _ _ hb ⟨hf, hs, hl, hn⟩ he =>
      ⟨full_eff hb hf he, swap_pres hb hf hs he, low_eff hb hf hl he, snap_eff hb hf hn he⟩) c h

/-- what the properties say of rolls, counter reads, swaps and traversal starts are the cases of this -/
theorem reach_entry {cfg : Cfg} {t0 : Int} {c : Config (M cfg t0)} (h : Reach (M cfg t0) c) {pre post : List (Tid × Ev)}
    {e : Tid × Ev} (hlog : c.g.w.log = pre ++ e :: post) : EntryOK cfg pre e ∧ LowEntry pre e :=
  ⟨(reach_inv c h).2.1.log.entries pre e post hlog, (reach_inv c h).2.2.2.1.entries pre e post hlog⟩

theorem reach_own {cfg : Cfg} {t0 : Int} (c : Config (M cfg t0)) (h : Reach (M cfg t0) c) : Base c.g c.l ∧ Own c.g c.l :=
  ⟨(reach_inv c h).1, (reach_inv c h).2.1.own⟩

theorem reach_cnt {cfg : Cfg} {t0 : Int} (c : Config (M cfg t0)) (h : Reach (M cfg t0) c) :
    Base c.g c.l ∧ Own c.g c.l ∧ Cnt c.g c.l :=
  ⟨(reach_inv c h).1, (reach_inv c h).2.1.own, (reach_inv c h).2.1.cnt⟩

def isLinkOf (b : Nat) (e : Tid × Ev) : Bool :=
  match e.2 with
  | .linked b' _ => b' == b
  | _ => false

theorem countP_le_one_of_nodup {α β : Type} [DecidableEq β] {f : α → Option β} {x : β} {p : α → Bool} {l : List α}
    (hp : ∀ a ∈ l, p a = true → f a = some x) (hnd : (l.filterMap f).Nodup) : l.countP p ≤ 1 := by
  have := List.nodup_iff_count.1 hnd x
  rw [List.count_eq_countP, List.countP_filterMap] at this
  exact Nat.le_trans (List.countP_mono_left fun a ha h => by simp [hp a ha h]) this

theorem eq_of_countP_le_one {α : Type} {p : α → Bool} {l : List α} (h : l.countP p ≤ 1) {a a' : α}
    (ha : a ∈ l) (ha' : a' ∈ l) (hp : p a = true) (hp' : p a' = true) : a = a' := by
  have m := List.mem_filter.2 ⟨ha, hp⟩
  have m' := List.mem_filter.2 ⟨ha', hp'⟩
  rw [List.countP_eq_length_filter] at h
  generalize l.filter p = fl at h m m'
  match fl, h, m, m' with
  | [y], _, m, m' => exact (List.mem_singleton.1 m).trans (List.mem_singleton.1 m').symm
  | _ :: _ :: _, h, _, _ => exact absurd h (by simp)

theorem run_other {cfg : Cfg} {t0 : Int} (u : Tid) (s : List (Tid × (M cfg t0).Act)) : ∀ (c : Config (M cfg t0)),
    (∀ e ∈ s, e.1 ≠ u) → (run (M cfg t0) c s).1.l u = c.l u :=
  run_other_gen (M cfg t0) u s

end Garr.Breaker.Fine
