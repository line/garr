import Garr.Breaker.FineLog
/-!
# Full-stack window counter: roll ticks and trim limits never exceed the current bucket's timestamp

Needs `0 ≤ interval`.  The winner of `casCurrent` installs a bucket whose timestamp is its own tick `t`, and it won
because `t ≥ cur.timestamp + interval`; so the timestamp of the current bucket never decreases, every roller's tick is
`≤` it, and every bucket removed so far is older than `cur.timestamp - window`.
-/
namespace Garr.Breaker.Fine
open Garr Garr.Conc

def monoPc (cfg : Cfg) (g : G) (l : L) : Prop :=
  match l.w with
  | .rollAdd _ t old nw => g.w.ts nw = t ∧ g.w.ts old + cfg.interval ≤ t
  | .cas t old nw => g.w.ts nw = t ∧ g.w.ts old + cfg.interval ≤ t
  | .winOffer t _ => t ≤ g.w.ts g.w.cur
  | .mkIter t _ => t ≤ g.w.ts g.w.cur
  | .head r => r.t ≤ g.w.ts g.w.cur
  | .next r => r.t ≤ g.w.ts g.w.cur
  | .remove r _ => r.t ≤ g.w.ts g.w.cur
  | .rdS r _ => r.t ≤ g.w.ts g.w.cur
  | .rdF r _ => r.t ≤ g.w.ts g.w.cur
  | _ => True

structure Mono (cfg : Cfg) (g : G) (ls : Tid → L) : Prop where
  pcs : ∀ u, monoPc cfg g (ls u)
  removed : ∀ u b lim, (u, Ev.removed b lim) ∈ g.w.log → lim + cfg.window ≤ g.w.ts g.w.cur

theorem monoPc_stable {cfg : Cfg} {g g' : G} {ls : Tid → L} {u : Tid} (ho : Own g ls) (hc : Cnt g ls)
    (hts : ∀ b, b < g.w.nb → g'.w.ts b = g.w.ts b) (hcur : g.w.ts g.w.cur ≤ g'.w.ts g'.w.cur)
    (h : monoPc cfg g (ls u)) : monoPc cfg g' (ls u) := by
  have hh := ho.held_lt u
  have hr := hc.refs u
  have hroll : ∀ {t : Int} {old nw : Nat}, held (ls u) = some nw → old < g.w.nb →
      g.w.ts nw = t ∧ g.w.ts old + cfg.interval ≤ t → g'.w.ts nw = t ∧ g'.w.ts old + cfg.interval ≤ t :=
    fun h1 h2 h => by rw [hts _ (hh _ h1).1, hts _ h2]; exact h
  unfold monoPc at h ⊢
  split
  · rename_i hw; rw [hw] at h
    exact hroll (by simp only [held, hw]) (by simpa only [refsOK, hw] using hr) h
  · rename_i hw; rw [hw] at h
    exact hroll (by simp only [held, hw]) (by simpa only [refsOK, hw] using hr) h
  iterate 7 (· rename_i hw; rw [hw] at h; exact Int.le_trans h hcur)
  · trivial

theorem cur_mono {cfg : Cfg} (h0 : 0 ≤ cfg.interval) {g g' : G} {ls : Tid → L} {tid : Tid} {l' : L} (ho : Own g ls)
    (hg : Guar g g') (hpc : monoPc cfg g (ls tid)) (he : OwnEff g (ls tid) g' l') :
    g.w.ts g.w.cur ≤ g'.w.ts g'.w.cur := by
  have same : g'.w.cur = g.w.cur → g.w.ts g.w.cur ≤ g'.w.ts g'.w.cur := fun e => by
    rw [e, hg.ts _ ho.cur_lt]; exact Int.le_refl _
  induction he with
  | same a | alloc a | link _ a => exact same a
  | swap t nw hw a =>
    simp only [monoPc, hw] at hpc
    rw [a, hg.ts nw (ho.held_lt tid nw (by simp only [held, hw])).1]
    omega

theorem mono_eff {cfg : Cfg} (h0 : 0 ≤ cfg.interval) {tid : Tid} {g g' : G} {ls : Tid → L} {l' : L} (hb : Base g ls)
    (hf : Full cfg g ls) (hm : Mono cfg g ls) (he : Eff cfg tid g (ls tid) g' l') : Mono cfg g' (upd ls tid l') := by
  obtain ⟨ho, hc, ht, hi⟩ := hf
  have hg := eff_guar hb ho hc he
  have hpc := hm.pcs tid
  have hcur := cur_mono h0 ho hg hpc (eff_own hb he)
  refine ⟨forall_upd ?_ (fun u _ => monoPc_stable ho hc hg.ts hcur) hm.pcs, fun u b lim h => ?_⟩
  · -- a tick `≤ cur.timestamp` is carried along; only the roll branch up to the CAS says more
    induction he
    case ldRoll succ t hw h1 h2 =>
      have hne : g.w.cur ≠ g.w.nb := Nat.ne_of_lt ho.cur_lt
      simp only [monoPc, W.alloc, hne, if_true, if_false]
      exact ⟨trivial, Int.not_lt.1 h2⟩
    case rollAdd hw => simpa [monoPc, hw, addTo_ts] using hpc
    case casWin hw _ hcur' =>
      simp only [monoPc, hw] at hpc
      exact Int.le_of_eq hpc.1.symm
    case offerCont hw _ _ =>
      rcases hw with hw | hw | ⟨t, hw⟩
      · simp only [monoPc, hw]
      · simp only [monoPc, hw]
      · simp only [monoPc, hw] at hpc ⊢; exact Int.le_trans hpc hcur
    case rdS hw | rdF hw | headNext hw _ _ | winRet hw _ | mkIterRet hw _ | nextRemove hw _ _ _ | nextKeep hw _ _ _ |
        removeRet hw _ =>
      simp only [monoPc, hw] at hpc; exact Int.le_trans hpc hcur
    case mkIterCont hw _ _ | nextCont hw _ _ => simp only [monoPc, hw] at hpc ⊢; exact Int.le_trans hpc hcur
    all_goals exact trivial
  · rcases leff_removed (eff_leff hb he) h with h | ⟨r, hw, rfl⟩
    · exact Int.le_trans (hm.removed u b _ h) hcur
    · simp only [monoPc, hw] at hpc
      have : r.t - cfg.window + cfg.window = r.t := by omega
      rw [this]; exact Int.le_trans hpc hcur

theorem mono_init (cfg : Cfg) (t0 : Int) : Mono cfg ⟨initW t0, Queue.init⟩ (fun _ => ⟨.idle, .idle⟩) :=
  ⟨fun _ => trivial, fun u b lim h => by simp [initW] at h⟩

theorem reach_mono {cfg : Cfg} (h0 : 0 ≤ cfg.interval) {t0 : Int} (c : Config (M cfg t0)) (h : Reach (M cfg t0) c) :
    Base c.g c.l ∧ Full cfg c.g c.l ∧ Mono cfg c.g c.l :=
  reach_ind (cfg := cfg) (t0 := t0) (fun g ls => Full cfg g ls ∧ Mono cfg g ls) ⟨full_init cfg t0, mono_init cfg t0⟩
    (fun _ _ _ _ _ hb ⟨hf, hm⟩ he => ⟨full_eff hb hf he, mono_eff h0 hb hf hm he⟩) c h

end Garr.Breaker.Fine
