import Garr.Breaker.FineInv
/-!
# Full-stack window counter: who owns a bucket

`Own`: every allocated bucket is exactly one of: the current bucket; held by exactly one thread that is about to offer
it (a fresh instant bucket of a back-stepper or of a CAS loser, a fresh `nextBucket` before the CAS, or the bucket
swapped out by the CAS winner that is not yet linked); a node of the reservoir (exactly one).
-/
namespace Garr.Breaker.Fine
open Garr Garr.Conc

def held (l : L) : Option Nat :=
  match l.w with
  | .bsAdd _ _ b => some b
  | .rollAdd _ _ _ nw => some nw
  | .cas _ _ nw => some nw
  | .bsOffer _ | .loseOffer _ | .winOffer _ _ => offVal l.q
  | _ => none

def InRes (g : G) (b : Nat) : Prop := ∃ p, 1 ≤ p ∧ p < g.q.n ∧ g.q.val p = b

structure Own (g : G) (ls : Tid → L) : Prop where
  cur_lt : g.w.cur < g.w.nb
  held_lt : ∀ t b, held (ls t) = some b → b < g.w.nb ∧ b ≠ g.w.cur
  held_inj : ∀ t u b, held (ls t) = some b → held (ls u) = some b → t = u
  res_lt : ∀ p, 1 ≤ p → p < g.q.n → g.q.val p < g.w.nb ∧ g.q.val p ≠ g.w.cur ∧ ∀ t, held (ls t) ≠ some (g.q.val p)
  res_inj : ∀ p p', 1 ≤ p → p < g.q.n → 1 ≤ p' → p' < g.q.n → g.q.val p = g.q.val p' → p = p'
  cover : ∀ b, b < g.w.nb → b = g.w.cur ∨ (∃ t, held (ls t) = some b) ∨ InRes g b

/-- how a micro-step moves buckets between owners -/
inductive OwnEff (g : G) (l : L) (g' : G) (l' : L) : Prop
  | same : g'.w.cur = g.w.cur → g'.w.nb = g.w.nb → held l' = held l → g'.q.n = g.q.n → g'.q.val = g.q.val →
      OwnEff g l g' l'
  | alloc : g'.w.cur = g.w.cur → g'.w.nb = g.w.nb + 1 → held l = none → held l' = some g.w.nb →
      g'.q.n = g.q.n → g'.q.val = g.q.val → OwnEff g l g' l'
  | swap (t : Int) (nw : Nat) : l.w = .cas t g.w.cur nw → g'.w.cur = nw → g'.w.nb = g.w.nb →
      held l' = some g.w.cur →
      g'.q.n = g.q.n → g'.q.val = g.q.val → OwnEff g l g' l'
  | link (b : Nat) : g'.w.cur = g.w.cur → g'.w.nb = g.w.nb → held l = some b → held l' = none →
      g'.q.n = g.q.n + 1 → g'.q.val g.q.n = b → (∀ p, p ≠ g.q.n → g'.q.val p = g.q.val p) → OwnEff g l g' l'

theorem offer_own {g : G} {l : L} {tid : Tid} {b : Nat} {gq1 : Queue.G} {ql1 : Queue.L} {o : List Queue.Obs} {es : List Ev}
    {pc : WPc} (hw : l.w = .bsOffer b ∨ l.w = .loseOffer b ∨ ∃ t, l.w = .winOffer t b) (hwf : Wf l)
    (hs : Queue.step tid g.q l.q .tau = some (gq1, ql1, o))
    (hpc : ql1 = .idle ∨ pc = l.w) (hh' : offVal ql1 = none → held (⟨pc, ql1⟩ : L) = none) :
    OwnEff g l ⟨g.w.emit tid es, gq1⟩ ⟨pc, ql1⟩ := by
  have hin : InOffer b l.q := hwf.offer hw
  have hh : held l = offVal l.q := by rcases hw with hw | hw | ⟨t, hw⟩ <;> simp only [held, hw]
  rcases offer_tau hin hs with ⟨h1, h2, ⟨a, b', _⟩, _⟩ | ⟨h1, h2, ⟨p, rfl⟩, _⟩ | ⟨h1, h2, ⟨a, b', _⟩, _⟩
  · refine .same rfl rfl ?_ a b'
    rw [hh, h1]
    rcases hpc with rfl | rfl
    · cases h2
    · rcases hw with hw | hw | ⟨t, hw⟩ <;> simp only [held, hw, h2]
  · exact .link b rfl rfl (by rw [hh, h1]) (hh' (offVal_after_link h2)) rfl (if_pos rfl) (fun p' hp' => if_neg hp')
  · refine .same rfl rfl ?_ a b'
    rw [hh, h1]; exact hh' (by rw [h2]; rfl)

theorem eff_own {cfg : Cfg} {tid : Tid} {g g' : G} {ls : Tid → L} {l' : L} (hb : Base g ls)
    (he : Eff cfg tid g (ls tid) g' l') : OwnEff g (ls tid) g' l' := by
  have hwf := hb.wf tid
  have hL := hb.linv tid
  induction he
  case ldBs hw _ | ldRoll hw _ _ => exact .alloc rfl rfl (by simp only [held, hw]) rfl rfl rfl
  case casWin t _ nw hw hq hc => exact .swap t nw (hc ▸ hw) rfl rfl (by simp only [held, offVal, hc]) rfl rfl
  case offerCont hw hs hne =>
    refine offer_own hw hwf hs (Or.inr rfl) (fun hn => ?_)
    rcases hw with hw | hw | ⟨t, hw⟩ <;> simp only [held, hw, hn]
  case offerRet hw hs =>
    exact offer_own (hw.elim Or.inl (fun h => Or.inr (Or.inl h))) hwf hs (Or.inl rfl) (fun _ => rfl)
  case winRet t b gq1 o hw hs =>
    have := offer_own (es := linkedEv g b o ++ [.iterStart t gq1.n]) (pc := .mkIter t gq1.n)
      (Or.inr (Or.inr ⟨t, hw⟩)) hwf hs (Or.inl rfl) (fun _ => rfl)
    -- the queue pc after the invocation of `Iterator()` holds nothing either
    cases this with
    | same a b' c d e => exact .same a b' c d e
    | alloc a b' c d e f => cases d
    | swap t nw hw a b' d e f => cases d
    | link b a b' c d e f g => exact .link b a b' c rfl e f g
  case mkIterCont hw hs _ | mkIterRet hw hs =>
    obtain ⟨a, b, _⟩ := trav_tau_same hL (.inl (hwf.mkIter hw)) hs
    exact .same rfl rfl (by simp only [held, hw]) a b
  case nextCont hw hs _ | nextRemove hw hs _ _ | nextKeep hw hs _ _ =>
    obtain ⟨a, b, _⟩ := trav_tau_same hL (.inr (hwf.next hw)) hs
    exact .same rfl rfl (by simp only [held, hw]) a b
  case removeRet hw hs =>
    obtain ⟨_, _, _, rfl, _⟩ := remove_tau (hwf.remove hw) hs
    exact .same rfl rfl (by simp only [held, hw]) rfl rfl
  case bsAdd hw _ | addSame hw | rollAdd hw =>
    exact .same (addTo_cur ..) (addTo_nb ..) (by simp only [held, hw, offVal]) rfl rfl
  case call hw | tick hw | ldSame hw _ _ | casLose hw _ _ | rdS hw | rdF hw | store hw | headNext hw _ _ |
      headExit hw _ _ =>
    exact .same rfl rfl (by simp only [held, hw, offVal]) rfl rfl


theorem held_upd_same (ls : Tid → L) (tid : Tid) (l' : L) : held (upd ls tid l' tid) = held l' := by simp
theorem held_upd_other (ls : Tid → L) (tid : Tid) (l' : L) {u : Tid} (h : u ≠ tid) :
    held (upd ls tid l' u) = held (ls u) := by simp [upd, h]

theorem own_pres {g g' : G} {ls : Tid → L} {tid : Tid} {l' : L} (hn : 0 < g.q.n) (ho : Own g ls)
    (he : OwnEff g (ls tid) g' l') : Own g' (upd ls tid l') := by
  obtain ⟨o1, o2, o3, o4, o5, o6⟩ := ho
  induction he with
  | same a b c d e =>
    have hh : ∀ u, held (upd ls tid l' u) = held (ls u) := by
      intro u
      by_cases hu : u = tid
      · subst hu; simp [c]
      · exact held_upd_other _ _ _ hu
    -- every component `Own` speaks of is the old one
    refine ⟨?_, ?_, ?_, ?_, ?_, ?_⟩ <;> simp only [hh, a, b, d, e, InRes] <;> assumption
  | alloc a b c c' d e =>
    have hh : ∀ u, u ≠ tid → held (upd ls tid l' u) = held (ls u) := fun u hu => held_upd_other _ _ _ hu
    have hs : held (upd ls tid l' tid) = some g.w.nb := by simp [c']
    constructor
    case held_inj =>
      intro t u x ht hu
      by_cases h1 : t = tid <;> by_cases h2 : u = tid
      · rw [h1, h2]
      · subst h1; rw [hs] at ht; cases ht; rw [hh u h2] at hu; exact absurd (o2 u _ hu).1 (Nat.lt_irrefl _)
      · subst h2; rw [hs] at hu; cases hu; rw [hh t h1] at ht; exact absurd (o2 t _ ht).1 (Nat.lt_irrefl _)
      · rw [hh t h1] at ht; rw [hh u h2] at hu; exact o3 t u x ht hu
    all_goals simp only [a, b, d, e, InRes]
    · exact Nat.lt_succ_of_lt o1
    · intro t x hx
      by_cases ht : t = tid
      · subst ht; rw [hs] at hx; cases hx; exact ⟨Nat.lt_succ_self _, Nat.ne_of_gt o1⟩
      · rw [hh t ht] at hx; have := o2 t x hx; exact ⟨Nat.lt_succ_of_lt this.1, this.2⟩
    · intro p h1 h2
      obtain ⟨x, y, z⟩ := o4 p h1 h2
      refine ⟨Nat.lt_succ_of_lt x, y, fun t => ?_⟩
      by_cases ht : t = tid
      · subst ht; rw [hs]; intro hc; rw [← Option.some.inj hc] at x; exact Nat.lt_irrefl _ x
      · rw [hh t ht]; exact z t
    · exact o5
    · intro x hx
      by_cases hxn : x = g.w.nb
      · subst hxn; exact Or.inr (Or.inl ⟨tid, hs⟩)
      · rcases o6 x (Nat.lt_of_le_of_ne (Nat.le_of_lt_succ hx) hxn) with h | ⟨t, h⟩ | h
        · exact Or.inl h
        · have ht : t ≠ tid := by intro e; subst e; rw [c] at h; cases h
          exact Or.inr (Or.inl ⟨t, by rw [hh t ht]; exact h⟩)
        · exact Or.inr (Or.inr h)
  | swap t nw hw a b c' d e =>
    have c : held (ls tid) = some nw := by simp only [held, hw]
    have hh : ∀ u, u ≠ tid → held (upd ls tid l' u) = held (ls u) := fun u hu => held_upd_other _ _ _ hu
    have hs : held (upd ls tid l' tid) = some g.w.cur := by simp [c']
    have hnw := o2 tid nw c
    constructor
    case held_inj =>
      intro t u x ht hu
      by_cases h1 : t = tid <;> by_cases h2 : u = tid
      · rw [h1, h2]
      · subst h1; rw [hs] at ht; cases ht; rw [hh u h2] at hu; exact absurd rfl (o2 u _ hu).2
      · subst h2; rw [hs] at hu; cases hu; rw [hh t h1] at ht; exact absurd rfl (o2 t _ ht).2
      · rw [hh t h1] at ht; rw [hh u h2] at hu; exact o3 t u x ht hu
    all_goals simp only [a, b, d, e, InRes]
    · exact hnw.1
    · intro t x hx
      by_cases ht : t = tid
      · subst ht; rw [hs] at hx; cases hx; exact ⟨o1, fun h => hnw.2 h.symm⟩
      · rw [hh t ht] at hx
        exact ⟨(o2 t x hx).1, fun h => ht (o3 t tid x hx (by rw [c, h]))⟩
    · intro p h1 h2
      obtain ⟨x, y, z⟩ := o4 p h1 h2
      refine ⟨x, fun h => z tid (by rw [c, h]), fun t => ?_⟩
      by_cases ht : t = tid
      · subst ht; rw [hs]; intro hc; exact y (Option.some.inj hc).symm
      · rw [hh t ht]; exact z t
    · exact o5
    · intro x hx
      rcases o6 x hx with h | ⟨t, h⟩ | h
      · exact Or.inr (Or.inl ⟨tid, by rw [hs, h]⟩)
      · by_cases ht : t = tid
        · subst ht; rw [c] at h; cases h; exact Or.inl rfl
        · exact Or.inr (Or.inl ⟨t, by rw [hh t ht]; exact h⟩)
      · exact Or.inr (Or.inr h)
  | link x a b c c' d e f =>
    have hh : ∀ u, u ≠ tid → held (upd ls tid l' u) = held (ls u) := fun u hu => held_upd_other _ _ _ hu
    have hs : held (upd ls tid l' tid) = none := by simp [c']
    have hx := o2 tid x c
    have lt : ∀ {p}, p < g.q.n + 1 → p ≠ g.q.n → p < g.q.n := fun h hp => Nat.lt_of_le_of_ne (Nat.le_of_lt_succ h) hp
    constructor
    case held_inj =>
      intro t u y ht hu
      by_cases h1 : t = tid
      · subst h1; rw [hs] at ht; cases ht
      · by_cases h2 : u = tid
        · subst h2; rw [hs] at hu; cases hu
        · rw [hh t h1] at ht; rw [hh u h2] at hu; exact o3 t u y ht hu
    all_goals simp only [a, b, d, InRes]
    · exact o1
    · intro t y hy
      by_cases ht : t = tid
      · subst ht; rw [hs] at hy; cases hy
      · rw [hh t ht] at hy; exact o2 t y hy
    · intro p h1 h2
      by_cases hp : p = g.q.n
      · subst hp; rw [e]
        refine ⟨hx.1, hx.2, fun t => ?_⟩
        by_cases ht : t = tid
        · subst ht; rw [hs]; intro hc; cases hc
        · rw [hh t ht]; intro hc; exact ht (o3 t tid x hc c)
      · rw [f p hp]
        obtain ⟨x', y, z⟩ := o4 p h1 (lt h2 hp)
        refine ⟨x', y, fun t => ?_⟩
        by_cases ht : t = tid
        · subst ht; rw [hs]; intro hc; cases hc
        · rw [hh t ht]; exact z t
    · intro p p' h1 h2 h3 h4 hv
      by_cases hp : p = g.q.n <;> by_cases hp' : p' = g.q.n
      · rw [hp, hp']
      · subst hp; rw [e, f p' hp'] at hv
        exact absurd (by rw [c, hv]) ((o4 p' h3 (lt h4 hp')).2.2 tid)
      · subst hp'; rw [e, f p hp] at hv
        exact absurd (by rw [c, hv]) ((o4 p h1 (lt h2 hp)).2.2 tid)
      · rw [f p hp, f p' hp'] at hv; exact o5 p p' h1 (lt h2 hp) h3 (lt h4 hp') hv
    · intro y hy
      rcases o6 y hy with h | ⟨t, h⟩ | ⟨p, h1, h2, h3⟩
      · exact Or.inl h
      · by_cases ht : t = tid
        · subst ht; rw [c] at h; cases h
          exact Or.inr (Or.inr ⟨g.q.n, hn, Nat.lt_succ_self _, e⟩)
        · exact Or.inr (Or.inl ⟨t, by rw [hh t ht]; exact h⟩)
      · exact Or.inr (Or.inr ⟨p, h1, Nat.lt_succ_of_lt h2, by rw [f p (Nat.ne_of_lt h2)]; exact h3⟩)

theorem own_init (t0 : Int) : Own ⟨initW t0, Queue.init⟩ (fun _ => ⟨.idle, .idle⟩) := by
  refine ⟨by simp [initW], ?_, ?_, ?_, ?_, ?_⟩
  · intro t b h; simp [held] at h
  · intro t u b h; simp [held] at h
  · intro p h1 h2; simp [Queue.init] at h2; omega
  · intro p p' h1 h2; simp [Queue.init] at h2; omega
  · intro b hb; simp [initW] at hb ⊢; exact Or.inl hb

end Garr.Breaker.Fine
