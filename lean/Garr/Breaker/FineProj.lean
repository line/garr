import Garr.Breaker.Fine
/-!
# Full-stack window counter: how a step result is assembled; projection onto the queue model

`step_built`: every result of `Fine.step` is assembled as by `mk` — events appended to a window state that still has the
old log, a queue component reached by queue steps of the same thread, a response.  The projection onto the queue
component (`step_proj`, `proj_run`), the growth of the ghost log (`Garr/Breaker/FineRun.lean`) and the only step that
responds with a count are read off it.
-/
namespace Garr.Breaker.Fine
open Garr Garr.Conc

theorem forall_mem_nil {α : Type} {p : α → Prop} : ∀ x ∈ ([] : List α), p x := fun _ hx => (List.not_mem_nil hx).elim
theorem forall_mem_one {α : Type} {p : α → Prop} {a : α} (h : p a) : ∀ x ∈ [a], p x :=
  fun _ hx => by cases List.mem_singleton.1 hx; exact h

theorem mem_old {α : Type} {lg lg' es : List α} {x : α} (hm : x ∈ lg') (a : lg' = lg ++ es) (h : ∀ e ∈ es, e ≠ x) :
    x ∈ lg :=
  (List.mem_append.1 (a ▸ hm)).elim id fun h' => absurd rfl (h _ h')

def qobs (obs : List Obs) : List Queue.Obs := obs.filterMap (fun o => match o with | .q o => some o | _ => none)

/-- `x` is obtained from the queue component of `(g, l)` by queue actions of thread `tid` (`qdo`: disabled ones are
skipped), the observations being collected -/
inductive IsQ (tid : Tid) (g : G) (l : L) : QX → Prop
  | refl : IsQ tid g l (g.q, l.q, [])
  | app {x : QX} (a : Queue.Act) : IsQ tid g l x → IsQ tid g l (qdo tid x a)

theorem IsQ.of_qtau {tid : Tid} {g : G} {l : L} {x : QX} (h : qtau tid g l = some x) : IsQ tid g l x := by
  cases he : Queue.step tid g.q l.q .tau with
  | none => simp [qtau, he] at h
  | some r =>
    obtain ⟨g', l', o⟩ := r
    simp [qtau, he] at h
    subst h
    simpa [qdo, he] using IsQ.app (tid := tid) .tau (.refl (g := g) (l := l))

@[simp] theorem qobs_nil : qobs [] = [] := rfl
theorem qobs_append (a b : List Obs) : qobs (a ++ b) = qobs a ++ qobs b := by simp [qobs]
@[simp] theorem qobs_ev (es : List Ev) : qobs (es.map Obs.ev) = [] := by
  simp [qobs]
@[simp] theorem qobs_q (o : List Queue.Obs) : qobs (o.map Obs.q) = o := by
  induction o with
  | nil => rfl
  | cons a r ih => simp [qobs] at ih ⊢; exact ih
@[simp] theorem qobs_ret (r : Option (Nat × Nat)) : qobs [Obs.ret r] = [] := rfl
@[simp] theorem qobs_call (b : Bool) : qobs [Obs.call b] = [] := rfl

def evs (obs : List Obs) : List Ev := obs.filterMap (fun o => match o with | .ev e => some e | _ => none)

theorem evs_append (a b : List Obs) : evs (a ++ b) = evs a ++ evs b := by simp [evs]
@[simp] theorem evs_ev (es : List Ev) : evs (es.map Obs.ev) = es := by
  induction es with
  | nil => rfl
  | cons a r ih => simp [evs] at ih ⊢; exact ih
@[simp] theorem evs_q (o : List Queue.Obs) : evs (o.map Obs.q) = [] := by simp [evs]
@[simp] theorem evs_nil : evs [] = [] := rfl
@[simp] theorem evs_ret (r : Option (Nat × Nat)) : evs [Obs.ret r] = [] := rfl
@[simp] theorem evs_call (b : Bool) : evs [Obs.call b] = [] := rfl

theorem addTo_cur (w : W) (b : Nat) (s : Bool) : (w.addTo b s).cur = w.cur := by cases s <;> rfl
theorem addTo_nb (w : W) (b : Nat) (s : Bool) : (w.addTo b s).nb = w.nb := by cases s <;> rfl
theorem addTo_ts (w : W) (b : Nat) (s : Bool) : (w.addTo b s).ts = w.ts := by cases s <;> rfl
theorem addTo_log (w : W) (b : Nat) (s : Bool) : (w.addTo b s).log = w.log := by cases s <;> rfl
theorem addTo_snap (w : W) (b : Nat) (s : Bool) : (w.addTo b s).snap = w.snap := by cases s <;> rfl
@[simp] theorem emit_cur (w : W) (t : Tid) (es : List Ev) : (w.emit t es).cur = w.cur := rfl
@[simp] theorem emit_nb (w : W) (t : Tid) (es : List Ev) : (w.emit t es).nb = w.nb := rfl
@[simp] theorem emit_ts (w : W) (t : Tid) (es : List Ev) : (w.emit t es).ts = w.ts := rfl
@[simp] theorem emit_sc (w : W) (t : Tid) (es : List Ev) : (w.emit t es).sc = w.sc := rfl
@[simp] theorem emit_fc (w : W) (t : Tid) (es : List Ev) : (w.emit t es).fc = w.fc := rfl
@[simp] theorem emit_snap (w : W) (t : Tid) (es : List Ev) : (w.emit t es).snap = w.snap := rfl
@[simp] theorem emit_log (w : W) (t : Tid) (es : List Ev) : (w.emit t es).log = w.log ++ es.map (fun e => (t, e)) := rfl
@[simp] theorem emit_nil (w : W) (tid : Tid) : w.emit tid [] = w := by simp [W.emit]
theorem emit_emit (w : W) (tid : Tid) (a b : List Ev) : (w.emit tid a).emit tid b = w.emit tid (a ++ b) := by
  simp [W.emit]

def Resp (resp : List Obs) : Prop := qobs resp = []

def RespOK (l : L) (w : W) (pc : WPc) (resp : List Obs) : Prop :=
  Resp resp ∧ evs resp = [] ∧ ∀ e, Obs.ret (some e) ∈ resp → l.w = .store e ∧ w.snap = e ∧ pc = .idle

theorem RespOK.nil (l : L) (w : W) (pc : WPc) : RespOK l w pc [] := ⟨rfl, rfl, fun _ h => nomatch h⟩
theorem RespOK.none (l : L) (w : W) (pc : WPc) : RespOK l w pc [.ret none] := ⟨rfl, rfl, fun _ h => by simp at h⟩
theorem RespOK.call (l : L) (w : W) (pc : WPc) (s : Bool) : RespOK l w pc [.call s] := ⟨rfl, rfl, fun _ h => by simp at h⟩

inductive Built (tid : Tid) (g : G) (l : L) : G × L × List Obs → Prop
  | mk {w : W} {es : List Ev} {pc : WPc} {x : QX} {resp : List Obs} : w.log = g.w.log → IsQ tid g l x → RespOK l w pc resp →
      Built tid g l (⟨w.emit tid es, x.1⟩, ⟨pc, x.2.1⟩, es.map Obs.ev ++ x.2.2.map Obs.q ++ resp)

theorem built_mk {tid : Tid} {g : G} {l : L} {w : W} {es : List Ev} {pc : WPc} {x : QX} {resp : List Obs} {r}
    (h : mk tid w es pc x resp = some r) (hw : w.log = g.w.log) (hx : IsQ tid g l x) (hr : RespOK l w pc resp) :
    Built tid g l r := by
  cases Option.some.inj h; exact .mk hw hx hr

theorem built_plain {tid : Tid} {g : G} {l : L} {w : W} {pc : WPc} {resp : List Obs} {r}
    (h : some (⟨w, g.q⟩, ⟨pc, l.q⟩, resp) = some r) (hw : w.log = g.w.log) (hr : RespOK l w pc resp) : Built tid g l r := by
  cases Option.some.inj h
  simpa using Built.mk (es := []) hw .refl hr

theorem built_loopHead {tid : Tid} {g : G} {l : L} {w : W} {es : List Ev} {r : Tr} {x : QX} {res}
    (h : loopHead tid w es r x = some res) (hw : w.log = g.w.log) (hx : IsQ tid g l x) : Built tid g l res := by
  unfold loopHead at h
  split at h
  · split at h
    · exact built_mk h hw ((hx.app _).app _) (.nil ..)
    · exact built_mk h hw ((hx.app _).app _) (.nil ..)
  · contradiction

theorem built_offerStep {tid : Tid} {g : G} {l : L} {b : Nat} {res}
    (h : offerStep tid g l b = some res) : Built tid g l res := by
  unfold offerStep at h
  split at h
  · contradiction
  · rename_i x hx
    split at h
    · exact built_mk h rfl (.of_qtau hx) (.none ..)
    · exact built_mk h rfl (.of_qtau hx) (.nil ..)

theorem step_built {cfg : Cfg} {tid : Tid} {g : G} {l : L} {a : Act} {res}
    (h : step cfg tid g l a = some res) : Built tid g l res := by
  have hq : IsQ tid g l _ := .refl
  unfold step at h
  split at h
  · split at h
    · exact built_plain h rfl (.call ..)
    · contradiction
  · split at h
    · exact built_plain h rfl (.nil ..)
    · contradiction
  · split at h
    · simp only at h
      split at h
      · exact built_plain h rfl (.nil ..)
      · split at h <;> exact built_plain h rfl (.nil ..)
    · exact built_mk h (addTo_log ..) (hq.app _) (.nil ..)
    · exact built_mk h (addTo_log ..) hq (.none ..)
    · exact built_mk h (addTo_log ..) hq (.nil ..)
    · split at h
      · exact built_mk h rfl (hq.app _) (.nil ..)
      · exact built_mk h rfl (hq.app _) (.nil ..)
    · exact built_mk h rfl hq (.nil ..)
    · exact built_loopHead h rfl hq
    · rename_i e hw
      exact built_mk h rfl hq ⟨rfl, rfl, fun e' he => by cases List.mem_singleton.1 he; exact ⟨hw, rfl, rfl⟩⟩
    · contradiction
  · split at h
    rotate_right -- the last goal is the default of the match
    · contradiction
    · exact built_offerStep h
    · exact built_offerStep h
    -- the other reservoir operations: one queue access, then by the pc it leads to
    all_goals
      split at h
      · contradiction
      rename_i x hx
      replace hx := IsQ.of_qtau hx
      split at h
    · exact built_mk h rfl (hx.app _) (.nil ..)
    · exact built_mk h rfl hx (.nil ..)
    · exact built_loopHead h rfl hx
    · exact built_mk h rfl hx (.nil ..)
    · split at h
      · split at h
        · exact built_mk h rfl (hx.app _) (.nil ..)
        · exact built_mk h rfl hx (.nil ..)
      · exact built_loopHead h rfl hx
    · exact built_mk h rfl hx (.nil ..)
    · exact built_loopHead h rfl hx
    · exact built_mk h rfl hx (.nil ..)

theorem step_proj {cfg : Cfg} {tid : Tid} {g : G} {l : L} {a : Act} {g' : G} {l' : L} {obs : List Obs}
    (h : step cfg tid g l a = some (g', l', obs)) : IsQ tid g l (g'.q, l'.q, qobs obs) := by
  cases step_built h with
  | mk _ hx hr => simpa [qobs_append, show qobs _ = [] from hr.1] using hx

-- `M.G`/`M.L`/… are `G`/`L`/… only after unfolding `M`
set_option backward.isDefEq.respectTransparency false

theorem upd_map {α β : Type} (f : α → β) (ls : Tid → α) (tid : Tid) (v : α) :
    (fun t => f (upd ls tid v t)) = upd (fun t => f (ls t)) tid (f v) := by
  funext u; unfold upd; split <;> rfl

def proj {cfg : Cfg} {t0 : Int} (c : Config (M cfg t0)) : Config Queue.M := ⟨c.g.q, fun t => (c.l t).q⟩

def tagO (tid : Tid) (os : List Queue.Obs) : List (Tid × Queue.M.Obs) := os.map (fun o => (tid, o))

def qlog {cfg : Cfg} {t0 : Int} (lg : List (Tid × (M cfg t0).Obs)) : List (Tid × Queue.M.Obs) :=
  lg.filterMap (fun e => match e.2 with | Obs.q o => some (e.1, o) | _ => none)

theorem qlog_append {cfg : Cfg} {t0 : Int} (a b : List (Tid × (M cfg t0).Obs)) :
    qlog (a ++ b) = qlog a ++ qlog b := by simp [qlog]

theorem qlog_tag {cfg : Cfg} {t0 : Int} (tid : Tid) (obs : List Obs) :
    qlog (cfg := cfg) (t0 := t0) (obs.map (fun o => (tid, o))) = tagO tid (qobs obs) := by
  simp only [qlog, tagO, qobs, List.filterMap_map, List.map_filterMap]
  congr 1; funext o; cases o <;> rfl

theorem IsQ.to_run {cfg : Cfg} {t0 : Int} {c : Config (M cfg t0)} {tid : Tid} {x : QX} (h : IsQ tid c.g (c.l tid) x) :
    ∃ s' : List (Tid × Queue.M.Act),
      run Queue.M (proj c) s' = (⟨x.1, upd (proj c).l tid x.2.1⟩, tagO tid x.2.2) := by
  induction h with
  | refl => exact ⟨[], by rw [show upd (proj c).l tid (c.l tid).q = (proj c).l from upd_self ..]; rfl⟩
  | @app x a _ ih =>
    obtain ⟨s', hs'⟩ := ih
    refine ⟨s' ++ [((tid, a) : Tid × Queue.M.Act)], ?_⟩
    rw [run_append, hs']
    cases he : Queue.step tid x.1 x.2.1 a with
    | none =>
      rw [run_cons_none (M := Queue.M) (by simp only [upd_same]; exact he)]
      simp [qdo, he, run]
    | some r =>
      obtain ⟨g1, l1, o1⟩ := r
      rw [run_cons_some (M := Queue.M) (by simp only [upd_same]; exact he)]
      simp [qdo, he, run, upd_upd, tagO]

theorem proj_step {cfg : Cfg} {t0 : Int} {c : Config (M cfg t0)} {tid : Tid} {a : Act} {g' : G} {l' : L} {obs : List Obs}
    (h : step cfg tid c.g (c.l tid) a = some (g', l', obs)) :
    ∃ s' : List (Tid × Queue.M.Act), run Queue.M (proj c) s' =
      (proj (⟨g', upd c.l tid l'⟩ : Config (M cfg t0)), tagO tid (qobs obs)) := by
  obtain ⟨s', hs'⟩ := (step_proj h).to_run
  refine ⟨s', hs'.trans ?_⟩
  simp only [proj]
  rw [upd_map L.q c.l tid l']

theorem proj_run {cfg : Cfg} {t0 : Int} (s : List (Tid × (M cfg t0).Act)) : ∀ (c : Config (M cfg t0)),
    ∃ s' : List (Tid × Queue.M.Act),
      run Queue.M (proj c) s' = (proj (run (M cfg t0) c s).1, qlog (run (M cfg t0) c s).2) := by
  induction s with
  | nil => intro c; exact ⟨[], rfl⟩
  | cons ta rest ih =>
    intro c
    obtain ⟨tid, a⟩ := ta
    cases he : (M cfg t0).step tid c.g (c.l tid) a with
    | none => rw [run_cons_none he]; exact ih c
    | some r =>
      obtain ⟨g', l', obs⟩ := r
      rw [run_cons_some he]
      obtain ⟨s1, h1⟩ := proj_step (c := c) he
      obtain ⟨s2, h2⟩ := ih ⟨g', upd c.l tid l'⟩
      refine ⟨s1 ++ s2, ?_⟩
      rw [run_append, h1]
      simp only
      rw [h2, qlog_append, qlog_tag]

theorem proj_init (cfg : Cfg) (t0 : Int) : proj (Config.init (M cfg t0)) = Config.init Queue.M := rfl

/-- **Transfer.**  What holds of every run of `Garr.Queue.M` from its initial configuration holds of the queue component
of every run of the composed machine: the theorems of `Garr/Queue/*.lean` about runs transfer. -/
theorem run_transfer {cfg : Cfg} {t0 : Int} {P : Config Queue.M × List (Tid × Queue.M.Obs) → Prop}
    (h : ∀ s', P (run Queue.M (Config.init Queue.M) s')) (s : List (Tid × (M cfg t0).Act)) :
    P (proj (run (M cfg t0) (Config.init (M cfg t0)) s).1, qlog (run (M cfg t0) (Config.init (M cfg t0)) s).2) := by
  obtain ⟨s', hs'⟩ := proj_run s (Config.init (M cfg t0))
  exact hs' ▸ h s'

end Garr.Breaker.Fine
