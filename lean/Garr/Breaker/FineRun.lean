import Garr.Breaker.FineCount
/-!
# Full-stack window counter: the ghost log is the sequence of `ev` observations of the run
-/
namespace Garr.Breaker.Fine
open Garr Garr.Conc

theorem step_log {cfg : Cfg} {tid : Tid} {g : G} {l : L} {a : Act} {g' : G} {l' : L} {obs : List Obs}
    (h : step cfg tid g l a = some (g', l', obs)) : g'.w.log = g.w.log ++ tagE tid (evs obs) := by
  cases step_built h with
  | mk hw _ hr => simp [evs_append, hr.2.1, hw]

theorem step_ret_some {cfg : Cfg} {tid : Tid} {g : G} {l : L} {a : Act} {g' : G} {l' : L} {obs : List Obs} {e : Nat × Nat}
    (h : step cfg tid g l a = some (g', l', obs)) (hm : Obs.ret (some e) ∈ obs) :
    l.w = .store e ∧ g'.w.snap = e ∧ l'.w = .idle := by
  cases step_built h with
  | mk _ _ hr => exact hr.2.2 e (by simpa using hm)

-- `(M cfg t0).Obs` is `Obs` only after unfolding `M`
set_option backward.isDefEq.respectTransparency false

def elog {cfg : Cfg} {t0 : Int} (lg : List (Tid × (M cfg t0).Obs)) : List (Tid × Ev) :=
  lg.filterMap (fun e => match e.2 with | Obs.ev x => some (e.1, x) | _ => none)

theorem elog_append {cfg : Cfg} {t0 : Int} (a b : List (Tid × (M cfg t0).Obs)) :
    elog (a ++ b) = elog a ++ elog b := by simp [elog]

theorem elog_tag {cfg : Cfg} {t0 : Int} (tid : Tid) (obs : List Obs) :
    elog (cfg := cfg) (t0 := t0) (obs.map (fun o => (tid, o))) = tagE tid (evs obs) := by
  simp only [elog, tagE, evs, List.filterMap_map, List.map_filterMap]
  congr 1; funext o; cases o <;> rfl

theorem run_log_init {cfg : Cfg} {t0 : Int} (s : List (Tid × (M cfg t0).Act)) :
    (run (M cfg t0) (Config.init (M cfg t0)) s).1.g.w.log = elog (run (M cfg t0) (Config.init (M cfg t0)) s).2 := by
  have := run_ind_gen (M cfg t0) (fun _ _ => True) (fun lg c => c.g.w.log = elog lg)
    (fun lg c tid a g' l' obs _ hP _ hs => by
      show g'.w.log = _
      rw [step_log (cfg := cfg) (g := c.g) (l := c.l tid) hs, elog_append, elog_tag, ← hP])
    s (Config.init _) [] Reach.init rfl (fun _ _ => trivial)
  simpa using this

end Garr.Breaker.Fine
