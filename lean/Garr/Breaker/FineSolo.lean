import Garr.Breaker.FineLower
import Garr.Breaker.FineMono
/-!
# Full-stack window counter: exactness of a roll that runs alone from a quiescent configuration

One assertion per pc.  `SoloAt` says what holds when the solo thread is at a given pc of `onEvent`: the buckets that
existed at the quiescent state are untouched (`Frame`), the partial sums of the traversal are exact.  `SoloPc` adds that
every roll logged so far is `Exact`.  `solo_eff`: a micro-step takes the assertion of its pc to that of the next;
`exit_counts` is the loop exit, where the kept buckets turn out to be exactly those inside the window.
-/
namespace Garr.Breaker.Fine
open Garr Garr.Conc

theorem sumK_congr {w w' : W} {k : Bool} {kl : List Nat} (h : ∀ b ∈ kl, w'.sel k b = w.sel k b) :
    sumK w' k kl = sumK w k kl := by
  unfold sumK; congr 1; exact List.map_congr_left h

/-- the window state after the roll branch allocated bucket `w0.nb` with timestamp `t`: the older buckets are untouched -/
structure Frame (w0 w : W) (t : Int) : Prop where
  nb : w.nb = w0.nb + 1
  ts : ∀ b, b < w0.nb → w.ts b = w0.ts b
  sel : ∀ k b, b < w0.nb → w.sel k b = w0.sel k b
  tsn : w.ts w0.nb = t

def NoRoll (g0 g : G) (tid : Tid) : Prop :=
  ∃ ext, g.w.log = g0.w.log ++ tagE tid ext ∧ ∀ e ∈ ext, e.isRolled = false

def Exact (cfg : Cfg) (g0 g : G) (tid : Tid) (t : Int) : Prop :=
  ∃ ext, g.w.log = g0.w.log ++ tagE tid ext ∧ ∀ t' s f n0 kl, Ev.rolled t' s f n0 kl ∈ ext →
    t' = t ∧ s = cntAdds true (t - cfg.window) g0.w.log ∧ f = cntAdds false (t - cfg.window) g0.w.log

theorem NoRoll.exact {cfg : Cfg} {g0 g : G} {tid : Tid} {t : Int} (h : NoRoll g0 g tid) : Exact cfg g0 g tid t := by
  obtain ⟨ext, h1, h2⟩ := h
  exact ⟨ext, h1, fun t' s f n0 kl hm => by have := h2 _ hm; simp [Ev.isRolled] at this⟩

def Trimmed (cfg : Cfg) (g : G) (t : Int) : Prop :=
  ∀ p, 1 ≤ p → p < g.q.n → g.q.live p = true → t - cfg.window ≤ g.w.ts (g.q.val p)

structure SoloTr (g0 g : G) (t : Int) (r : Tr) : Prop where
  tick : r.t = t
  cur : g.w.cur = g0.w.nb
  frame : Frame g0.w g.w t
  n0 : r.n0 = g.q.n

def SoloAt (cfg : Cfg) (g0 : G) (tid : Tid) (t : Int) (g : G) (l : L) : Prop :=
  match l.w with
  | .tick _ => False
  | .ldCur _ t' => t' = t ∧ g = g0
  | .rollAdd _ t' old nw => t' = t ∧ old = g0.w.cur ∧ nw = g0.w.nb ∧ g.w.cur = g0.w.cur ∧ Frame g0.w g.w t
  | .cas t' old nw => t' = t ∧ old = g0.w.cur ∧ nw = g0.w.nb ∧ g.w.cur = g0.w.cur ∧ Frame g0.w g.w t
  | .winOffer t' _ => t' = t ∧ g.w.cur = g0.w.nb ∧ Frame g0.w g.w t
  | .mkIter t' n0 => t' = t ∧ g.w.cur = g0.w.nb ∧ Frame g0.w g.w t ∧ n0 = g.q.n
  | .head r => SoloTr g0 g t r ∧ r.s = sumK g.w true r.kl ∧ r.f = sumK g.w false r.kl
  | .next r => SoloTr g0 g t r ∧ r.s = sumK g.w true r.kl ∧ r.f = sumK g.w false r.kl
  | .remove r _ => SoloTr g0 g t r ∧ r.s = sumK g.w true r.kl ∧ r.f = sumK g.w false r.kl
  | .rdS r b => SoloTr g0 g t r ∧ ∃ kl', r.kl = b :: kl' ∧ r.s = sumK g.w true kl' ∧ r.f = sumK g.w false kl'
  | .rdF r b => SoloTr g0 g t r ∧ ∃ kl', r.kl = b :: kl' ∧ r.s = sumK g.w true r.kl ∧ r.f = sumK g.w false kl'
  | .store e => Trimmed cfg g t ∧
      e = (cntAdds true (t - cfg.window) g0.w.log, cntAdds false (t - cfg.window) g0.w.log)
  | .idle => NoRoll g0 g tid ∨ (Trimmed cfg g t ∧
      g.w.snap = (cntAdds true (t - cfg.window) g0.w.log, cntAdds false (t - cfg.window) g0.w.log))
  | _ => NoRoll g0 g tid

structure SoloPc (cfg : Cfg) (g0 : G) (tid : Tid) (t : Int) (g : G) (l : L) : Prop where
  exact : Exact cfg g0 g tid t
  pc : SoloAt cfg g0 tid t g l


theorem exit_exact {cfg : Cfg} {g0 g : G} {ls : Tid → L} {tid : Tid} {t : Int} {r : Tr} {it : Queue.Iter}
    (hf : Full cfg g ls) (hm : Mono cfg g ls) (hoth : ∀ u, u ≠ tid → (ls u).w = .idle)
    (hw : (ls tid).w = .head r) (hq : (ls tid).q = .idleIt it) (hnn : it.nextNode = none)
    (hs : SoloTr g0 g t r) :
    (∀ b, b ∈ r.kl ↔ b < g0.w.nb ∧ t - cfg.window ≤ g0.w.ts b) ∧ Trimmed cfg g t := by
  obtain ⟨ho, hc, ht, hi⟩ := hf
  obtain ⟨h1, h2, hfr, h5⟩ := hs
  have htr := ht tid
  simp only [TravOK, hw] at htr
  obtain ⟨hk, _⟩ := htr
  have hcompl : ∀ p, 1 ≤ p → p < g.q.n → g.q.live p = true → g.q.val p ∈ r.kl := by
    intro p p1 p2 p3
    rcases hk.compl p p1 (h5 ▸ p2) p3 with h | h | ⟨it', h⟩
    · exact h
    · rw [hq] at h; obtain ⟨q, hq', _⟩ := h; rw [hnn] at hq'; cases hq'
    · rw [hq] at h; cases h
  refine ⟨fun b => ⟨fun hb => ?_, fun ⟨hb1, hb2⟩ => ?_⟩, fun p p1 p2 p3 => ?_⟩
  · obtain ⟨a, p, p1, p2, p3, _⟩ := hk.kept b hb
    obtain ⟨x, y, _⟩ := ho.res_lt p p1 p2
    rw [p3] at x y
    have hb' : b < g0.w.nb := Nat.lt_of_le_of_ne (Nat.le_of_lt_succ (show b < g0.w.nb + 1 from hfr.nb ▸ x)) (h2 ▸ y)
    exact ⟨hb', by rw [← hfr.ts b hb', ← h1]; exact a⟩
  · have hbg : b < g.w.nb := hfr.nb ▸ Nat.lt_succ_of_lt hb1
    rcases ho.cover b hbg with h | ⟨u, h⟩ | ⟨p, p1, p2, p3⟩
    · rw [h2] at h; exact absurd h (Nat.ne_of_lt hb1)
    · by_cases hu : u = tid
      · subst hu; simp [held, hw] at h
      · simp [held, hoth u hu] at h
    · have hlive : g.q.live p = true := by
        cases e : g.q.live p with
        | true => rfl
        | false =>
          obtain ⟨u, lim, hrm⟩ := hi.dead.dead p p1 p2 e
          rw [p3] at hrm
          have a1 := (hi.dead.removed u b lim hrm).1
          have a2 := hm.removed u b lim hrm
          rw [h2, hfr.tsn] at a2
          rw [hfr.ts b hb1] at a1
          omega
      have := hcompl p p1 p2 hlive
      rw [p3] at this; exact this
  · have := (hk.kept _ (hcompl p p1 p2 p3)).1
    rw [h1] at this; exact this

theorem exit_counts {cfg : Cfg} {g0 g : G} {ls : Tid → L} {tid : Tid} {t : Int} {r : Tr} {it : Queue.Iter}
    (hA : ∀ k, cntAdds k (t - cfg.window) g0.w.log = bsum g0.w k (t - cfg.window) g0.w.nb)
    (hf : Full cfg g ls) (hm : Mono cfg g ls) (hoth : ∀ u, u ≠ tid → (ls u).w = .idle)
    (hw : (ls tid).w = .head r) (hq : (ls tid).q = .idleIt it) (hnn : it.nextNode = none)
    (hP : SoloAt cfg g0 tid t g (ls tid)) :
    Trimmed cfg g t ∧ r.t = t ∧ r.s = cntAdds true (t - cfg.window) g0.w.log ∧
      r.f = cntAdds false (t - cfg.window) g0.w.log := by
  simp only [SoloAt, hw] at hP
  obtain ⟨h1, h2, h3⟩ := hP
  obtain ⟨hiff, htrim⟩ := exit_exact hf hm hoth hw hq hnn h1
  have hsum : ∀ k, sumK g.w k r.kl = cntAdds k (t - cfg.window) g0.w.log := by
    intro k
    have hnd : r.kl.Nodup := by
      have := hf.trav tid; simp only [TravOK, hw] at this; exact this.1.nodup
    rw [hA k, ← (sumK_bsum g0.w k _ _ r.kl hnd fun b hb => (hiff b).1 hb).2 fun b h1 h2 => (hiff b).2 ⟨h1, h2⟩]
    exact sumK_congr (fun b hb' => h1.frame.sel k b ((hiff b).1 hb').1)
  exact ⟨htrim, h1.tick, by rw [h2, hsum], by rw [h3, hsum]⟩

theorem NoRoll.extend {g0 g g' : G} {tid : Tid} (h : NoRoll g0 g tid)
    (hn : ∃ es, g'.w.log = g.w.log ++ tagE tid es ∧ ∀ e ∈ es, e.isRolled = false) : NoRoll g0 g' tid := by
  obtain ⟨ext, h1, h2⟩ := h
  obtain ⟨es, h3, h4⟩ := hn
  refine ⟨ext ++ es, by rw [h3, h1]; simp [tagE], fun e he => ?_⟩
  rcases List.mem_append.1 he with he | he
  · exact h2 e he
  · exact h4 e he

theorem Exact.extend {cfg : Cfg} {g0 g g' : G} {tid : Tid} {t : Int} (h : Exact cfg g0 g tid t)
    (hn : ∃ es, g'.w.log = g.w.log ++ tagE tid es ∧ ∀ e ∈ es, e.isRolled = false) : Exact cfg g0 g' tid t := by
  obtain ⟨ext, h1, h2⟩ := h
  obtain ⟨es, h3, h4⟩ := hn
  refine ⟨ext ++ es, by rw [h3, h1]; simp [tagE], fun t' s f n0 kl hm => ?_⟩
  rcases List.mem_append.1 hm with hm | hm
  · exact h2 _ _ _ _ _ hm
  · cases h4 _ hm

theorem Frame.emit {w0 w : W} {t : Int} (h : Frame w0 w t) (tid : Tid) (es : List Ev) : Frame w0 (w.emit tid es) t :=
  ⟨h.1, h.2, h.3, h.4⟩

theorem SoloTr.transfer {g0 g g' : G} {t : Int} {r r' : Tr} (h : SoloTr g0 g t r)
    (h1 : r'.t = r.t) (h2 : r'.n0 = r.n0) (hcur : g'.w.cur = g.w.cur) (hfr : Frame g0.w g.w t → Frame g0.w g'.w t)
    (hn : g'.q.n = g.q.n) : SoloTr g0 g' t r' :=
  ⟨by rw [h1]; exact h.tick, by rw [hcur]; exact h.cur, hfr h.frame, by rw [h2, hn]; exact h.n0⟩

theorem solo_eff {cfg : Cfg} {g0 g g' : G} {ls : Tid → L} {tid : Tid} {t : Int} {l' : L}
    (hA : ∀ k, cntAdds k (t - cfg.window) g0.w.log = bsum g0.w k (t - cfg.window) g0.w.nb)
    (hb : Base g ls) (hf : Full cfg g ls) (hm : Mono cfg g ls) (hoth : ∀ u, u ≠ tid → (ls u).w = .idle)
    (hP : SoloPc cfg g0 tid t g (ls tid)) (hne : (ls tid).w ≠ .idle) (hnt : ∀ s, (ls tid).w ≠ .tick s)
    (he : Eff cfg tid g (ls tid) g' l') : SoloPc cfg g0 tid t g' l' := by
  refine ⟨?_, ?_⟩
  · -- the rolls so far stay exact; a new one is logged only at the loop exit
    rcases leff_new (eff_leff hb he) with hn | ⟨r, it, hw, hq, hnn, hlog⟩
    · exact hP.exact.extend hn
    · obtain ⟨_, h1, h2, h3⟩ := exit_counts hA hf hm hoth hw hq hnn hP.pc
      obtain ⟨ext, e1, e2⟩ := hP.exact
      refine ⟨ext ++ [Ev.rolled r.t r.s r.f r.n0 r.kl], by simp [hlog, e1, tagE], fun t' s f n0 kl hmem => ?_⟩
      rcases List.mem_append.1 hmem with hmem | hmem
      · exact e2 _ _ _ _ _ hmem
      · cases List.mem_singleton.1 hmem; exact ⟨h1, h2, h3⟩
  have hwf := hb.wf tid
  have hL := hb.linv tid
  have hnew := fun hnh : ∀ r, (ls tid).w ≠ .head r =>
    (leff_new (eff_leff hb he)).resolve_right fun ⟨r, _, hw, _⟩ => hnh r hw
  replace hP := hP.pc
  induction he
  case call succ hw => exact absurd hw hne
  case tick succ t' hw => exact absurd hw (hnt succ)
  case headNext r it p hw hq hp =>
    simp only [SoloAt, hw] at hP ⊢
    exact hP
  case headExit r it hw hq hp =>
    obtain ⟨htrim, _, h2, h3⟩ := exit_counts hA hf hm hoth hw hq hp hP
    exact ⟨htrim, by rw [h2, h3]⟩
  case ldBs hw _ | ldSame hw _ _ =>
    simp only [SoloAt, hw] at hP ⊢
    obtain ⟨rfl, rfl⟩ := hP
    exact ⟨[], by simp [W.alloc], by simp⟩
  case ldRoll succ t' hw _ _ =>
    simp only [SoloAt, hw] at hP ⊢
    obtain ⟨rfl, rfl⟩ := hP
    refine ⟨rfl, rfl, rfl, rfl, rfl, fun b hb' => ?_, fun k b hb' => ?_, by simp [W.alloc]⟩
    · have : b ≠ g.w.nb := Nat.ne_of_lt hb'
      simp [W.alloc, this]
    · have : b ≠ g.w.nb := Nat.ne_of_lt hb'
      rw [sel_alloc, if_neg this]
  case bsAdd hw _ =>
    simp only [SoloAt, hw] at hP ⊢
    exact hP.extend (hnew fun _ h => nomatch hw.symm.trans h)
  case addSame hw =>
    simp only [SoloAt, hw] at hP ⊢
    exact Or.inl (hP.extend (hnew fun _ h => nomatch hw.symm.trans h))
  case rollAdd succ t' old nw hw =>
    simp only [SoloAt, hw] at hP ⊢
    obtain ⟨h1, h2, h3, h4, h5⟩ := hP
    refine ⟨h1, h2, h3, by simpa [addTo_cur] using h4, by simpa [addTo_nb] using h5.nb, fun b hb' => ?_, fun k b hb' => ?_, ?_⟩
    · simpa [addTo_ts] using h5.ts b hb'
    · have : b ≠ nw := h3 ▸ Nat.ne_of_lt hb'
      have e : ((g.w.addTo nw succ).emit tid [Ev.added t' succ nw (g.w.ts nw)]).sel k b = (g.w.addTo nw succ).sel k b := rfl
      rw [e, sel_addTo]; simp [this]; exact h5.sel k b hb'
    · simpa [addTo_ts] using h5.tsn
  case casWin t' old nw hw hq hc =>
    simp only [SoloAt, hw] at hP ⊢
    obtain ⟨h1, h2, h3, h4, h5⟩ := hP
    exact ⟨h1, h3, h5.1, h5.2, h5.3, h5.4⟩
  case casLose t' old nw hw hq hc =>
    simp only [SoloAt, hw] at hP
    obtain ⟨h1, h2, h3, h4, h5⟩ := hP
    exact absurd (by rw [h4, h2]) hc
  case rdS r b hw =>
    simp only [SoloAt, hw] at hP ⊢
    obtain ⟨h1, kl', e, h2, h3⟩ := hP
    refine ⟨h1.transfer rfl rfl rfl (fun h => h.emit _ _) rfl, kl', e, ?_, h3⟩
    show r.s + g.w.sc b = sumK g.w true r.kl
    rw [e, sumK_cons, h2]
    exact Nat.add_comm _ _
  case rdF r b hw =>
    simp only [SoloAt, hw] at hP ⊢
    obtain ⟨h1, kl', e, h2, h3⟩ := hP
    refine ⟨h1.transfer rfl rfl rfl (fun h => h.emit _ _) rfl, h2, ?_⟩
    show r.f + g.w.fc b = sumK g.w false r.kl
    rw [e, sumK_cons, h3]
    exact Nat.add_comm _ _
  case store e hw =>
    simp only [SoloAt, hw] at hP ⊢
    exact Or.inr hP
  case offerCont b gq1 ql1 o hw hs hne' =>
    rcases hw with hw | hw | ⟨t', hw⟩
    · simp only [SoloAt, hw] at hP ⊢; exact hP.extend (hnew fun _ h => nomatch hw.symm.trans h)
    · simp only [SoloAt, hw] at hP ⊢; exact hP.extend (hnew fun _ h => nomatch hw.symm.trans h)
    · simp only [SoloAt, hw] at hP ⊢
      exact ⟨hP.1, hP.2.1, hP.2.2.emit _ _⟩
  case offerRet b gq1 o hw hs =>
    rcases hw with hw | hw
    · simp only [SoloAt, hw] at hP ⊢; exact Or.inl (hP.extend (hnew fun _ h => nomatch hw.symm.trans h))
    · simp only [SoloAt, hw] at hP ⊢; exact Or.inl (hP.extend (hnew fun _ h => nomatch hw.symm.trans h))
  case winRet t' b gq1 o hw hs =>
    simp only [SoloAt, hw] at hP ⊢
    exact ⟨hP.1, hP.2.1, hP.2.2.emit _ _, trivial⟩
  case mkIterCont t' n0 gq1 ql1 o hw hs hni =>
    have hsame := trav_tau_same hL (.inl (hwf.mkIter hw)) hs
    simp only [SoloAt, hw] at hP ⊢
    obtain ⟨h1, h2, h3, h4⟩ := hP
    exact ⟨h1, h2, h3, by rw [h4]; exact hsame.1.symm⟩
  case mkIterRet t' n0 gq1 it o hw hs =>
    have hsame := trav_tau_same hL (.inl (hwf.mkIter hw)) hs
    simp only [SoloAt, hw] at hP ⊢
    obtain ⟨h1, h2, h3, h4⟩ := hP
    exact ⟨⟨h1, h2, h3, by show n0 = gq1.n; rw [h4]; exact hsame.1.symm⟩, rfl, rfl⟩
  case nextCont hw hs _ | nextRemove hw hs _ _ =>
    have hsame := trav_tau_same hL (.inr (hwf.next hw)) hs
    simp only [SoloAt, hw] at hP ⊢
    exact ⟨hP.1.transfer rfl rfl rfl id hsame.1, hP.2⟩
  case nextKeep r gq1 it pos b hw hs hlt hlr =>
    have hsame := trav_tau_same hL (.inr (hwf.next hw)) hs
    simp only [SoloAt, hw] at hP ⊢
    exact ⟨hP.1.transfer rfl rfl rfl id hsame.1, r.kl, rfl, hP.2⟩
  case removeRet r b gq1 it o hw hs =>
    obtain ⟨it0, k, _, rfl, _, _⟩ := remove_tau (hwf.remove hw) hs
    simp only [SoloAt, hw] at hP ⊢
    exact ⟨hP.1.transfer rfl rfl rfl (fun h => h.emit _ _) rfl, hP.2⟩

theorem step_bq_pc {cfg : Cfg} {tid : Tid} {g : G} {l : L} {a : Act} {res} (ha : a = .b ∨ a = .q)
    (h : step cfg tid g l a = some res) : l.w ≠ .idle ∧ ∀ s, l.w ≠ .tick s := by
  refine ⟨fun hw => ?_, fun s hw => ?_⟩ <;> rcases ha with rfl | rfl <;> simp [step, hw] at h

-- `(M cfg t0).step`, `.Act`, `.G`, … are `step cfg`, `Act`, `G`, … only after unfolding `M`
set_option backward.isDefEq.respectTransparency false

theorem solo_rest {cfg : Cfg} (h0 : 0 ≤ cfg.interval) {t0 : Int} {g0 : G} {tid : Tid} {t : Int}
    (hA : ∀ k, cntAdds k (t - cfg.window) g0.w.log = bsum g0.w k (t - cfg.window) g0.w.nb)
    (rest : List (Tid × (M cfg t0).Act)) (hrest : ∀ e ∈ rest, e.1 = tid ∧ (e.2 = Act.b ∨ e.2 = Act.q))
    (c : Config (M cfg t0)) (hc : Reach (M cfg t0) c) (hoth : ∀ u, u ≠ tid → (c.l u).w = .idle)
    (hP : SoloPc cfg g0 tid t c.g (c.l tid)) :
    SoloPc cfg g0 tid t (run (M cfg t0) c rest).1.g ((run (M cfg t0) c rest).1.l tid) ∧
      ∀ u, u ≠ tid → (run (M cfg t0) c rest).1.l u = c.l u := by
  refine run_ind_gen (M cfg t0) (fun u a => u = tid ∧ (a = Act.b ∨ a = Act.q))
    (fun _ c' => SoloPc cfg g0 tid t c'.g (c'.l tid) ∧ ∀ u, u ≠ tid → c'.l u = c.l u)
    (fun _ c' u a g' l' obs hc' ⟨hP', hoth'⟩ ⟨hu, ha⟩ he => ?_) rest c [] hc ⟨hP, fun _ _ => rfl⟩ hrest
  subst hu
  have hs : step cfg u c'.g (c'.l u) a = some (g', l', obs) := he
  obtain ⟨hb, hf, hm⟩ := reach_mono h0 c' hc'
  obtain ⟨hne, hnt⟩ := step_bq_pc ha hs
  have hidle : ∀ v, v ≠ u → (c'.l v).w = .idle := fun v hv => by rw [hoth' v hv]; exact hoth v hv
  obtain ⟨_base, _full, _mono, _idle, hsolo⟩ := steps_ind
    (P := fun g ls => Full cfg g ls ∧ Mono cfg g ls ∧ (∀ v, v ≠ u → (ls v).w = .idle) ∧ SoloPc cfg g0 u t g (ls u))
    (fun g1 ls1 g2 l2 hpc hb1 ⟨hf1, hm1, ho1, hP1⟩ e => by
      have hw1 : (ls1 u).w ≠ .idle ∧ ∀ s, (ls1 u).w ≠ .tick s := by
        rcases hpc with hpc | hpc
        · rw [hpc]; exact ⟨hne, hnt⟩
        · unfold WPc.isHead at hpc
          split at hpc
          · rename_i hw; rw [hw]; exact ⟨nofun, fun _ => nofun⟩
          · cases hpc
      exact ⟨full_eff hb1 hf1 e, mono_eff h0 hb1 hf1 hm1 e, fun v hv => by simpa [upd, hv] using ho1 v hv,
        by simpa using solo_eff hA hb1 hf1 hm1 ho1 hP1 hw1.1 hw1.2 e⟩)
    hb ⟨hf, hm, hidle, hP'⟩ (step_eff (hb.wf u) (hb.iinv u) hs)
  exact ⟨by simpa using hsolo, fun v hv => by rw [← hoth' v hv]; simp [upd, hv]⟩

/-- **Exactness of a solo roll from quiescence**, at every moment of the run; `Garr.Props.C10Fine.solo_roll_exact`
states it with the assertions written out -/
theorem solo_exact {cfg : Cfg} (h0 : 0 ≤ cfg.interval) {t0 : Int} (c : Config (M cfg t0)) (hc : Reach (M cfg t0) c)
    (hq : ∀ u, (c.l u).w = .idle) (tid : Tid) (succ : Bool) (t : Int)
    (rest : List (Tid × (M cfg t0).Act)) (hrest : ∀ e ∈ rest, e.1 = tid ∧ (e.2 = Act.b ∨ e.2 = Act.q)) :
    let c' := (run (M cfg t0) c ((tid, Act.call succ) :: (tid, Act.tick t) :: rest)).1
    let A := fun k => cntAdds k (t - cfg.window) c.g.w.log
    (∀ u, u ≠ tid → c'.l u = c.l u) ∧
    Exact cfg c.g c'.g tid t ∧
    (∀ e, (c'.l tid).w = .store e → e = (A true, A false) ∧ Trimmed cfg c'.g t) ∧
    ((c'.l tid).w = .idle → NoRoll c.g c'.g tid ∨ (c'.g.w.snap = (A true, A false) ∧ Trimmed cfg c'.g t)) := by
  intro c' A
  obtain ⟨hb, hf, hm⟩ := reach_mono h0 c hc
  have hw := hq tid
  have s1 : (M cfg t0).step tid c.g (c.l tid) (Act.call succ) = some (c.g, { c.l tid with w := .tick succ }, [Obs.call succ]) := by
    show step cfg tid c.g (c.l tid) (Act.call succ) = _
    simp [step, hw]
  let c1 : Config (M cfg t0) := ⟨c.g, upd c.l tid { c.l tid with w := .tick succ }⟩
  have hc1 : Reach (M cfg t0) c1 := Reach.step hc s1
  have s2 : (M cfg t0).step tid c1.g (c1.l tid) (Act.tick t) = some (c.g, { c.l tid with w := .ldCur succ t }, []) := by
    show step cfg tid c.g (upd c.l tid _ tid) (Act.tick t) = _
    simp [step]
  let c2 : Config (M cfg t0) := ⟨c.g, upd c1.l tid { c.l tid with w := .ldCur succ t }⟩
  have hc2 : Reach (M cfg t0) c2 := Reach.step hc1 s2
  have hrun : c' = (run (M cfg t0) c2 rest).1 := by
    show (run (M cfg t0) c _).1 = _
    rw [run_cons_some s1]
    show (run (M cfg t0) c1 _).1 = _
    rw [run_cons_some s2]
  have hoth2 : ∀ u, u ≠ tid → (c2.l u).w = .idle := fun u hu => by
    show (upd (upd c.l tid _) tid _ u).w = _
    simp [upd, hu, hq u]
  have hP2 : SoloPc cfg c.g tid t c2.g (c2.l tid) := by
    refine ⟨⟨[], (List.append_nil _).symm, fun _ _ _ _ _ hm => (List.not_mem_nil hm).elim⟩, ?_⟩
    show SoloAt cfg c.g tid t c.g (upd (upd c.l tid _) tid _ tid)
    simp [SoloAt]
  obtain ⟨k1, k2⟩ := solo_rest h0 (g0 := c.g) (fun k => hf.cnt.sum k _) rest hrest c2 hc2 hoth2 hP2
  rw [← hrun] at k1 k2
  refine ⟨fun u hu => ?_, k1.exact, fun e he => ?_, fun he => ?_⟩
  · rw [k2 u hu]; show upd (upd c.l tid _) tid _ u = _; simp [upd, hu]
  · have := k1.pc; simp only [SoloAt, he] at this; exact ⟨this.2, this.1⟩
  · have := k1.pc; simp only [SoloAt, he] at this
    exact this.elim Or.inl (fun h => Or.inr ⟨h.2, h.1⟩)

end Garr.Breaker.Fine
