import Garr.Breaker.FineLog
/-!
# Full-stack window counter: the bucket swapped out by the CAS winner is offered by that winner

`SwapInv`: for every `swapped b _` entry of thread `tid`, either `tid` is still inside its `Offer(b)` before the linking
CAS (it holds `b`; nobody else does, `b` is not in the reservoir: `Own`), or `tid` has linked `b`.
-/
namespace Garr.Breaker.Fine
open Garr Garr.Conc

def SwapInv (g : G) (ls : Tid → L) : Prop :=
  ∀ tid b nw, (tid, Ev.swapped b nw) ∈ g.w.log →
    (∃ t, (ls tid).w = .winOffer t b ∧ held (ls tid) = some b) ∨ ∃ pos, (tid, Ev.linked b pos) ∈ g.w.log

theorem winner_step {cfg : Cfg} {tid : Tid} {g g' : G} {l l' : L} {t : Int} {b : Nat} (hwf : Wf l)
    (hw : l.w = .winOffer t b) (hh : held l = some b) (he : Eff cfg tid g l g' l') :
    (l'.w = .winOffer t b ∧ held l' = some b) ∨ ∃ pos, (tid, Ev.linked b pos) ∈ g'.w.log := by
  have hin : InOffer b l.q := hwf.offer (.inr (.inr ⟨_, hw⟩))
  have hh' : offVal l.q = some b := by simpa [held, hw] using hh
  induction he
  case offerCont b' gq1 ql1 o hw' hs hne =>
    have hb : b' = b := by rcases hw' with h | h | ⟨t', h⟩ <;> cases hw.symm.trans h; rfl
    subst hb
    rcases offer_tau hin hs with ⟨_, h2, _, _⟩ | ⟨_, _, _, h4⟩ | ⟨h1, _⟩
    · exact Or.inl ⟨hw, by simp only [held, hw, h2]⟩
    · exact Or.inr ⟨g.q.n, by simp [linkedEv, h4]⟩
    · rw [h1] at hh'; cases hh'
  case winRet t' b' gq1 o hw' hs =>
    cases hw.symm.trans hw'
    rcases offer_tau hin hs with ⟨_, h2, _, _⟩ | ⟨_, _, _, h4⟩ | ⟨h1, _⟩
    · cases h2
    · exact Or.inr ⟨g.q.n, by simp [linkedEv, h4]⟩
    · rw [h1] at hh'; cases hh'
  case offerRet hw' _ => rcases hw' with h | h <;> cases hw.symm.trans h
  -- the other micro-steps start at other pcs
  all_goals cases hw.symm.trans ‹l.w = _›

theorem leff_swapped {cfg : Cfg} {tid : Tid} {g g' : G} {l l' : L} (he : LEff cfg tid g l g' l') {u : Tid} {b nw : Nat}
    (hm : (u, Ev.swapped b nw) ∈ g'.w.log) :
    (u, Ev.swapped b nw) ∈ g.w.log ∨ (u = tid ∧ ∃ t, l' = ⟨.winOffer t b, .o0 b⟩) := by
  induction he with
  | quiet es a b' c =>
    refine Or.inl (mem_old hm a fun e he h => ?_)
    obtain ⟨e', he', rfl⟩ := List.mem_map.1 he
    cases h
    cases b' _ he'
  | swap t old' nw' hcur a b' c =>
    rcases List.mem_append.1 (a ▸ hm) with h | h
    · exact Or.inl h
    · cases List.mem_singleton.1 h; exact Or.inr ⟨rfl, t, c⟩
  | link b' es' hh a hes hn hvn hv hln hlv =>
    refine Or.inl (mem_old hm a ?_)
    rcases hes with rfl | ⟨t, rfl⟩
    · exact forall_mem_one nofun
    · exact List.forall_mem_cons.2 ⟨nofun, forall_mem_one nofun⟩
  | kill r b' it k hw hq a c =>
    refine Or.inl (mem_old hm c ?_)
    split
    · exact forall_mem_one nofun
    · exact forall_mem_nil
  | start _ a | cntS _ _ _ a | cntF _ _ _ a | roll _ _ _ _ _ a => exact Or.inl (mem_old hm a (forall_mem_one nofun))

theorem swap_pres {cfg : Cfg} {tid : Tid} {g g' : G} {ls : Tid → L} {l' : L} (hb : Base g ls) (hf : Full cfg g ls)
    (hs : SwapInv g ls) (he : Eff cfg tid g (ls tid) g' l') : SwapInv g' (upd ls tid l') := by
  have hg := eff_guar hb hf.own hf.cnt he
  obtain ⟨es, hlog⟩ := hg.log
  intro u b nw hm
  rcases leff_swapped (eff_leff hb he) hm with h | ⟨rfl, t, rfl⟩
  · rcases hs u b nw h with ⟨t, h1, h2⟩ | ⟨pos, h1⟩
    · by_cases hu : u = tid
      · subst hu
        rcases winner_step (hb.wf u) h1 h2 he with ⟨k1, k2⟩ | k
        · exact Or.inl ⟨t, by simpa using k1, by simpa using k2⟩
        · exact Or.inr k
      · exact Or.inl ⟨t, by simpa [upd, hu] using h1, by simpa [upd, hu] using h2⟩
    · exact Or.inr ⟨pos, by rw [hlog]; exact List.mem_append_left _ h1⟩
  · exact Or.inl ⟨t, by simp, by simp [held, offVal]⟩

end Garr.Breaker.Fine
