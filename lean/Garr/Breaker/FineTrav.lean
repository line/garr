import Garr.Breaker.FineCount
/-!
# Full-stack window counter: the guarantee of every micro-step; invariants of the traversal `trimAndSum`
-/
namespace Garr.Breaker.Fine
open Garr Garr.Conc

/-- what every micro-step guarantees to the other threads -/
structure Guar (g g' : G) : Prop where
  nb : g.w.nb ≤ g'.w.nb
  ts : ∀ b, b < g.w.nb → g'.w.ts b = g.w.ts b
  sel : ∀ k b, b < g.w.nb → g.w.sel k b ≤ g'.w.sel k b
  log : ∃ es, g'.w.log = g.w.log ++ es
  n : g.q.n ≤ g'.q.n
  val : ∀ p, p < g.q.n → g'.q.val p = g.q.val p
  live : ∀ p, p < g.q.n → g.q.live p = false → g'.q.live p = false

theorem eff_q {cfg : Cfg} {tid : Tid} {g g' : G} {l l' : L} (he : Eff cfg tid g l g' l') :
    g'.q = g.q ∨ ∃ ql1 o, Queue.step tid g.q l.q .tau = some (g'.q, ql1, o) := by
  induction he
  case offerCont hs _ | offerRet hs | winRet hs | mkIterCont hs _ | mkIterRet hs | nextCont hs _ | nextRemove hs _ _ |
      nextKeep hs _ _ | removeRet hs =>
    exact Or.inr ⟨_, _, hs⟩
  all_goals exact Or.inl rfl

theorem eff_guar {cfg : Cfg} {tid : Tid} {g g' : G} {ls : Tid → L} {l' : L} (hb : Base g ls) (ho : Own g ls)
    (hc : Cnt g ls) (he : Eff cfg tid g (ls tid) g' l') : Guar g g' := by
  have hq : g.q.n ≤ g'.q.n ∧ (∀ p, p < g.q.n → g'.q.val p = g.q.val p) ∧
      (∀ p, p < g.q.n → g.q.live p = false → g'.q.live p = false) := by
    rcases eff_q he with h | ⟨ql1, o, hs⟩
    · rw [h]; exact ⟨Nat.le_refl _, fun _ _ => rfl, fun _ _ h => h⟩
    · exact ⟨Queue.n_mono_step hs, Queue.val_stable hs, Queue.live_only_dies hb.ginv (hb.linv tid) hs⟩
  obtain ⟨q1, q2, q3⟩ := hq
  cases eff_cnt ho (hc.refs tid) he with
  | quiet es a b c d e f h =>
    exact ⟨Nat.le_of_eq a.symm, fun x _ => by rw [b], fun k x _ => by simp only [W.sel, c, d, Nat.le_refl], ⟨_, e⟩, q1, q2, q3⟩
  | alloc t a h =>
    refine ⟨by rw [a]; exact Nat.le_succ _, fun x hx => ?_, fun k x hx => ?_, ⟨[], by rw [a]; exact (List.append_nil _).symm⟩,
      q1, q2, q3⟩
    · rw [a]; exact if_neg (Nat.ne_of_lt hx)
    · rw [a, sel_alloc, if_neg (Nat.ne_of_lt hx)]; exact Nat.le_refl _
  | add t s b hb' a h =>
    refine ⟨by rw [a]; simp [addTo_nb], fun x _ => by rw [a]; simp [addTo_ts], fun k x _ => ?_,
      ⟨_, by rw [a]; simp [addTo_log]; rfl⟩, q1, q2, q3⟩
    have : g'.w.sel k x = (g.w.addTo b s).sel k x := by rw [a]; rfl
    rw [this, sel_addTo]; exact Nat.le_add_right _ _


def sumK (w : W) (k : Bool) (kl : List Nat) : Nat := (kl.map (w.sel k)).sum

@[simp] theorem sumK_nil (w : W) (k : Bool) : sumK w k [] = 0 := rfl
@[simp] theorem sumK_cons (w : W) (k : Bool) (b : Nat) (kl : List Nat) : sumK w k (b :: kl) = w.sel k b + sumK w k kl := by
  simp [sumK]

theorem sumK_mono {w w' : W} {k : Bool} {kl : List Nat} (h : ∀ b ∈ kl, w.sel k b ≤ w'.sel k b) :
    sumK w k kl ≤ sumK w' k kl := by
  induction kl with
  | nil => simp
  | cons b kl ih =>
    simp only [sumK_cons]
    have := h b (List.mem_cons_self ..)
    have := ih (fun x hx => h x (List.mem_cons_of_mem _ hx))
    omega

/-- what a traversal with locals `r` and queue pc `ql` has established: the kept buckets are distinct nodes of the
reservoir, inside the window, at positions the iterator has returned; every node that was there when `Iterator()` was
invoked and is still live has been kept, or is still ahead of the iterator, or is the one being removed right now -/
structure TrK (cfg : Cfg) (tid : Tid) (g : G) (r : Tr) (ql : Queue.L) : Prop where
  n0 : r.n0 ≤ g.q.n
  nodup : r.kl.Nodup
  kept : ∀ b ∈ r.kl, r.t - cfg.window ≤ g.w.ts b ∧ ∃ p, 1 ≤ p ∧ p < g.q.n ∧ g.q.val p = b ∧ Queue.Below p ql
  compl : ∀ p, 1 ≤ p → p < r.n0 → g.q.live p = true →
    g.q.val p ∈ r.kl ∨ Queue.Ahead p ql ∨ ∃ it, ql = .r0 it p
  started : (tid, Ev.iterStart r.t r.n0) ∈ g.w.log

/-- the partial sums are at most the counters of the buckets `kS`, `kF`; two lists, since at `rdF` the bucket being
read is in the success sum already and in the failure sum not yet -/
def Sums (w : W) (r : Tr) (kS kF : List Nat) : Prop := r.s ≤ sumK w true kS ∧ r.f ≤ sumK w false kF

def TravOK (cfg : Cfg) (tid : Tid) (g : G) (l : L) : Prop :=
  match l.w with
  | .mkIter t n0 => n0 ≤ g.q.n ∧ (∀ p, 1 ≤ p → p < n0 → g.q.live p = true → Queue.Ahead p l.q) ∧
      (tid, Ev.iterStart t n0) ∈ g.w.log
  | .head r => TrK cfg tid g r l.q ∧ Sums g.w r r.kl r.kl
  | .next r => TrK cfg tid g r l.q ∧ Sums g.w r r.kl r.kl
  | .remove r b => TrK cfg tid g r l.q ∧ Sums g.w r r.kl r.kl ∧
      (∃ it k, l.q = .r0 it k ∧ g.q.val k = b ∧ 1 ≤ k) ∧ g.w.ts b < r.t - cfg.window
  | .rdS r b => TrK cfg tid g r l.q ∧ ∃ kl', r.kl = b :: kl' ∧ Sums g.w r kl' kl'
  | .rdF r b => TrK cfg tid g r l.q ∧ ∃ kl', r.kl = b :: kl' ∧ Sums g.w r r.kl kl'
  | _ => True

theorem TrK.transfer {cfg : Cfg} {tid : Tid} {g g' : G} {r : Tr} {ql ql' : Queue.L} (h : TrK cfg tid g r ql)
    (hn : g.q.n ≤ g'.q.n) (hval : ∀ p, p < g.q.n → g'.q.val p = g.q.val p)
    (hlive : ∀ p, p < g.q.n → g'.q.live p = true → g.q.live p = true)
    (hts : ∀ b ∈ r.kl, g'.w.ts b = g.w.ts b) (hlog : ∀ e ∈ g.w.log, e ∈ g'.w.log)
    (hB : ∀ x, Queue.Below x ql → Queue.Below x ql')
    (hA : ∀ p, 1 ≤ p → p < r.n0 → g'.q.live p = true → (Queue.Ahead p ql ∨ ∃ it, ql = .r0 it p) →
      g.q.val p ∈ r.kl ∨ Queue.Ahead p ql' ∨ ∃ it, ql' = .r0 it p) : TrK cfg tid g' r ql' := by
  obtain ⟨h1, h2, h3, h4, h5⟩ := h
  refine ⟨by omega, h2, ?_, ?_, hlog _ h5⟩
  · intro b hb
    obtain ⟨a, p, p1, p2, p3, p4⟩ := h3 b hb
    exact ⟨by rw [hts b hb]; exact a, p, p1, by omega, by rw [hval p p2]; exact p3, hB p p4⟩
  · intro p p1 p2 p3
    have hp : p < g.q.n := by omega
    rw [hval p hp]
    rcases h4 p p1 p2 (hlive p hp p3) with h | h | h
    · exact Or.inl h
    · exact hA p p1 p2 p3 (Or.inl h)
    · exact hA p p1 p2 p3 (Or.inr h)

theorem Sums.mono {w w' : W} {r : Tr} {kS kF : List Nat} (h : Sums w r kS kF)
    (hS : ∀ b ∈ kS, w.sel true b ≤ w'.sel true b) (hF : ∀ b ∈ kF, w.sel false b ≤ w'.sel false b) : Sums w' r kS kF :=
  ⟨Nat.le_trans h.1 (sumK_mono hS), Nat.le_trans h.2 (sumK_mono hF)⟩

theorem TrK.kl_lt {cfg : Cfg} {tid : Tid} {g : G} {ls : Tid → L} {r : Tr} {ql : Queue.L} (h : TrK cfg tid g r ql)
    (ho : Own g ls) : ∀ b ∈ r.kl, b < g.w.nb := by
  intro b hb
  obtain ⟨_, p, p1, p2, p3, _⟩ := h.kept b hb
  rw [← p3]; exact (ho.res_lt p p1 p2).1

theorem travOK_stable {cfg : Cfg} {tid : Tid} {g g' : G} {ls : Tid → L} {l : L} (ho : Own g ls)
    (hL : Queue.LInv g.q l.q) (hg : Guar g g') (h : TravOK cfg tid g l) : TravOK cfg tid g' l := by
  obtain ⟨g1, g2, g3, ⟨es, g4⟩, g5, g6, g7⟩ := hg
  have hlog : ∀ e ∈ g.w.log, e ∈ g'.w.log := fun e he => by rw [g4]; exact List.mem_append_left _ he
  have hlive : ∀ p, p < g.q.n → g'.q.live p = true → g.q.live p = true := by
    intro p hp hl
    cases e : g.q.live p with
    | true => rfl
    | false => rw [g7 p hp e] at hl; contradiction
  have htr : ∀ {r : Tr}, TrK cfg tid g r l.q → TrK cfg tid g' r l.q := by
    intro r hk
    exact hk.transfer g5 g6 hlive (fun b hb => g2 b (hk.kl_lt ho b hb)) hlog (fun _ h => h)
      (fun p _ _ _ h => Or.inr h)
  have hsum : ∀ {r : Tr} {kS kF : List Nat}, TrK cfg tid g r l.q → (∀ b ∈ kS, b ∈ r.kl) → (∀ b ∈ kF, b ∈ r.kl) →
      Sums g.w r kS kF → Sums g'.w r kS kF := by
    intro r kS kF hk h1 h2 hs
    exact hs.mono (fun b hb => g3 true b (hk.kl_lt ho b (h1 b hb))) (fun b hb => g3 false b (hk.kl_lt ho b (h2 b hb)))
  unfold TravOK at h ⊢
  split
  · rename_i t n0 hw
    simp only [hw] at h
    obtain ⟨a, b, c⟩ := h
    exact ⟨by omega, fun p p1 p2 p3 => b p p1 p2 (hlive p (by omega) p3), hlog _ c⟩
  iterate 2
    · rename_i r hw; simp only [hw] at h
      exact ⟨htr h.1, hsum h.1 (fun _ h => h) (fun _ h => h) h.2⟩
  · rename_i r b hw; simp only [hw] at h
    obtain ⟨a, b', ⟨it, k, hq, e1, e2⟩, d⟩ := h
    have hk : k < g.q.n := by rw [hq] at hL; exact hL.1
    refine ⟨htr a, hsum a (fun _ h => h) (fun _ h => h) b', ⟨it, k, hq, by rw [g6 k hk]; exact e1, e2⟩, ?_⟩
    rw [g2 b (by rw [← e1]; exact (ho.res_lt k e2 hk).1)]; exact d
  · rename_i r b hw; simp only [hw] at h
    obtain ⟨a, kl', e, c⟩ := h
    exact ⟨htr a, kl', e, hsum a (fun x hx => by rw [e]; exact List.mem_cons_of_mem _ hx)
      (fun x hx => by rw [e]; exact List.mem_cons_of_mem _ hx) c⟩
  · rename_i r b hw; simp only [hw] at h
    obtain ⟨a, kl', e, c⟩ := h
    exact ⟨htr a, kl', e, hsum a (fun _ h => h) (fun x hx => by rw [e]; exact List.mem_cons_of_mem _ hx) c⟩
  · trivial


theorem TrK.congr {cfg : Cfg} {tid : Tid} {g : G} {r r' : Tr} {ql : Queue.L} (h : TrK cfg tid g r ql)
    (h1 : r'.t = r.t) (h2 : r'.n0 = r.n0) (h3 : r'.kl = r.kl) : TrK cfg tid g r' ql := by
  obtain ⟨a, b, c, d, e⟩ := h
  exact ⟨by rw [h2]; exact a, by rw [h3]; exact b, by rw [h3, h1]; exact c, by rw [h3, h2]; exact d,
    by rw [h1, h2]; exact e⟩

theorem mem_itPos {o : List Queue.Obs} {k : Nat} (h : k ∈ o.filterMap Queue.Obs.itPos) : ∃ v, Queue.Obs.itNext k v ∈ o := by
  obtain ⟨x, hx, e⟩ := List.mem_filterMap.1 h
  cases x <;> simp [Queue.Obs.itPos] at e
  subst e; exact ⟨_, hx⟩

theorem TrK.read {cfg : Cfg} {tid : Tid} {g : G} {r r' : Tr} {ql : Queue.L} (h : TrK cfg tid g r ql) (es : List Ev)
    (h1 : r'.t = r.t) (h2 : r'.n0 = r.n0) (h3 : r'.kl = r.kl) : TrK cfg tid ⟨g.w.emit tid es, g.q⟩ r' ql :=
  (h.transfer (g' := ⟨g.w.emit tid es, g.q⟩) (Nat.le_refl _) (fun _ _ => rfl) (fun _ _ h => h) (fun _ _ => rfl)
    (fun _ he => List.mem_append_left _ he) (fun _ h => h) (fun _ _ _ _ h => Or.inr h)).congr h1 h2 h3

theorem sumK_read (w : W) (tid : Tid) (es : List Ev) (k : Bool) (b : Nat) (kl' : List Nat) {x : Nat}
    (h : x ≤ sumK w k kl') : x + w.sel k b ≤ sumK (w.emit tid es) k (b :: kl') := by
  rw [sumK_cons, Nat.add_comm]; exact Nat.add_le_add_left h _

theorem TrK.trav {cfg : Cfg} {tid : Tid} {g : G} {r : Tr} {ql ql1 : Queue.L} {gq1 : Queue.G} (h : TrK cfg tid g r ql)
    (hsame : QSame g.q gq1) (hB : ∀ x, Queue.Below x ql → Queue.Below x ql1)
    (hA : ∀ p, 1 ≤ p → p < r.n0 → g.q.live p = true → (Queue.Ahead p ql ∨ ∃ it, ql = .r0 it p) →
      g.q.val p ∈ r.kl ∨ Queue.Ahead p ql1 ∨ ∃ it, ql1 = .r0 it p) : TrK cfg tid ⟨g.w, gq1⟩ r ql1 :=
  h.transfer (Nat.le_of_eq hsame.1.symm) (fun _ _ => by rw [hsame.2.1])
    (fun p _ h => by rw [← live_of_same hsame]; exact h) (fun _ _ => rfl) (fun _ h => h) hB
    (fun p p1 p2 p3 => hA p p1 p2 (by rw [← live_of_same hsame]; exact p3))

theorem ahead_next {tid : Tid} {gq gq1 : Queue.G} {ql ql1 : Queue.L} {o : List Queue.Obs} {k : Nat}
    (hG : Queue.GInv gq) (hL : Queue.LInv gq ql) (hI : Queue.IterInv gq ql) (hin : inNext ql = true)
    (hs : Queue.step tid gq ql .tau = some (gq1, ql1, o)) (hk : k < gq.n) (hlive : gq.live k = true)
    (hA : Queue.Ahead k ql ∨ ∃ it, ql = .r0 it k) : k ∈ o.filterMap Queue.Obs.itPos ∨ Queue.Ahead k ql1 := by
  rcases hA with hA | ⟨it, hA⟩
  · exact Queue.ahead_step hG hL hI hs hk hlive hA
  · rw [hA] at hin; cases hin

theorem next_returns {tid : Tid} {gq gq1 : Queue.G} {ql : Queue.L} {it : Queue.Iter} {o : List Queue.Obs} {pos b : Nat}
    (hG : Queue.GInv gq) (hL : Queue.LInv gq ql) (hI : Queue.IterInv gq ql)
    (hs : Queue.step tid gq ql .tau = some (gq1, .idleIt it, .itNext pos b :: o)) :
    gq1 = gq ∧ 1 ≤ pos ∧ pos < gq.n ∧ gq.val pos = b ∧ (∀ x, Queue.Below x ql → x < pos) ∧ it.prev = some pos := by
  obtain ⟨e, _, it0, it', hio, hl', _, _, hpos0, hposn, hbv, hprev, hprev', _⟩ :=
    Queue.itNext_step hG hL hI hs (List.mem_cons_self ..)
  cases hl'
  refine ⟨e, hpos0, hposn, hbv.symm, fun x hx => ?_, hprev'⟩
  obtain ⟨r', hr1, hr2⟩ := Queue.Below_iterOf hio hx
  exact Nat.lt_of_le_of_lt hr2 (hprev r' hr1)

theorem travOK_eff {cfg : Cfg} {tid : Tid} {g g' : G} {ls : Tid → L} {l' : L} (hb : Base g ls) (ho : Own g ls)
    (h : TravOK cfg tid g (ls tid)) (he : Eff cfg tid g (ls tid) g' l') : TravOK cfg tid g' l' := by
  have hwf := hb.wf tid
  have hG := hb.ginv
  have hL := hb.linv tid
  have hI := hb.iinv tid
  induction he
  case offerCont hw hs hne => rcases hw with hw | hw | ⟨t, hw⟩ <;> simp only [TravOK, hw]
  case winRet => exact ⟨Nat.le_refl _, fun _ _ _ _ => trivial, by simp⟩
  case mkIterCont t n0 gq1 ql1 o hw hs hni =>
    have hin := hwf.mkIter hw
    have hsame := trav_tau_same hL (Or.inl hin) hs
    simp only [TravOK, hw] at h ⊢
    obtain ⟨a, b, c⟩ := h
    refine ⟨by rw [hsame.1]; exact a, fun p p1 p2 p3 => ?_, c⟩
    rw [live_of_same hsame] at p3
    rcases Queue.ahead_step hG hL hI hs (Nat.lt_of_lt_of_le p2 a) p3 (b p p1 p2 p3) with h | h
    · rw [(mkIter_tau hin hs).2] at h; cases h
    · exact h
  case mkIterRet t n0 gq1 it o hw hs =>
    have hin := hwf.mkIter hw
    have hsame := trav_tau_same hL (Or.inl hin) hs
    simp only [TravOK, hw] at h ⊢
    obtain ⟨a, b, c⟩ := h
    refine ⟨⟨by rw [hsame.1]; exact a, List.nodup_nil, fun _ hb => (by cases hb), fun p p1 p2 p3 => ?_, c⟩,
      Nat.le_refl _, Nat.le_refl _⟩
    have p2 : p < n0 := p2
    rw [live_of_same hsame] at p3
    rcases Queue.ahead_step hG hL hI hs (Nat.lt_of_lt_of_le p2 a) p3 (b p p1 p2 p3) with h | h
    · rw [(mkIter_tau hin hs).2] at h; cases h
    · exact Or.inr (Or.inl h)
  case headNext r it p hw hq hp =>
    simp only [TravOK, hw] at h ⊢
    refine ⟨h.1.trav (.rfl' _) (fun x hx => by rw [hq] at hx; exact hx) (fun k _ _ _ hk => ?_), h.2⟩
    rw [hq] at hk
    rcases hk with hk | ⟨it', hk⟩
    · exact Or.inr (Or.inl hk)
    · cases hk
  case nextCont r gq1 ql1 o hw hs hni =>
    have hin := hwf.next hw
    -- a step that emits `itNext` is the return of `Next()`
    have hno : ∀ pos v, Queue.Obs.itNext pos v ∉ o := fun pos v hm => by
      obtain ⟨_, _, _, _, _, e, _⟩ := Queue.itNext_step hG hL hI hs hm
      rw [e] at hni; cases hni
    simp only [TravOK, hw] at h ⊢
    refine ⟨h.1.trav (trav_tau_same hL (Or.inr hin) hs) (fun x hx => Queue.below_step hs (by decide) hno hx)
      (fun k k1 k2 k3 hk => ?_), h.2⟩
    rcases ahead_next hG hL hI hin hs (Nat.lt_of_lt_of_le k2 h.1.n0) k3 hk with h' | h'
    · obtain ⟨v, hv⟩ := mem_itPos h'; exact absurd hv (hno _ _)
    · exact Or.inr (Or.inl h')
  case nextRemove r gq1 it pos b hw hs hlt hlr =>
    have hin := hwf.next hw
    obtain ⟨rfl, hpos0, hposn, hbv, hbelow, hprev⟩ := next_returns hG hL hI hs
    simp only [TravOK, hw] at h ⊢
    refine ⟨h.1.trav (.rfl' _) (fun x hx => ⟨pos, hprev, Nat.le_of_lt (hbelow x hx)⟩) (fun k k1 k2 k3 hk => ?_), h.2,
      ⟨_, _, rfl, hbv, hpos0⟩, hlt⟩
    rcases ahead_next hG hL hI hin hs (Nat.lt_of_lt_of_le k2 h.1.n0) k3 hk with h' | h'
    · cases List.mem_singleton.1 h'; exact Or.inr (Or.inr ⟨_, rfl⟩)
    · exact Or.inr (Or.inl h')
  case nextKeep r gq1 it pos b hw hs hlt hlr =>
    have hin := hwf.next hw
    obtain ⟨rfl, hpos0, hposn, hbv, hbelow, hprev⟩ := next_returns hG hL hI hs
    simp only [TravOK, hw] at h ⊢
    obtain ⟨⟨k1, k2, k3, k4, k5⟩, hsum⟩ := h
    refine ⟨⟨k1, ?_, ?_, ?_, k5⟩, r.kl, rfl, hsum⟩
    · -- the new bucket is not among the kept ones: those sit at positions before `pos`
      refine List.nodup_cons.2 ⟨fun hmem => ?_, k2⟩
      obtain ⟨_, p, p1, p2, p3, p4⟩ := k3 b hmem
      have := ho.res_inj p pos p1 p2 hpos0 hposn (by rw [p3, hbv])
      exact Nat.ne_of_lt (hbelow p p4) this
    · intro x hx
      rcases List.mem_cons.1 hx with rfl | hx
      · exact ⟨Int.not_lt.1 hlt, pos, hpos0, hposn, hbv, ⟨pos, hprev, Nat.le_refl _⟩⟩
      · obtain ⟨a, p, p1, p2, p3, p4⟩ := k3 x hx
        exact ⟨a, p, p1, p2, p3, ⟨pos, hprev, Nat.le_of_lt (hbelow p p4)⟩⟩
    · intro k kk1 kk2 kk3
      have kk2 : k < r.n0 := kk2
      rcases k4 k kk1 kk2 kk3 with hk | hk
      · exact Or.inl (List.mem_cons_of_mem _ hk)
      · rcases ahead_next hG hL hI hin hs (Nat.lt_of_lt_of_le kk2 k1) kk3 hk with h' | h'
        · cases List.mem_singleton.1 h'; rw [hbv]; exact Or.inl (List.mem_cons_self ..)
        · exact Or.inr (Or.inl h')
  case removeRet r b gq1 it o hw hs =>
    obtain ⟨it0, k, hq, rfl, hq1, _⟩ := remove_tau (hwf.remove hw) hs
    cases hq1
    simp only [TravOK, hw] at h ⊢
    obtain ⟨hk, hsum, _, _⟩ := h
    refine ⟨hk.transfer (Nat.le_refl _) (fun _ _ => rfl) ?_ (fun _ _ => rfl)
      (fun e he => by simp only [emit_log]; exact List.mem_append_left _ he) ?_ ?_, hsum⟩
    · intro p _ hp
      simp only [Queue.kill] at hp
      split at hp
      · contradiction
      · exact hp
    · intro x hx; rw [hq] at hx; exact hx
    · intro p _ _ p3 hp
      rw [hq] at hp
      rcases hp with hp | ⟨it', hp⟩
      · exact Or.inr (Or.inl hp)
      · cases hp
        simp [Queue.kill] at p3
  case rdS r b hw =>
    simp only [TravOK, hw] at h ⊢
    obtain ⟨hk, kl', e, hs1, hs2⟩ := h
    exact ⟨hk.read _ rfl rfl rfl, kl', e, by rw [e]; exact sumK_read g.w tid _ true b kl' hs1, hs2⟩
  case rdF r b hw =>
    simp only [TravOK, hw] at h ⊢
    obtain ⟨hk, kl', e, hs1, hs2⟩ := h
    exact ⟨hk.read _ rfl rfl rfl, hs1, by rw [e]; exact sumK_read g.w tid _ false b kl' hs2⟩
  -- the other steps end outside `trimAndSum`
  all_goals exact trivial

end Garr.Breaker.Fine
