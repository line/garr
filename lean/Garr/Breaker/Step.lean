import Garr.Breaker.Conc
/-!
# The step function of the concurrent circuit breaker as a relation

`StepR` has one constructor per branch of `Garr.Breaker.step`, each giving the new shared state, the new local
state and the observations in full; `step_sound` : every enabled step is a `StepR` step.  Everything that is proved
of a step (`Garr/Breaker/ConcInv.lean` for the breaker layer, `Garr/Breaker/WindowInv.lean` for the window layer)
is read off `StepR` by `cases`.
-/
namespace Garr.Breaker
open Garr Garr.Conc

inductive StepR (cfg : Config) (g : CG) : L → Act → CG → L → List Obs → Prop
  | call (c : Call) : StepR cfg g .idle (.call c) g (.b0 c) []
  | b0ClosedCan : (g.obj g.cur).kind = .closed →
      StepR cfg g (.b0 .can) .tau g .idle [.ret (some true)]
  | b0ClosedRep (c : Call) : (g.obj g.cur).kind = .closed → c ≠ .can →
      StepR cfg g (.b0 c) .tau g (.w0 c g.cur (g.obj g.cur).win) []
  | b0TimedCan : (g.obj g.cur).kind ≠ .closed → (g.obj g.cur).dur > 0 →
      StepR cfg g (.b0 .can) .tau g (.c1 g.cur) []
  | b0TimedRej : (g.obj g.cur).kind ≠ .closed → ¬ (g.obj g.cur).dur > 0 →
      StepR cfg g (.b0 .can) .tau g .idle [.cbRejected, .ret (some false)]
  | b0OpenRep (c : Call) : (g.obj g.cur).kind = .opn → c ≠ .can →
      StepR cfg g (.b0 c) .tau g .idle [.ret none]
  | b0HalfRep (c : Call) : (g.obj g.cur).kind = .half → c ≠ .can →
      StepR cfg g (.b0 c) .tau g (.h1 c g.cur) []
  | c1Pass (o : Nat) (t1 : Int) : (g.obj o).timeout ≤ t1 →
      StepR cfg g (.c1 o) (.tick t1) g (.c2 o t1) []
  | c1Rej (o : Nat) (t1 : Int) : t1 < (g.obj o).timeout →
      StepR cfg g (.c1 o) (.tick t1) g .idle [.cbRejected, .ret (some false)]
  | c2 (o : Nat) (t1 t2 : Int) : StepR cfg g (.c2 o t1) (.tick t2) g (.c3 o t1 t2) []
  | c3Win (o : Nat) (t1 t2 : Int) : g.cur = o →
      StepR cfg g (.c3 o t1 t2) .tau (publish g o ⟨.half, wrap64 (t2 + cfg.trial), cfg.trial, 0⟩) .idle
        [.transition o .half, .admitted o t1, .cbState .half, .ret (some true)]
  | c3Lose (o : Nat) (t1 t2 : Int) : g.cur ≠ o →
      StepR cfg g (.c3 o t1 t2) .tau g .idle [.cbRejected, .ret (some false)]
  | w0 (c : Call) (o w : Nat) (t : Int) : StepR cfg g (.w0 c o w) (.tick t) g (.w1 c o w t) []
  | w1Back (c : Call) (o w : Nat) (t : Int) : t < (g.bucket (g.win w).cur).ts →
      StepR cfg g (.w1 c o w t) .tau
        { g with buckets := g.buckets ++ [mkBucket t (decide (c = .succ))],
                 wins := setAt g.wins w { g.win w with res := (g.win w).res ++ [g.buckets.length] } }
        .idle [.recorded w t (decide (c = .succ)), .ret none]
  | w1Add (c : Call) (o w : Nat) (t : Int) : ¬ t < (g.bucket (g.win w).cur).ts →
      t < wrap64 ((g.bucket (g.win w).cur).ts + cfg.interval) →
      StepR cfg g (.w1 c o w t) .tau
        { g with buckets := setAt g.buckets (g.win w).cur ((g.bucket (g.win w).cur).add (decide (c = .succ))) }
        .idle [.recorded w (g.bucket (g.win w).cur).ts (decide (c = .succ)), .ret none]
  | w1Next (c : Call) (o w : Nat) (t : Int) : ¬ t < (g.bucket (g.win w).cur).ts →
      ¬ t < wrap64 ((g.bucket (g.win w).cur).ts + cfg.interval) →
      StepR cfg g (.w1 c o w t) .tau g (.w2 c o w t (g.win w).cur) []
  | w2Win (c : Call) (o w : Nat) (t : Int) (g1 : CG) (kept : List Nat) :
      g1 = { g with buckets := g.buckets ++ [mkBucket t (decide (c = .succ))] } →
      kept = trimIds g1 (wrap64 (t - cfg.window)) ((g.win w).res ++ [(g.win w).cur]) →
      StepR cfg g (.w2 c o w t (g.win w).cur) .tau
        { g with buckets := g1.buckets, wins := setAt g.wins w { g.win w with cur := g.buckets.length, res := kept } }
        (.w3 c o w (sumIdsS g1 kept, sumIdsF g1 kept))
        [.rolled w t (sumIdsS g1 kept) (sumIdsF g1 kept), .recorded w t (decide (c = .succ))]
  | w2Lose (c : Call) (o w : Nat) (t : Int) (b : Nat) : (g.win w).cur ≠ b →
      StepR cfg g (.w2 c o w t b) .tau
        { g with buckets := g.buckets ++ [mkBucket t (decide (c = .succ))],
                 wins := setAt g.wins w { g.win w with res := (g.win w).res ++ [g.buckets.length] } }
        .idle [.recorded w t (decide (c = .succ)), .ret none]
  | w3Trip (o w : Nat) (e : Int × Int) : exceeds cfg e.1 e.2 = true →
      StepR cfg g (.w3 .fail o w e) .tau { g with wins := setAt g.wins w { g.win w with snap := e } } (.f1 o e) []
  | w3Done (c : Call) (o w : Nat) (e : Int × Int) : (c = .fail → exceeds cfg e.1 e.2 = false) →
      StepR cfg g (.w3 c o w e) .tau { g with wins := setAt g.wins w { g.win w with snap := e } } .idle
        [.cbCount e.1 e.2, .ret none]
  | f1 (o : Nat) (e : Int × Int) (t : Int) : StepR cfg g (.f1 o e) (.tick t) g (.f2 o e t) []
  | f2Win (o : Nat) (e : Int × Int) (t : Int) : g.cur = o →
      StepR cfg g (.f2 o e t) .tau (publish g o ⟨.opn, wrap64 (t + cfg.openW), cfg.openW, 0⟩) .idle
        [.transition o .opn, .cbState .opn, .ret none]
  | f2Lose (o : Nat) (e : Int × Int) (t : Int) : g.cur ≠ o →
      StepR cfg g (.f2 o e t) .tau g .idle [.cbCount e.1 e.2, .ret none]
  | h1Succ (o : Nat) (t1 : Int) : StepR cfg g (.h1 .succ o) (.tick t1) g (.h1s o t1) []
  | h1Other (c : Call) (o : Nat) (t1 : Int) : c ≠ .succ →
      StepR cfg g (.h1 c o) (.tick t1) g (.h3 c o t1 0) []
  | h1s (o : Nat) (t1 : Int) : StepR cfg g (.h1s o t1) .tau g (.h2 o t1) []
  | h2 (o : Nat) (t1 t2 : Int) : StepR cfg g (.h2 o t1) (.tick t2) g (.h3 .succ o t1 t2) []
  | h3SuccWin (o : Nat) (t1 t2 : Int) : g.cur = o →
      StepR cfg g (.h3 .succ o t1 t2) .tau
        (publish { g with wins := g.wins ++ [⟨g.buckets.length, [], (0, 0)⟩],
                          buckets := g.buckets ++ [⟨t1, 0, 0⟩] }
          o ⟨.closed, wrap64 (t2 + 0), 0, g.wins.length⟩) .idle
        [.transition o .closed, .cbState .closed, .ret none]
  | h3SuccLose (o : Nat) (t1 t2 : Int) : g.cur ≠ o →
      StepR cfg g (.h3 .succ o t1 t2) .tau g .idle [.ret none]
  | h3OtherWin (c : Call) (o : Nat) (t1 t2 : Int) : c ≠ .succ → g.cur = o →
      StepR cfg g (.h3 c o t1 t2) .tau (publish g o ⟨.opn, wrap64 (t1 + cfg.openW), cfg.openW, 0⟩) .idle
        [.transition o .opn, .cbState .opn, .ret none]
  | h3OtherLose (c : Call) (o : Nat) (t1 t2 : Int) : c ≠ .succ → g.cur ≠ o →
      StepR cfg g (.h3 c o t1 t2) .tau g .idle [.ret none]

local macro "inj_at " h:ident : tactic =>
  `(tactic| (simp only [Option.some.injEq, Prod.mk.injEq] at $h:ident; obtain ⟨h1, h2, h3⟩ := $h:ident; subst h1 h2 h3))
theorem step_sound {cfg : Config} {t : Tid} {g : CG} {l : L} {a : Act} {g' : CG} {l' : L} {obs : List Obs}
    (h : step cfg t g l a = some (g', l', obs)) : StepR cfg g l a g' l' obs := by
  unfold step at h
  -- one goal per arm of the `match` in `step`, in the order written there (`h_18` is the final `| _, _ => none`)
  split at h
  case h_1 => inj_at h; exact .call _
  case h_2 =>
    dsimp only at h
    split at h
    · inj_at h; exact .b0ClosedCan ‹_›
    · inj_at h; exact .b0ClosedRep _ ‹_› (fun hc => ‹_ → False› hc)
    · split at h <;> inj_at h
      · exact .b0TimedCan (by simp [*]) ‹_›
      · exact .b0TimedRej (by simp [*]) ‹_›
    · split at h <;> inj_at h
      · exact .b0TimedCan (by simp [*]) ‹_›
      · exact .b0TimedRej (by simp [*]) ‹_›
    · inj_at h; exact .b0OpenRep _ ‹_› (fun hc => ‹_ → False› hc)
    · inj_at h; exact .b0HalfRep _ ‹_› (fun hc => ‹_ → False› hc)
  case h_3 =>
    split at h <;> inj_at h
    · exact .c1Pass _ _ ‹_›
    · exact .c1Rej _ _ (by omega)
  case h_4 => inj_at h; exact .c2 _ _ _
  case h_5 =>
    split at h <;> inj_at h
    · exact .c3Win _ _ _ ‹_›
    · exact .c3Lose _ _ _ ‹_›
  case h_6 => inj_at h; exact .w0 _ _ _ _
  case h_7 =>
    dsimp only at h
    split at h
    · inj_at h; exact .w1Back _ _ _ _ ‹_›
    · split at h <;> inj_at h
      · exact .w1Add _ _ _ _ ‹_› ‹_›
      · exact .w1Next _ _ _ _ ‹_› ‹_›
  case h_8 =>
    dsimp only at h
    split at h
    · rename_i hb
      inj_at h; subst hb
      exact .w2Win _ _ _ _ _ _ rfl rfl
    · inj_at h; exact .w2Lose _ _ _ _ _ ‹_›
  case h_9 c o w e =>
    obtain ⟨s, f⟩ := e
    cases c <;> simp only [afterReport] at h
    · inj_at h; exact .w3Done _ _ _ _ nofun
    · inj_at h; exact .w3Done _ _ _ _ nofun
    · split at h <;> inj_at h
      · exact .w3Trip _ _ _ ‹_›
      · exact .w3Done _ _ _ _ (fun _ => Bool.eq_false_iff.mpr ‹_›)
  case h_10 => inj_at h; exact .f1 _ _ _
  case h_11 =>
    split at h <;> inj_at h
    · exact .f2Win _ _ _ ‹_›
    · exact .f2Lose _ _ _ ‹_›
  case h_12 => inj_at h; exact .h1Succ _ _
  case h_13 c o t1 hc => inj_at h; exact .h1Other _ _ _ hc
  case h_14 => inj_at h; exact .h1s _ _
  case h_15 => inj_at h; exact .h2 _ _ _
  case h_16 =>
    split at h <;> inj_at h
    · exact .h3SuccWin _ _ _ ‹_›
    · exact .h3SuccLose _ _ _ ‹_›
  case h_17 c o t1 t2 hc =>
    split at h <;> inj_at h
    · exact .h3OtherWin _ _ _ _ hc ‹_›
    · exact .h3OtherLose _ _ _ _ hc ‹_›
  case h_18 => cases h

end Garr.Breaker
