import Garr.Breaker.ConcInv
import Garr.Breaker.Bucket
/-!
# Invariants of the sliding-window counter under concurrency (C10, breaker layer)

Invariants and lemmas about the window part of `Garr.Breaker.M` (`Garr/Breaker/Conc.lean`): the steps `w0 … w3` of
a report on a CLOSED state object and the creation of a new window by `h3 .succ`.  The property theorems built on
them are in `Garr/Props/C10.lean`.

**Layer.**  The model takes the reservoir (lock-free queue with iterator/`Remove`) and the bucket counters (striped
adders) through their sequential specifications, atomically with the breaker-layer access that precedes them
(layered proof; the linearizability of the lower layers is C01/C13/C02/C09).  AT THIS LAYER every roll counts
*exactly* the events recorded so far in buckets whose interval began within the sliding window.  The full stack of
the real code is weaker — the roller can be delayed between swapping the bucket and archiving it, and a concurrent
`Sum` may miss in-flight increments — which is why the first sentence of property C10 is an upper bound; for the full
stack the upper bound and the equality after quiescence are proved over the model with the queue internals visible
(`Garr/Breaker/Fine*.lean`, `Garr/Props/C10Fine.lean`) and checked on the real code by monitors, not here.

**Ghost log.**  `Obs.recorded w stamp succ`: a report was recorded in window `w` in a bucket with timestamp `stamp`;
`Obs.rolled w t s f`: the roll of window `w` at tick `t` computed `s/f` (emitted in the same step, before the
roller's own `recorded w t succ`).

**The invariant** `WInv` (`winv_run`: along every guarded run) is `SInv`, which needs no guard, `WGInv`, under the guard
(`WNoWrap`, `SchedOK`: readings within `±2^61`, `0 < interval, window ≤ 2^61`, fewer than `2^61` schedule entries), and
`LOk` for the thread locals.  Counters are bounded by the number of `recorded` entries, hence by the length of the
schedule, so no sum wraps.  Steps enter through `WEff`, their effect on windows and buckets in six classes.
-/
namespace Garr.Breaker
open Garr Garr.Conc

theorem getD'_set_eq {α} (l : List α) (i : Nat) (x d : α) (h : i < l.length) : getD' (l.set i x) i d = x := by
  simp [getD', h]

theorem getD'_set_ne {α} (l : List α) (i j : Nat) (x d : α) (h : i ≠ j) : getD' (l.set i x) j d = getD' l j d := by
  simp [getD', List.getElem?_set_ne h]

theorem getD'_append_lt {α} (l : List α) (i : Nat) (x d : α) (h : i < l.length) :
    getD' (l ++ [x]) i d = getD' l i d := by
  simp [getD', List.getElem?_append_left h]

theorem getD'_append_eq {α} (l : List α) (x d : α) : getD' (l ++ [x]) l.length d = x := by
  simp [getD']

theorem getD'_ge {α} (l : List α) (i : Nat) (d : α) (h : l.length ≤ i) : getD' l i d = d := by
  simp [getD', List.getElem?_eq_none h]

def inWin (g : CG) (w : Nat) : List Nat := (g.win w).res ++ [(g.win w).cur]

def bsum (g : CG) (k : Bool) : List Nat → Int → Int
  | [], _ => 0
  | b :: ids, x => (if x ≤ (g.bucket b).ts then selB k (g.bucket b) else 0) + bsum g k ids x

def bktS (g : CG) (ids : List Nat) (x : Int) : Int := bsum g true ids x
def bktF (g : CG) (ids : List Nat) (x : Int) : Int := bsum g false ids x

def recHit (w : Nat) (k : Bool) (x : Int) (e : Tid × Obs) : Bool :=
  match e.2 with
  | .recorded w' stamp k' => decide (w' = w) && decide (k' = k) && decide (x ≤ stamp)
  | _ => false

/-- number of entries `recorded w stamp k` with `stamp ≥ x` -/
def recN (w : Nat) (k : Bool) (x : Int) (lg : List (Tid × Obs)) : Int := ((lg.countP (recHit w k x) : Nat) : Int)

def recS (w : Nat) (x : Int) (lg : List (Tid × Obs)) : Int := recN w true x lg
def recF (w : Nat) (x : Int) (lg : List (Tid × Obs)) : Int := recN w false x lg

def Obs.isRec : Obs → Bool | .recorded .. => true | _ => false
def Obs.isRolled : Obs → Bool | .rolled .. => true | _ => false

def nrec (lg : List (Tid × Obs)) : Nat := lg.countP (fun e => e.2.isRec)

def rollTick (w : Nat) (e : Tid × Obs) : Option Int :=
  match e.2 with
  | .rolled w' t _ _ => if w' = w then some t else none
  | _ => none

def lastRoll (w : Nat) (lg : List (Tid × Obs)) : Option Int := (lg.filterMap (rollTick w)).getLast?

/-- the trim limit of the last roll of window `w`; by `RollsOK` (roll ticks increase) it is the largest so far -/
def lim (cfg : Config) (w : Nat) (lg : List (Tid × Obs)) : Option Int := (lastRoll w lg).map (· - cfg.window)

def noW (obs : List Obs) : Bool := obs.all (fun o => !o.isRec && !o.isRolled)

def SameWins (g g' : CG) : Prop :=
  g'.wins.length = g.wins.length ∧ ∀ w, (g'.win w).cur = (g.win w).cur ∧ (g'.win w).res = (g.win w).res

def ObjsStep (g g' : CG) : Prop :=
  g'.objs = g.objs ∨ ∃ n, g'.objs = g.objs ++ [n] ∧ (n.win = 0 ∨ n.win < g'.wins.length)

/-- what one step writes to windows and buckets, with its ghost observations: nothing but possibly a snapshot (`quiet`);
a fresh bucket into the reservoir, by a reporter that saw the ticker step back (`back`) or lost the race for the roll
(`lose`); one more event in the current bucket (`add`); the winning roll (`roll`); a new window (`new`) -/
inductive WEff (cfg : Config) (g : CG) : L → CG → List Obs → Prop
  | quiet {l g' obs} : g'.buckets = g.buckets → SameWins g g' → noW obs = true → WEff cfg g l g' obs
  | back {g'} (c : Call) (o w : Nat) (t : Int) :
      t < (g.bucket (g.win w).cur).ts →
      g'.buckets = g.buckets ++ [mkBucket t (decide (c = .succ))] →
      g'.wins = setAt g.wins w { g.win w with res := (g.win w).res ++ [g.buckets.length] } →
      WEff cfg g (.w1 c o w t) g' [.recorded w t (decide (c = .succ)), .ret none]
  | lose {g'} (c : Call) (o w : Nat) (t : Int) (b : Nat) :
      (g.win w).cur ≠ b →
      g'.buckets = g.buckets ++ [mkBucket t (decide (c = .succ))] →
      g'.wins = setAt g.wins w { g.win w with res := (g.win w).res ++ [g.buckets.length] } →
      WEff cfg g (.w2 c o w t b) g' [.recorded w t (decide (c = .succ)), .ret none]
  | add {g'} (c : Call) (o w : Nat) (t : Int) :
      ¬ t < (g.bucket (g.win w).cur).ts →
      t < wrap64 ((g.bucket (g.win w).cur).ts + cfg.interval) →
      g'.buckets = setAt g.buckets (g.win w).cur ((g.bucket (g.win w).cur).add (decide (c = .succ))) →
      g'.wins = g.wins →
      WEff cfg g (.w1 c o w t) g' [.recorded w (g.bucket (g.win w).cur).ts (decide (c = .succ)), .ret none]
  | roll {g'} (c : Call) (o w : Nat) (t : Int) (kept : List Nat) :
      g'.buckets = g.buckets ++ [mkBucket t (decide (c = .succ))] →
      kept = trimIds g' (wrap64 (t - cfg.window)) (inWin g w) →
      g'.wins = setAt g.wins w { g.win w with cur := g.buckets.length, res := kept } →
      WEff cfg g (.w2 c o w t (g.win w).cur) g'
        [.rolled w t (sumIdsS g' kept) (sumIdsF g' kept), .recorded w t (decide (c = .succ))]
  | new {g' obs} (o : Nat) (t1 t2 : Int) :
      g'.buckets = g.buckets ++ [⟨t1, 0, 0⟩] →
      g'.wins = g.wins ++ [⟨g.buckets.length, [], (0, 0)⟩] →
      noW obs = true →
      WEff cfg g (.h3 .succ o t1 t2) g' obs

theorem sameWins_refl (g : CG) : SameWins g g := ⟨rfl, fun _ => ⟨rfl, rfl⟩⟩

theorem sameWins_of_wins {g g' : CG} (h : g'.wins = g.wins) : SameWins g g' := by
  refine ⟨by rw [h], fun w => ?_⟩
  simp [CG.win, h]

theorem sameWins_snap (g g' : CG) (w : Nat) (e : Int × Int)
    (h : g'.wins = setAt g.wins w { g.win w with snap := e }) : SameWins g g' := by
  refine ⟨by simp [h, setAt], fun w' => ?_⟩
  simp only [CG.win, h, setAt]
  by_cases hw : w = w'
  · subst hw
    by_cases hl : w < g.wins.length
    · rw [getD'_set_eq _ _ _ _ hl]; exact ⟨rfl, rfl⟩
    · rw [List.set_eq_of_length_le (by omega)]; exact ⟨rfl, rfl⟩
  · rw [getD'_set_ne _ _ _ _ _ hw]; exact ⟨rfl, rfl⟩

theorem StepR.weff {cfg : Config} {g g' : CG} {l l' : L} {a : Act} {obs : List Obs}
    (h : StepR cfg g l a g' l' obs) : ObjsStep g g' ∧ WEff cfg g l g' obs := by
  induction h
  case w1Back h1 => exact ⟨.inl rfl, .back _ _ _ _ h1 rfl rfl⟩
  case w1Add h1 h2 => exact ⟨.inl rfl, .add _ _ _ _ h1 h2 rfl rfl⟩
  case w2Win hg1 hk => subst hg1; exact ⟨.inl rfl, .roll _ _ _ _ _ rfl hk rfl⟩
  case w2Lose hne => exact ⟨.inl rfl, .lose _ _ _ _ _ hne rfl rfl⟩
  case w3Trip | w3Done => exact ⟨.inl rfl, .quiet rfl (sameWins_snap _ _ _ _ rfl) rfl⟩
  case c3Win | f2Win | h3OtherWin => exact ⟨.inr ⟨_, rfl, .inl rfl⟩, .quiet rfl (sameWins_refl _) rfl⟩
  case h3SuccWin => exact ⟨.inr ⟨_, rfl, .inr (by simp [publish])⟩, .new _ _ _ rfl rfl rfl⟩
  all_goals exact ⟨.inl rfl, .quiet rfl (sameWins_refl _) rfl⟩

theorem win_set_eq {g g' : CG} {w : Nat} {x : CWin} (h : g'.wins = setAt g.wins w x) (hw : w < g.wins.length) :
    g'.win w = x := by
  simp only [CG.win, h, setAt]; exact getD'_set_eq _ _ _ _ hw

theorem win_set_ne {g g' : CG} {w w' : Nat} {x : CWin} (h : g'.wins = setAt g.wins w x) (hne : w ≠ w') :
    g'.win w' = g.win w' := by
  simp only [CG.win, h, setAt]; exact getD'_set_ne _ _ _ _ _ hne

theorem wins_set_ge {g g' : CG} {w : Nat} {x : CWin} (h : g'.wins = setAt g.wins w x) (hw : g.wins.length ≤ w) :
    g'.wins = g.wins := by
  rw [h, setAt, List.set_eq_of_length_le hw]

theorem wins_set_length {g g' : CG} {w : Nat} {x : CWin} (h : g'.wins = setAt g.wins w x) :
    g'.wins.length = g.wins.length := by
  rw [h, setAt, List.length_set]

theorem inWin_of_wins {g g' : CG} (h : g'.wins = g.wins) (w : Nat) : inWin g' w = inWin g w := by
  simp [inWin, CG.win, h]

theorem inWin_of_sameWins {g g' : CG} (h : SameWins g g') (w : Nat) : inWin g' w = inWin g w := by
  simp [inWin, (h.2 w).1, (h.2 w).2]

theorem inWin_set_ne {g g' : CG} {w w' : Nat} {x : CWin} (h : g'.wins = setAt g.wins w x) (hne : w ≠ w') :
    inWin g' w' = inWin g w' := by
  simp [inWin, win_set_ne h hne]

theorem cur_mem_inWin (g : CG) (w : Nat) : (g.win w).cur ∈ inWin g w :=
  List.mem_append_right _ (List.mem_singleton_self _)

theorem mem_inWin_push {g g' : CG} {w b : Nat}
    (h : g'.wins = setAt g.wins w { g.win w with res := (g.win w).res ++ [b] }) (hw : w < g.wins.length) :
    b ∈ inWin g' w := by
  rw [inWin, win_set_eq h hw]
  exact List.mem_append_left _ (List.mem_append_right _ (List.mem_singleton_self _))

/-- every bucket is in at most one window, at most once -/
structure SInv (g : CG) : Prop where
  rng : ∀ w, w < g.wins.length → ∀ b ∈ inWin g w, b < g.buckets.length
  nodup : ∀ w, w < g.wins.length → (inWin g w).Nodup
  disj : ∀ w1 w2, w1 < g.wins.length → w2 < g.wins.length → w1 ≠ w2 → ∀ b, b ∈ inWin g w1 → b ∉ inWin g w2

theorem sinv_init (t1 t2 : Int) : SInv (initG t1 t2) := by
  constructor
  · intro w hw b hb
    have : w = 0 := by simp [initG] at hw; omega
    subst this
    simp [inWin, CG.win, getD', initG] at hb
    simp [hb, initG]
  · intro w hw
    have : w = 0 := by simp [initG] at hw; omega
    subst this
    simp [inWin, CG.win, getD', initG]
  · intro w1 w2 h1 h2 hne
    simp [initG] at h1 h2; omega

theorem sinv_congr {g g' : CG} (h : SInv g) (hl : g'.wins.length = g.wins.length) (hin : ∀ w, inWin g' w = inWin g w)
    (hb : g.buckets.length ≤ g'.buckets.length) : SInv g' := by
  constructor
  · intro w hw b hbm
    rw [hin] at hbm; rw [hl] at hw
    exact Nat.lt_of_lt_of_le (h.rng w hw b hbm) hb
  · intro w hw
    rw [hin]; rw [hl] at hw
    exact h.nodup w hw
  · intro w1 w2 h1 h2 hne b
    rw [hin, hin]; rw [hl] at h1 h2
    exact h.disj w1 w2 h1 h2 hne b

theorem sinv_grow {g g' : CG} (h : SInv g) (hw : g'.wins = g.wins) (hb : g.buckets.length ≤ g'.buckets.length) :
    SInv g' :=
  sinv_congr h (congrArg List.length hw) (inWin_of_wins hw) hb

theorem sinv_of {g g' : CG} {w0 : Nat} (h : SInv g) (hbl : g'.buckets.length = g.buckets.length + 1)
    (hnd : ∀ w, w < g'.wins.length → (inWin g' w).Nodup)
    (hmem : ∀ w, w < g'.wins.length → ∀ b ∈ inWin g' w,
      w < g.wins.length ∧ b ∈ inWin g w ∨ w = w0 ∧ b = g.buckets.length) : SInv g' := by
  refine ⟨fun w hw b hb => ?_, hnd, fun w1 w2 h1 h2 hne b hb1 hb2 => ?_⟩
  · rcases hmem w hw b hb with ⟨hw', hb'⟩ | ⟨_, rfl⟩
    · have := h.rng w hw' b hb'; omega
    · omega
  · -- an old id is below the fresh one, so it is not the fresh one; and the fresh one is in `w0` only
    rcases hmem w1 h1 b hb1 with ⟨e1, m1⟩ | ⟨rfl, e1⟩ <;> rcases hmem w2 h2 b hb2 with ⟨e2, m2⟩ | ⟨rfl, e2⟩
    · exact h.disj w1 w2 e1 e2 hne b m1 m2
    · have := h.rng w1 e1 b m1; omega
    · have := h.rng w2 e2 b m2; omega
    · exact hne rfl

theorem sinv_replace {g g' : CG} {w : Nat} {x : CWin} {ids : List Nat} (h : SInv g)
    (hwins : g'.wins = setAt g.wins w x) (hbl : g'.buckets.length = g.buckets.length + 1)
    (hsl : ids.Sublist (inWin g w)) (hp : (x.res ++ [x.cur]).Perm (g.buckets.length :: ids)) : SInv g' := by
  by_cases hw : w < g.wins.length
  case neg => exact sinv_grow h (wins_set_ge hwins (Nat.le_of_not_lt hw)) (hbl ▸ Nat.le_succ _)
  have hlen := wins_set_length hwins
  have hx : inWin g' w = x.res ++ [x.cur] := by rw [inWin, win_set_eq hwins hw]
  refine sinv_of (w0 := w) h hbl (fun w' hw' => ?_) (fun w' hw' b hb => ?_)
  · by_cases hne : w = w'
    · subst hne
      rw [hx]
      exact hp.nodup_iff.mpr (List.nodup_cons.mpr
        ⟨fun hm => Nat.lt_irrefl _ (h.rng w hw _ (hsl.subset hm)), (h.nodup w hw).sublist hsl⟩)
    · rw [inWin_set_ne hwins hne]; exact h.nodup w' (hlen ▸ hw')
  · by_cases hne : w = w'
    · subst hne
      rw [hx] at hb
      exact (List.mem_cons.mp (hp.mem_iff.mp hb)).symm.imp (fun hb => ⟨hw, hsl.subset hb⟩) (fun e => ⟨rfl, e⟩)
    · rw [inWin_set_ne hwins hne] at hb; exact .inl ⟨hlen ▸ hw', hb⟩

theorem sinv_push {g g' : CG} {w : Nat} {bk : Bucket} (h : SInv g)
    (hb : g'.buckets = g.buckets ++ [bk])
    (hwins : g'.wins = setAt g.wins w { g.win w with res := (g.win w).res ++ [g.buckets.length] }) : SInv g' :=
  sinv_replace h hwins (by simp [hb]) (List.Sublist.refl _) (by rw [List.append_assoc]; exact List.perm_middle)

theorem sinv_step {cfg : Config} {g g' : CG} {l : L} {obs : List Obs} (h : SInv g) (he : WEff cfg g l g' obs) :
    SInv g' := by
  cases he with
  | quiet hb hw _ => exact sinv_congr h hw.1 (inWin_of_sameWins hw) (Nat.le_of_eq (congrArg List.length hb).symm)
  | back c o w t _ hb hw => exact sinv_push h hb hw
  | lose c o w t b _ hb hw => exact sinv_push h hb hw
  | add c o w t _ _ hb hw => exact sinv_grow h hw (by simp [hb, setAt])
  | roll c o w t kept hb hk hwins =>
    exact sinv_replace h hwins (by simp [hb]) (hk ▸ List.filter_sublist) (List.perm_append_singleton _ _)
  | new o t1 t2 hb hw _ =>
    have hwl : g'.wins.length = g.wins.length + 1 := by rw [hw, List.length_append]; rfl
    have hold : ∀ w, w < g.wins.length → inWin g' w = inWin g w := by
      intro w hwlt
      simp only [inWin, CG.win, hw]
      rw [getD'_append_lt _ _ _ _ hwlt]
    have hnew : inWin g' g.wins.length = [g.buckets.length] := by
      simp only [inWin, CG.win, hw]
      rw [getD'_append_eq]; rfl
    have split : ∀ w, w < g'.wins.length → w < g.wins.length ∨ w = g.wins.length := fun w hwlt => by omega
    -- an old window keeps its ids; the new window holds the fresh one only
    refine sinv_of (w0 := g.wins.length) h (by rw [hb, List.length_append]; rfl) (fun w hwlt => ?_)
      (fun w hwlt b hbm => ?_)
    · rcases split w hwlt with e | rfl
      · rw [hold w e]; exact h.nodup w e
      · rw [hnew]; exact List.nodup_cons.mpr ⟨List.not_mem_nil, List.nodup_nil⟩
    · rcases split w hwlt with e | rfl
      · exact .inl ⟨e, hold w e ▸ hbm⟩
      · rw [hnew] at hbm; exact .inr ⟨rfl, List.mem_singleton.mp hbm⟩

theorem sinv_reach (cfg : Config) (t1 t2 : Int) (c : Conc.Config (M cfg t1 t2)) (h : Reach (M cfg t1 t2) c) : SInv c.g := by
  refine inv_of_reach (M cfg t1 t2) (fun c => SInv c.g) (sinv_init t1 t2) ?_ c h
  intro c t a g' l' obs hi hs
  have hs' : step cfg t c.g (c.l t) a = some (g', l', obs) := hs
  exact sinv_step hi (step_sound hs').weff.2

theorem recN_append (w : Nat) (k : Bool) (x : Int) (l1 l2 : List (Tid × Obs)) :
    recN w k x (l1 ++ l2) = recN w k x l1 + recN w k x l2 := by
  simp [recN, List.countP_append]

theorem recN_nonneg (w : Nat) (k : Bool) (x : Int) (lg : List (Tid × Obs)) : 0 ≤ recN w k x lg := by
  simp [recN]

theorem recHit_isRec {w : Nat} {k : Bool} {x : Int} {e : Tid × Obs} (h : recHit w k x e = true) : e.2.isRec = true := by
  obtain ⟨t, o⟩ := e
  cases o <;> simp_all [recHit, Obs.isRec]

theorem recN_le_nrec (w : Nat) (k : Bool) (x : Int) (lg : List (Tid × Obs)) : recN w k x lg ≤ nrec lg := by
  unfold recN nrec
  exact Int.ofNat_le.mpr (List.countP_mono_left (fun e _ h => recHit_isRec h))

theorem nrec_append (l1 l2 : List (Tid × Obs)) : nrec (l1 ++ l2) = nrec l1 + nrec l2 := by
  simp [nrec, List.countP_append]

theorem lastRoll_append (w : Nat) (l1 l2 : List (Tid × Obs)) :
    lastRoll w (l1 ++ l2) = (lastRoll w l2).or (lastRoll w l1) := by
  simp [lastRoll, List.filterMap_append, List.getLast?_append]

abbrev tag (t : Tid) (obs : List Obs) : List (Tid × Obs) := obs.map (fun o => (t, o))

theorem noW_tag {obs : List Obs} (h : noW obs = true) (t : Tid) :
    ∀ e ∈ tag t obs, e.2.isRec = false ∧ e.2.isRolled = false := by
  intro e he
  obtain ⟨o, ho, rfl⟩ := List.mem_map.mp he
  simpa using List.all_eq_true.mp h o ho

def nrecObs (obs : List Obs) : Nat := obs.countP Obs.isRec

theorem nrec_tag (t : Tid) (obs : List Obs) : nrec (tag t obs) = nrecObs obs := by
  simp only [nrec, nrecObs, tag, List.countP_map]; rfl

theorem rollTick_isRolled {w : Nat} {e : Tid × Obs} {t : Int} (h : rollTick w e = some t) : e.2.isRolled = true := by
  obtain ⟨t, o⟩ := e
  cases o <;> simp_all [rollTick, Obs.isRolled]

/-- what a `rolled w t s f` entry must satisfy with respect to the log before it -/
def RollOK (cfg : Config) (pre : List (Tid × Obs)) (w : Nat) (t s f : Int) : Prop :=
  s = recN w true (t - cfg.window) pre ∧ f = recN w false (t - cfg.window) pre ∧
  ∀ t', lastRoll w pre = some t' → t' + cfg.interval ≤ t

def RollsOK (cfg : Config) (lg : List (Tid × Obs)) : Prop :=
  SplitInv (fun pre e => ∀ w t s f, e.2 = Obs.rolled w t s f → RollOK cfg pre w t s f) lg

theorem RollsOK.at {cfg : Config} {lg pre post : List (Tid × Obs)} {tid : Tid} {w : Nat} {t s f : Int}
    (h : RollsOK cfg lg) (he : lg = pre ++ (tid, Obs.rolled w t s f) :: post) : RollOK cfg pre w t s f :=
  h pre _ post he w t s f rfl

theorem rollsOK_noRoll {cfg : Config} {lg l2 : List (Tid × Obs)} (h : RollsOK cfg lg)
    (h2 : ∀ e ∈ l2, e.2.isRolled = false) : RollsOK cfg (lg ++ l2) :=
  SplitInv.append h (fun pre' e post' he w t s f hr => by
    have := h2 e (by rw [he]; simp)
    rw [hr] at this
    cases this)

theorem rollsOK_quiet {cfg : Config} {lg : List (Tid × Obs)} {obs : List Obs} (h : RollsOK cfg lg)
    (hq : noW obs = true) (t : Tid) : RollsOK cfg (lg ++ tag t obs) :=
  rollsOK_noRoll h (fun e he => (noW_tag hq t e he).2)

theorem recN_one (t : Tid) (w : Nat) (st : Int) (b : Bool) (w' : Nat) (k : Bool) (x : Int) :
    recN w' k x [(t, .recorded w st b)] = if w = w' then if x ≤ st then if b = k then 1 else 0 else 0 else 0 := by
  by_cases h1 : w = w' <;> by_cases h2 : x ≤ st <;> by_cases h3 : b = k <;> simp [recN, recHit, h1, h2, h3]

theorem recN_tag_rec (lg : List (Tid × Obs)) (t : Tid) (w : Nat) (st : Int) (b : Bool) (w' : Nat) (k : Bool) (x : Int) :
    recN w' k x (lg ++ tag t [.recorded w st b, .ret none]) =
      recN w' k x lg + if w = w' then if x ≤ st then if b = k then 1 else 0 else 0 else 0 := by
  rw [recN_append, ← recN_one t]; rfl

theorem recN_tag_roll (lg : List (Tid × Obs)) (t : Tid) (w : Nat) (tt s f st : Int) (b : Bool) (w' : Nat) (k : Bool) (x : Int) :
    recN w' k x (lg ++ tag t [.rolled w tt s f, .recorded w st b]) =
      recN w' k x lg + if w = w' then if x ≤ st then if b = k then 1 else 0 else 0 else 0 := by
  rw [recN_append, ← recN_one t]; rfl

theorem lastRoll_snoc (w : Nat) (lg : List (Tid × Obs)) (e : Tid × Obs) :
    lastRoll w (lg ++ [e]) = (rollTick w e).or (lastRoll w lg) := by
  rw [lastRoll_append]
  congr 1
  unfold lastRoll
  cases h : rollTick w e <;> simp [h]

theorem lastRoll_tag_rec (lg : List (Tid × Obs)) (t : Tid) (w : Nat) (st : Int) (b : Bool) (w' : Nat) :
    lastRoll w' (lg ++ tag t [.recorded w st b, .ret none]) = lastRoll w' lg := by
  show lastRoll w' (lg ++ ([(t, .recorded w st b)] ++ [(t, .ret none)])) = _
  rw [← List.append_assoc, lastRoll_snoc, lastRoll_snoc]; rfl

theorem lastRoll_tag_roll (lg : List (Tid × Obs)) (t : Tid) (w : Nat) (tt s f st : Int) (b : Bool) (w' : Nat) :
    lastRoll w' (lg ++ tag t [.rolled w tt s f, .recorded w st b]) = if w = w' then some tt else lastRoll w' lg := by
  show lastRoll w' (lg ++ ([(t, .rolled w tt s f)] ++ [(t, .recorded w st b)])) = _
  rw [← List.append_assoc, lastRoll_snoc, lastRoll_snoc]
  show (if w = w' then some tt else none).or (lastRoll w' lg) = _
  split <;> rfl

/-- the log `l` has no entry about window `w` -/
def Silent (w : Nat) (l : List (Tid × Obs)) : Prop := lastRoll w l = none ∧ ∀ k x, recN w k x l = 0

theorem Silent.lastRoll_eq {w : Nat} {l : List (Tid × Obs)} (h : Silent w l) (lg : List (Tid × Obs)) :
    lastRoll w (lg ++ l) = lastRoll w lg := by
  rw [lastRoll_append, h.1, Option.none_or]

theorem Silent.recN_eq {w : Nat} {l : List (Tid × Obs)} (h : Silent w l) (lg : List (Tid × Obs)) (k : Bool) (x : Int) :
    recN w k x (lg ++ l) = recN w k x lg := by
  rw [recN_append, h.2]; exact Int.add_zero _

theorem Silent.append {w : Nat} {l1 l2 : List (Tid × Obs)} (h1 : Silent w l1) (h2 : Silent w l2) :
    Silent w (l1 ++ l2) :=
  ⟨by rw [h2.lastRoll_eq, h1.1], fun k x => by rw [h2.recN_eq, h1.2]⟩

theorem silent_quiet {obs : List Obs} (h : noW obs = true) (t : Tid) (w : Nat) : Silent w (tag t obs) := by
  have hm := noW_tag h t
  refine ⟨?_, fun k x => ?_⟩
  · have : (tag t obs).filterMap (rollTick w) = [] := List.filterMap_eq_nil_iff.mpr fun e he => by
      cases hr : rollTick w e with
      | none => rfl
      | some tt => have := rollTick_isRolled hr; rw [(hm e he).2] at this; cases this
    rw [lastRoll, this]; rfl
  · have : (tag t obs).countP (recHit w k x) = 0 := List.countP_eq_zero.mpr fun e he hh => by
      have := recHit_isRec hh; rw [(hm e he).1] at this; cases this
    rw [recN, this]; rfl

theorem silent_rec {w w' : Nat} (hne : w ≠ w') (t : Tid) (st : Int) (b : Bool) :
    Silent w' (tag t [.recorded w st b, .ret none]) :=
  ⟨rfl, fun k x => by simp [recN, recHit, hne]⟩

theorem silent_roll {w w' : Nat} (hne : w ≠ w') (t : Tid) (tt s f st : Int) (b : Bool) :
    Silent w' (tag t [.rolled w tt s f, .recorded w st b]) :=
  ⟨by simp [lastRoll, rollTick, hne], fun k x => by simp [recN, recHit, hne]⟩

theorem bucket_app_lt {g g' : CG} {bk : Bucket} (h : g'.buckets = g.buckets ++ [bk]) {b : Nat}
    (hb : b < g.buckets.length) : g'.bucket b = g.bucket b := by
  simp only [CG.bucket, h]; exact getD'_append_lt _ _ _ _ hb

theorem bucket_app_eq {g g' : CG} {bk : Bucket} (h : g'.buckets = g.buckets ++ [bk]) :
    g'.bucket g.buckets.length = bk := by
  simp only [CG.bucket, h]; exact getD'_append_eq _ _ _

theorem bucket_ge {g : CG} {b : Nat} (hb : g.buckets.length ≤ b) : g.bucket b = dfltBucket :=
  getD'_ge _ _ _ hb

theorem bucket_same {g g' : CG} (h : g'.buckets = g.buckets) (b : Nat) : g'.bucket b = g.bucket b := by
  simp only [CG.bucket, h]

theorem bucket_set_eq {g g' : CG} {b : Nat} {bk : Bucket} (h : g'.buckets = setAt g.buckets b bk)
    (hb : b < g.buckets.length) : g'.bucket b = bk := by
  simp only [CG.bucket, h, setAt]; exact getD'_set_eq _ _ _ _ hb

theorem bucket_set_ne {g g' : CG} {b b' : Nat} {bk : Bucket} (h : g'.buckets = setAt g.buckets b bk)
    (hb : b ≠ b') : g'.bucket b' = g.bucket b' := by
  simp only [CG.bucket, h, setAt]; exact getD'_set_ne _ _ _ _ _ hb

theorem bsum_eq (g : CG) (k : Bool) (ids : List Nat) (x : Int) :
    bsum g k ids x = bsumK k (fun ts => decide (x ≤ ts)) (ids.map g.bucket) := by
  induction ids with
  | nil => rfl
  | cons b l ih => simp only [bsum, List.map_cons, bsumK, ih, decide_eq_true_eq]

theorem bsum_append (g : CG) (k : Bool) (l1 l2 : List Nat) (x : Int) :
    bsum g k (l1 ++ l2) x = bsum g k l1 x + bsum g k l2 x := by
  simp only [bsum_eq, List.map_append, bsumK_append]

theorem bsum_single (g : CG) (k : Bool) (b : Nat) (x : Int) :
    bsum g k [b] x = if x ≤ (g.bucket b).ts then selB k (g.bucket b) else 0 := by
  simp [bsum]

theorem bsum_congr {g g' : CG} (k : Bool) {ids : List Nat} (x : Int) (h : ∀ b ∈ ids, g'.bucket b = g.bucket b) :
    bsum g' k ids x = bsum g k ids x := by
  rw [bsum_eq, bsum_eq, List.map_congr_left h]

theorem trimIds_congr {g g' : CG} (L : Int) {ids : List Nat} (h : ∀ b ∈ ids, g'.bucket b = g.bucket b) :
    trimIds g' L ids = trimIds g L ids := by
  unfold trimIds
  apply List.filter_congr
  intro b hb
  rw [h b hb]

theorem trimIds_map (g : CG) (L : Int) (ids : List Nat) :
    (trimIds g L ids).map g.bucket = (ids.map g.bucket).filter (fun b => (fun ts => decide (L ≤ ts)) b.ts) := by
  rw [trimIds, List.filter_map]
  congr 2
  funext b
  by_cases h : (g.bucket b).ts < L
  · simp [h]
  · simp [h, Int.not_lt.mp h]

theorem bsum_trim (g : CG) (k : Bool) (L x : Int) (hx : L ≤ x) (ids : List Nat) :
    bsum g k (trimIds g L ids) x = bsum g k ids x := by
  rw [bsum_eq, bsum_eq, trimIds_map, bsumK_filter k _ (fun ts => decide (L ≤ ts))]
  congr 1
  funext ts
  by_cases h : x ≤ ts
  · simp [h, Int.le_trans hx h]
  · simp [h]

theorem fold_trim (g : CG) (k : Bool) (L : Int) (hnn : ∀ b, 0 ≤ selB k (g.bucket b)) (ids : List Nat)
    (h : bsum g k ids L < 2^62) :
    (trimIds g L ids).foldl (fun acc b => wrap64 (acc + selB k (g.bucket b))) 0 = bsum g k ids L := by
  have hf := fold_eq k ((trimIds g L ids).map g.bucket)
  have h0 : 0 ≤ bsum g k ids L := by
    rw [bsum_eq]
    exact bsumK_nonneg _ _ _ (fun b hb => by obtain ⟨i, _, rfl⟩ := List.mem_map.mp hb; exact hnn i)
  rw [List.foldl_map, trimIds_map, bsumK_filter k _ (fun ts => decide (L ≤ ts))] at hf
  simp only [Bool.and_true] at hf
  rw [hf, ← bsum_eq]
  exact wrap_id (by omega) (by omega)

theorem sumIdsS_eq (g : CG) (ids : List Nat) :
    sumIdsS g ids = ids.foldl (fun acc b => wrap64 (acc + selB true (g.bucket b))) 0 := rfl
theorem sumIdsF_eq (g : CG) (ids : List Nat) :
    sumIdsF g ids = ids.foldl (fun acc b => wrap64 (acc + selB false (g.bucket b))) 0 := rfl

def TB (t : Int) : Prop := -(2^61) ≤ t ∧ t ≤ 2^61

def WNoWrap (cfg : Config) : Prop :=
  0 < cfg.interval ∧ cfg.interval ≤ 2^61 ∧ 0 < cfg.window ∧ cfg.window ≤ 2^61

def TickOK : Act → Prop
  | .tick t => TB t
  | _ => True

/-- guard on the inputs of a run: the constructor's readings, every reading in the schedule, the schedule length -/
structure SchedOK (t1 t2 : Int) (s : List (Tid × Act)) : Prop where
  t1 : TB t1
  t2 : TB t2
  ticks : ∀ e ∈ s, TickOK e.2
  len : s.length < 2^61

/-- what the invariant needs of a thread's locals: the window exists, readings are guarded, and a pending roller read a
tick past the interval of the bucket it loaded -/
def LOk (cfg : Config) (g : CG) : L → Prop
  | .w0 _ _ w => w < g.wins.length
  | .w1 _ _ w t => w < g.wins.length ∧ TB t
  | .w2 _ _ w t b => w < g.wins.length ∧ TB t ∧ b < g.buckets.length ∧ (g.bucket b).ts + cfg.interval ≤ t
  | .w3 _ _ w _ => w < g.wins.length
  | .h1s _ t1 => TB t1
  | .h2 _ t1 => TB t1
  | .h3 _ _ t1 _ => TB t1
  | _ => True

/-- the readings held in a thread's locals satisfy `R` -/
def LR (R : Int → Prop) : L → Prop
  | .w1 _ _ _ t => R t
  | .w2 _ _ _ t _ => R t
  | .h1s _ t1 => R t1
  | .h2 _ t1 => R t1
  | .h3 _ _ t1 _ => R t1
  | _ => True

def ActR (R : Int → Prop) : Act → Prop
  | .tick t => R t
  | _ => True

/-- what a step that records `m` events, of a thread with locals `l`, does to the buckets: no window goes; an existing
bucket is left alone or, if an event is recorded, gets one more; at most one bucket is appended, holding at most `m`
events and stamped with the reading in `l` -/
structure BEff (g g' : CG) (l : L) (m : Nat) : Prop where
  wins : g.wins.length ≤ g'.wins.length
  old : ∀ b, b < g.buckets.length → g'.bucket b = g.bucket b ∨ m = 1 ∧ ∃ sc, g'.bucket b = (g.bucket b).add sc
  fresh : g'.buckets.length = g.buckets.length ∨ g'.buckets.length = g.buckets.length + 1 ∧
    (∀ k, 0 ≤ selB k (g'.bucket g.buckets.length) ∧ selB k (g'.bucket g.buckets.length) ≤ m) ∧
    ∀ R : Int → Prop, LR R l → R (g'.bucket g.buckets.length).ts

theorem BEff.append {g g' : CG} {l : L} {m : Nat} {bk : Bucket} (hw : g.wins.length ≤ g'.wins.length)
    (hb : g'.buckets = g.buckets ++ [bk]) (h1 : ∀ k, 0 ≤ selB k bk ∧ selB k bk ≤ m)
    (h2 : ∀ R : Int → Prop, LR R l → R bk.ts) : BEff g g' l m :=
  ⟨hw, fun b h => .inl (bucket_app_lt hb h),
    .inr ⟨by rw [hb, List.length_append]; rfl, by rw [bucket_app_eq hb]; exact ⟨h1, h2⟩⟩⟩

theorem WEff.beff {cfg : Config} {g g' : CG} {l : L} {obs : List Obs} (he : WEff cfg g l g' obs) :
    BEff g g' l (nrecObs obs) := by
  induction he with
  | quiet hb hw _ => exact ⟨Nat.le_of_eq hw.1.symm, fun b _ => .inl (bucket_same hb b), .inl (congrArg _ hb)⟩
  | new o t1 t2 hb hw _ =>
    exact .append (by rw [hw, List.length_append]; exact Nat.le_add_right _ _) hb
      (fun k => by cases k <;> exact ⟨Int.le_refl 0, Int.natCast_nonneg _⟩) (fun R hR => hR)
  | add c o w t _ _ hb hw =>
    refine ⟨Nat.le_of_eq (congrArg _ hw).symm, fun b h => ?_, .inl (by rw [hb, setAt, List.length_set])⟩
    by_cases e : (g.win w).cur = b
    · subst e; exact .inr ⟨rfl, _, bucket_set_eq hb h⟩
    · exact .inl (bucket_set_ne hb e)
  | _ =>
    -- `back`, `lose`, `roll`: the reporter's own bucket `mkBucket t _` is appended
    exact .append (m := 1) (Nat.le_of_eq (wins_set_length ‹_›).symm) ‹_› (fun k => by rw [selB_mk]; split <;> omega)
      (fun R hR => by rw [ts_mk]; exact hR)

theorem BEff.len_le {g g' : CG} {l : L} {m : Nat} (h : BEff g g' l m) : g.buckets.length ≤ g'.buckets.length := by
  rcases h.fresh with h | ⟨h, _⟩ <;> omega

theorem BEff.ts {g g' : CG} {l : L} {m : Nat} (h : BEff g g' l m) {b : Nat} (hb : b < g.buckets.length) :
    (g'.bucket b).ts = (g.bucket b).ts := by
  rcases h.old b hb with e | ⟨_, sc, e⟩ <;> rw [e]
  exact ts_add ..

theorem lok_mono {cfg : Config} {g g' : CG} {l l₀ : L} {m : Nat} (hm : BEff g g' l₀ m) (h : LOk cfg g l) : LOk cfg g' l := by
  have m1 := hm.wins
  cases l
  case w0 | w3 => exact Nat.lt_of_lt_of_le h m1
  case w1 => exact ⟨Nat.lt_of_lt_of_le h.1 m1, h.2⟩
  case w2 =>
    obtain ⟨h1, h2, h3, h4⟩ := h
    exact ⟨Nat.lt_of_lt_of_le h1 m1, h2, Nat.lt_of_lt_of_le h3 hm.len_le, by rw [hm.ts h3]; exact h4⟩
  all_goals exact h

theorem ts_step {R : Int → Prop} {g g' : CG} {l : L} {m : Nat} (hts : ∀ b, b < g.buckets.length → R (g.bucket b).ts)
    (hl : LR R l) (he : BEff g g' l m) : ∀ b, b < g'.buckets.length → R (g'.bucket b).ts := by
  intro b hlt
  by_cases e : b < g.buckets.length
  · rw [he.ts e]; exact hts b e
  · rcases he.fresh with h | ⟨h, _, h2⟩
    · omega
    · have : b = g.buckets.length := by omega
      subst this; exact h2 R hl

/-- bounds, by a number `n` that is at least the number of `recorded` entries so far (along a run: that number) -/
structure WBnd (n : Nat) (lg : List (Tid × Obs)) (g : CG) : Prop where
  objw : ∀ o, (g.obj o).win < g.wins.length
  cnt : ∀ b k, 0 ≤ selB k (g.bucket b) ∧ selB k (g.bucket b) ≤ n
  ts : ∀ b, TB (g.bucket b).ts
  nrec : nrec lg ≤ n

/-- what the log says of window `w`: the current bucket's timestamp is the last roll's tick, and above the last trim
limit the buckets hold exactly the recorded events -/
structure WOk (cfg : Config) (lg : List (Tid × Obs)) (g : CG) (w : Nat) : Prop where
  curts : ∀ t, lastRoll w lg = some t → (g.bucket (g.win w).cur).ts = t
  count : ∀ k x, (∀ t, lastRoll w lg = some t → t - cfg.window ≤ x) → bsum g k (inWin g w) x = recN w k x lg

structure WGInv (cfg : Config) (n : Nat) (lg : List (Tid × Obs)) (g : CG) : Prop extends WBnd n lg g where
  fresh : ∀ w, g.wins.length ≤ w → Silent w lg
  win : ∀ w, w < g.wins.length → WOk cfg lg g w
  rolls : RollsOK cfg lg

theorem objw_step {g g' : CG} (h : ∀ o, (g.obj o).win < g.wins.length) (ho : ObjsStep g g')
    (hl : g.wins.length ≤ g'.wins.length) : ∀ o, (g'.obj o).win < g'.wins.length := by
  have h0 : 0 < g.wins.length := Nat.lt_of_le_of_lt (Nat.zero_le _) (h 0)
  intro o
  rcases ho with ho | ⟨n, ho, hn⟩
  · have : g'.obj o = g.obj o := by simp [CG.obj, ho]
    rw [this]; exact Nat.lt_of_lt_of_le (h o) hl
  · simp only [CG.obj, ho]
    by_cases e1 : o < g.objs.length
    · rw [getD'_append_lt _ _ _ _ e1]; exact Nat.lt_of_lt_of_le (h o) hl
    · by_cases e2 : o = g.objs.length
      · subst e2; rw [getD'_append_eq]
        rcases hn with hn | hn
        · omega
        · exact hn
      · rw [getD'_ge _ _ _ (by simp; omega)]
        show 0 < _
        omega

theorem wginv_init (cfg : Config) (t1 t2 : Int) (h1 : TB t1) : WGInv cfg 0 [] (initG t1 t2) := by
  have hb : ∀ b, (initG t1 t2).bucket b = ⟨t1, 0, 0⟩ ∨ (initG t1 t2).bucket b = dfltBucket := by
    intro b
    cases b with
    | zero => left; rfl
    | succ b => right; exact bucket_ge (by simp [initG])
  refine ⟨⟨?_, ?_, ?_, Nat.le_refl 0⟩, fun w _ => ⟨rfl, fun _ _ => rfl⟩, fun w hw => ⟨nofun, fun k x _ => ?_⟩,
    SplitInv.nil⟩
  · intro o
    cases o with
    | zero => simp [CG.obj, getD', initG]
    | succ o => simp [CG.obj, getD', initG, dfltObj]
  · intro b k
    rcases hb b with h | h <;> rw [h] <;> cases k <;> simp [selB, dfltBucket]
  · intro b
    rcases hb b with h | h <;> rw [h]
    · exact h1
    · simp [dfltBucket, TB]
  · have : w = 0 := by simp [initG] at hw; omega
    subst this
    cases k <;> simp [inWin, CG.win, getD', initG, bsum, CG.bucket, selB, recN]

theorem selB_dflt (k : Bool) : selB k dfltBucket = 0 := by cases k <;> rfl

theorem lok_lr {cfg : Config} {g : CG} {l : L} (h : LOk cfg g l) : LR TB l := by
  cases l
  case w1 => exact h.2
  case w2 => exact h.2.1
  case h1s | h2 | h3 => exact h
  all_goals trivial

/-- counters grow only when an event is recorded, new timestamps are guarded readings -/
theorem bnd_step {cfg : Config} {n : Nat} {lg : List (Tid × Obs)} {g g' : CG} {l : L} {obs : List Obs} (t : Tid)
    (hn : n < 2^61) (hB : WBnd n lg g) (hl : LOk cfg g l) (ho : ObjsStep g g')
    (he : WEff cfg g l g' obs) : WBnd (n + nrecObs obs) (lg ++ tag t obs) g' := by
  have hb := he.beff
  generalize hm : nrecObs obs = m at hb ⊢
  have dflt : ∀ b, g'.buckets.length ≤ b → g'.bucket b = dfltBucket := fun b h => bucket_ge h
  refine ⟨objw_step hB.objw ho hb.wins, fun b k => ?_, fun b => ?_, ?_⟩
  · by_cases e : b < g.buckets.length
    · have := hB.cnt b k
      rcases hb.old b e with h | ⟨rfl, sc, h⟩ <;> rw [h]
      · omega
      · have := hB.cnt b sc
        rw [selB_add k _ _ ⟨by omega, by omega⟩]; split <;> omega
    · rcases hb.fresh with h | ⟨h, h1, _⟩
      · rw [dflt b (by omega), selB_dflt]; omega
      · by_cases e2 : b = g.buckets.length
        · subst e2; have := h1 k; omega
        · rw [dflt b (by omega), selB_dflt]; omega
  · by_cases h : b < g'.buckets.length
    · exact ts_step (fun b _ => hB.ts b) (lok_lr hl) hb b h
    · rw [dflt b (Nat.le_of_not_lt h)]; exact ⟨by decide, by decide⟩
  · rw [nrec_append, nrec_tag, hm]; have := hB.nrec; omega

theorem WOk.frame {cfg : Config} {lg l : List (Tid × Obs)} {g g' : CG} {w : Nat} (h : WOk cfg lg g w)
    (hcur : (g'.win w).cur = (g.win w).cur) (hres : (g'.win w).res = (g.win w).res)
    (hbk : ∀ b ∈ inWin g w, g'.bucket b = g.bucket b) (hs : Silent w l) : WOk cfg (lg ++ l) g' w := by
  have hin : inWin g' w = inWin g w := by rw [inWin, hcur, hres]; rfl
  constructor
  · intro t ht
    rw [hs.lastRoll_eq] at ht
    rw [hcur, hbk _ (cur_mem_inWin _ _)]; exact h.curts t ht
  · intro k x hx
    rw [hs.lastRoll_eq] at hx
    rw [hs.recN_eq, hin, bsum_congr k x hbk]; exact h.count k x hx

theorem bsum_old {g g' : CG} {bk : Bucket} (hS : SInv g) (hb : g'.buckets = g.buckets ++ [bk]) {w : Nat}
    (hw : w < g.wins.length) (k : Bool) (x : Int) {ids : List Nat} (hsub : ∀ b ∈ ids, b ∈ inWin g w) :
    bsum g' k ids x = bsum g k ids x :=
  bsum_congr k x (fun b hb' => bucket_app_lt hb (hS.rng w hw b (hsub b hb')))

theorem WOk.other {cfg : Config} {lg l : List (Tid × Obs)} {g g' : CG} {w w' : Nat} {bk : Bucket} {x : CWin}
    (hS : SInv g) (h : WOk cfg lg g w') (hw' : w' < g.wins.length) (hne : w ≠ w')
    (hb : g'.buckets = g.buckets ++ [bk]) (hwins : g'.wins = setAt g.wins w x) (hs : Silent w' l) :
    WOk cfg (lg ++ l) g' w' := by
  have hwin := win_set_ne hwins hne
  exact h.frame (by rw [hwin]) (by rw [hwin]) (fun b hb' => bucket_app_lt hb (hS.rng w' hw' b hb')) hs

/-- a fresh bucket with one event goes into the reservoir of window `w` (the ticker stepped back, or the reporter lost
the race for the roll) -/
theorem wginv_push {cfg : Config} {n : Nat} {lg : List (Tid × Obs)} {g g' : CG} (t : Tid) {w : Nat} {tt : Int}
    {sc : Bool} (hS : SInv g) (hG : WGInv cfg n lg g) (hB : WBnd (n + 1) (lg ++ tag t [.recorded w tt sc, .ret none]) g')
    (hw : w < g.wins.length) (hb : g'.buckets = g.buckets ++ [mkBucket tt sc])
    (hwins : g'.wins = setAt g.wins w { g.win w with res := (g.win w).res ++ [g.buckets.length] }) :
    WGInv cfg (n + 1) (lg ++ tag t [.recorded w tt sc, .ret none]) g' := by
  have hlen := wins_set_length hwins
  refine ⟨hB,
    fun w' hw' => (hG.fresh w' (hlen ▸ hw')).append (silent_rec (Nat.ne_of_lt (Nat.lt_of_lt_of_le hw (hlen ▸ hw'))) ..),
    fun w' hw' => ?_, rollsOK_noRoll hG.rolls (by simp [tag, Obs.isRolled])⟩
  rw [hlen] at hw'
  by_cases e : w = w'
  · subst e
    have hW := hG.win w hw
    have hcb : g'.bucket (g.win w).cur = g.bucket (g.win w).cur := bucket_app_lt hb (hS.rng w hw _ (cur_mem_inWin _ _))
    constructor
    · intro t' ht'
      rw [lastRoll_tag_rec] at ht'
      rw [win_set_eq hwins hw, hcb]
      exact hW.curts t' ht'
    · intro k x hx
      rw [lastRoll_tag_rec] at hx
      have hin : inWin g' w = ((g.win w).res ++ [g.buckets.length]) ++ [(g.win w).cur] := by
        simp [inWin, win_set_eq hwins hw]
      rw [recN_tag_rec, if_pos rfl, ← hW.count k x hx, hin, inWin, bsum_append, bsum_append, bsum_append,
        bsum_single g' k g.buckets.length, bsum_old hS hb hw k x (fun b hb' => by simp [inWin, hb']),
        bsum_old hS hb hw k x (ids := [(g.win w).cur]) (fun b hb' => by simp [inWin, List.mem_singleton.mp hb']),
        bucket_app_eq hb, selB_mk, ts_mk]
      omega
  · exact (hG.win w' hw').other hS hw' e hb hwins (silent_rec e ..)

theorem StepR.lok {cfg : Config} {g g' : CG} {l l' : L} {a : Act} {obs : List Obs} (h : StepR cfg g l a g' l' obs)
    (hcfg : WNoWrap cfg) (hS : SInv g) (hobj : ∀ o, (g.obj o).win < g.wins.length) (hts : ∀ b, TB (g.bucket b).ts)
    (hl : LOk cfg g l) (ha : TickOK a) : LOk cfg g' l' := by
  induction h
  case b0ClosedRep => exact hobj _
  case w0 => exact ⟨hl, ha⟩
  case w1Next c o w t _ h2 =>
    -- the reading is past the loaded bucket's interval; under the guard the end of the interval does not wrap
    refine ⟨hl.1, hl.2, hS.rng w hl.1 _ (cur_mem_inWin _ _), ?_⟩
    have := hts (g.win w).cur
    have ht := hl.2
    unfold TB at this ht
    unfold wrap64 at h2
    have := hcfg.1; have := hcfg.2.1
    omega
  case w2Win => simpa only [LOk, setAt, List.length_set] using hl.1
  case h1Succ | h1Other => exact ha
  case h1s | h2 => exact hl
  all_goals trivial

/-- the invariant survives every step; in each class of steps the windows the step does not act on are carried over by
`WOk.frame` -/
theorem wginv_step {cfg : Config} {n : Nat} {lg : List (Tid × Obs)} {g g' : CG} {l : L} {obs : List Obs} (t : Tid)
    (hcfg : WNoWrap cfg) (hn : n < 2^61) (hS : SInv g) (hG : WGInv cfg n lg g) (hl : LOk cfg g l)
    (ho : ObjsStep g g') (he : WEff cfg g l g' obs) : WGInv cfg (n + nrecObs obs) (lg ++ tag t obs) g' := by
  have hB := bnd_step t hn hG.toWBnd hl ho he
  induction he with
  | @quiet l g' obs hb hw hq =>
    refine ⟨hB, fun w hwl => (hG.fresh w (hw.1 ▸ hwl)).append (silent_quiet hq t w), fun w hwl => ?_,
      rollsOK_quiet hG.rolls hq t⟩
    exact (hG.win w (hw.1 ▸ hwl)).frame (hw.2 w).1 (hw.2 w).2 (fun b _ => bucket_same hb b) (silent_quiet hq t w)
  | back c o w tt _ hb hw => exact wginv_push t hS hG hB hl.1 hb hw
  | lose c o w tt b _ hb hw => exact wginv_push t hS hG hB hl.1 hb hw
  | @add g' c o w tt _ _ hb hwins =>
    -- one more event in the current bucket of `w`, which is not in the reservoir of `w` nor in any other window
    generalize decide (c = Call.succ) = sc at hb hB ⊢
    have hw := hl.1
    have hbl : (g.win w).cur < g.buckets.length := hS.rng w hw _ (cur_mem_inWin _ _)
    have hsw := sameWins_of_wins hwins
    refine ⟨hB, fun w' hw' =>
        (hG.fresh w' (hwins ▸ hw')).append (silent_rec (Nat.ne_of_lt (Nat.lt_of_lt_of_le hw (hwins ▸ hw'))) ..),
      fun w' hw' => ?_, rollsOK_noRoll hG.rolls (by simp [tag, Obs.isRolled])⟩
    rw [hwins] at hw'
    by_cases e : w = w'
    · subst e
      have hW := hG.win w hw
      have hsel : ∀ k, selB k (g'.bucket (g.win w).cur) = selB k (g.bucket (g.win w).cur) + if sc = k then 1 else 0 := by
        intro k
        have := hG.cnt (g.win w).cur sc
        rw [bucket_set_eq hb hbl]
        exact selB_add k _ sc ⟨this.1, by omega⟩
      have hts : (g'.bucket (g.win w).cur).ts = (g.bucket (g.win w).cur).ts := by rw [bucket_set_eq hb hbl, ts_add]
      constructor
      · intro t' ht'
        rw [lastRoll_tag_rec] at ht'
        rw [(hsw.2 w).1, hts]
        exact hW.curts t' ht'
      · intro k x hx
        rw [lastRoll_tag_rec] at hx
        rw [recN_tag_rec, if_pos rfl, ← hW.count k x hx, inWin_of_wins hwins]
        have hnd := hS.nodup w hw
        simp only [inWin] at hnd ⊢
        rw [List.nodup_append] at hnd
        have hne : ∀ b ∈ (g.win w).res, (g.win w).cur ≠ b := fun b hb' => (hnd.2.2 b hb' _ (by simp)).symm
        rw [bsum_append, bsum_append, bsum_single, bsum_single, hts, hsel,
          bsum_congr k x (fun b hb' => bucket_set_ne hb (hne b hb'))]
        by_cases h1 : x ≤ (g.bucket (g.win w).cur).ts
        · rw [if_pos h1, if_pos h1, if_pos h1]; omega
        · rw [if_neg h1, if_neg h1, if_neg h1]; omega
    · have hni : (g.win w).cur ∉ inWin g w' := hS.disj w w' hw hw' e _ (cur_mem_inWin _ _)
      exact (hG.win w' hw').frame (hsw.2 w').1 (hsw.2 w').2 (fun b hb' => bucket_set_ne hb (fun h => hni (h ▸ hb')))
        (silent_rec e ..)
  | @roll g' c o w tt kept hb hk hwins =>
    generalize decide (c = Call.succ) = sc at hb hB ⊢
    obtain ⟨hw, ht, _, hint⟩ := hl
    have hlen := wins_set_length hwins
    have hW := hG.win w hw
    rw [wrap_id (by have := ht.1; have := hcfg.2.2.2; omega) (by have := ht.2; have := hcfg.2.2.1; omega)] at hk
    have hkin : ∀ b ∈ kept, b ∈ inWin g w := fun b hb' => by rw [hk] at hb'; exact (List.mem_filter.mp hb').1
    have hk2 : kept = trimIds g (tt - cfg.window) (inWin g w) := by
      rw [hk]; exact trimIds_congr _ (fun b hb' => bucket_app_lt hb (hS.rng w hw b hb'))
    have hold : ∀ t', lastRoll w lg = some t' → t' + cfg.interval ≤ tt := by
      intro t' ht'; rw [← hW.curts t' ht']; exact hint
    have hold' : ∀ t', lastRoll w lg = some t' → t' - cfg.window ≤ tt - cfg.window :=
      fun t' ht' => by have := hold t' ht'; have := hcfg.1; omega
    -- the roll's count: nothing wraps, since the sum is at most the number of `recorded` entries
    have hsum : ∀ k, (kept.foldl (fun acc b => wrap64 (acc + selB k (g'.bucket b))) 0) = recN w k (tt - cfg.window) lg := by
      intro k
      have hnn : ∀ b, 0 ≤ selB k (g'.bucket b) := fun b => (hB.cnt b k).1
      have heq : bsum g' k (inWin g w) (tt - cfg.window) = recN w k (tt - cfg.window) lg := by
        rw [← hW.count k (tt - cfg.window) hold']; exact bsum_old hS hb hw k _ (fun b hb' => hb')
      have hle := recN_le_nrec w k (tt - cfg.window) lg
      have := hG.nrec
      rw [hk, fold_trim g' k _ hnn _ (by rw [heq]; omega), heq]
    refine ⟨hB, fun w' hw' =>
        (hG.fresh w' (hlen ▸ hw')).append (silent_roll (Nat.ne_of_lt (Nat.lt_of_lt_of_le hw (hlen ▸ hw'))) ..),
      fun w' hw' => ?_, ?_⟩
    · rw [hlen] at hw'
      by_cases e : w = w'
      · subst e
        constructor
        · intro t' ht'
          rw [lastRoll_tag_roll, if_pos rfl] at ht'
          rw [win_set_eq hwins hw]
          show (g'.bucket g.buckets.length).ts = t'
          rw [bucket_app_eq hb, ts_mk]
          exact Option.some.inj ht'
        · intro k x hx
          rw [lastRoll_tag_roll, if_pos rfl] at hx
          have hLx : tt - cfg.window ≤ x := hx tt rfl
          have hcount := hW.count k x (fun t' ht' => Int.le_trans (hold' t' ht') hLx)
          have hin : inWin g' w = kept ++ [g.buckets.length] := by rw [inWin, win_set_eq hwins hw]
          rw [recN_tag_roll, if_pos rfl, hin, bsum_append, bsum_single, bsum_old hS hb hw k x hkin, bucket_app_eq hb,
            selB_mk, ts_mk, ← hcount, hk2, bsum_trim g k _ x hLx]
      · exact (hG.win w' hw').other hS hw' e hb hwins (silent_roll e ..)
    · refine SplitInv.append hG.rolls (.cons (fun w' t' s f hr => ?_) (.cons nofun .nil))
      cases hr
      rw [List.append_nil]
      exact ⟨hsum true, hsum false, hold⟩
  | @new g' obs o t1 t2 hb hwins hq =>
    have hlen : g'.wins.length = g.wins.length + 1 := by simp [hwins]
    refine ⟨hB, fun w hw => (hG.fresh w (by omega)).append (silent_quiet hq t w), fun w hw => ?_,
      rollsOK_quiet hG.rolls hq t⟩
    by_cases e : w < g.wins.length
    · have hwold : g'.win w = g.win w := by simp only [CG.win, hwins]; exact getD'_append_lt _ _ _ _ e
      exact (hG.win w e).frame (by rw [hwold]) (by rw [hwold]) (fun b hb' => bucket_app_lt hb (hS.rng w e b hb'))
        (silent_quiet hq t w)
    · -- the new window: nothing rolled, nothing recorded, one empty bucket
      have : w = g.wins.length := by omega
      subst this
      have hwnew : g'.win g.wins.length = ⟨g.buckets.length, [], (0, 0)⟩ := by
        simp only [CG.win, hwins]; exact getD'_append_eq _ _ _
      obtain ⟨f1, f2⟩ := (hG.fresh _ (Nat.le_refl _)).append (silent_quiet hq t _)
      constructor
      · intro t' ht'; rw [f1] at ht'; cases ht'
      · intro k x _
        have : inWin g' g.wins.length = [g.buckets.length] := by rw [inWin, hwnew]; rfl
        rw [this, bsum_single, bucket_app_eq hb, f2 k x]
        cases k <;> simp [selB]

/-- **The invariant of C10** for the shared state `g`, the thread locals `ls`, the ghost log `lg` emitted so far and
a bound `n` on the bucket counters (along a run: the number of `recorded` entries of `lg`). -/
def WInv (cfg : Config) (n : Nat) (lg : List (Tid × Obs)) (g : CG) (ls : Tid → L) : Prop :=
  SInv g ∧ WGInv cfg n lg g ∧ ∀ tid, LOk cfg g (ls tid)

/-- `recorded` entries the operation in progress still owes: one while the report is before its recording step -/
def pend : L → Nat
  | .w0 .. => 1
  | .w1 .. => 1
  | .w2 .. => 1
  | _ => 0

def L.isB0 : L → Bool | .b0 _ => true | _ => false

/-- every step emits at most one `recorded`; a step of a report in progress conserves "emitted + owed";
the dispatch step `b0` emits none (and is the only step that creates a debt) -/
theorem recorded_once_step {cfg : Config} {t : Tid} {g g' : CG} {l l' : L} {a : Act} {obs : List Obs}
    (hs : step cfg t g l a = some (g', l', obs)) :
    nrecObs obs ≤ 1 ∧ (l.isB0 = true → nrecObs obs = 0) ∧ (l.isB0 = false → nrecObs obs + pend l' = pend l) ∧
    (l.isB0 = false → l'.isB0 = true → l = .idle) := by
  -- every constructor gives `l`, `l'` and `obs` explicitly, so each part is decided by evaluation: only the dispatch
  -- steps leave a `b0` state, only `call` enters one
  have no : ∀ {p : Prop}, false = true → p := fun h => absurd h Bool.false_ne_true
  have hr := step_sound hs
  clear hs
  induction hr
  case call => exact ⟨Nat.le_of_ble_eq_true rfl, no, fun _ => rfl, fun _ _ => rfl⟩
  case b0ClosedCan | b0ClosedRep | b0TimedCan | b0TimedRej | b0OpenRep | b0HalfRep =>
    exact ⟨Nat.le_of_ble_eq_true rfl, fun _ => rfl, fun h => no h.symm, fun h => no h.symm⟩
  all_goals exact ⟨Nat.le_of_ble_eq_true rfl, no, fun _ => rfl, fun _ => no⟩

/-- the steps of ONE operation of one thread (its own steps; the shared state may change arbitrarily in between):
an operation's steps are those taken from a non-idle local state -/
inductive OpPath (cfg : Config) : L → List Obs → L → Prop
  | done (l : L) : OpPath cfg l [] l
  | step {t g a g' l l' l'' obs obs'} : l ≠ .idle → step cfg t g l a = some (g', l', obs) →
      OpPath cfg l' obs' l'' → OpPath cfg l (obs ++ obs') l''

theorem opPath_conserves {cfg : Config} {l l' : L} {obs : List Obs} (h : OpPath cfg l obs l') (hl : l.isB0 = false) :
    nrecObs obs + pend l' = pend l := by
  induction h with
  | done l => simp [nrecObs]
  | @step t g a g' l l' l'' obs obs' hne hs _ ih =>
    obtain ⟨_, _, h3, h4⟩ := recorded_once_step hs
    have hb : l'.isB0 = false := by
      cases hb : l'.isB0 with
      | false => rfl
      | true => exact absurd (h4 hl hb) hne
    have := ih hb
    have := h3 hl
    simp only [nrecObs, List.countP_append] at *
    omega

theorem nrec_run_le (cfg : Config) (t1 t2 : Int) (s : List (Tid × Act)) (c : Conc.Config (M cfg t1 t2)) :
    nrec (run (M cfg t1 t2) c s).2 ≤ s.length :=
  countP_run_le (M := M cfg t1 t2) _ (fun t g l a g' l' obs h => by
    have h' : step cfg t g l a = some (g', l', obs) := h
    exact Nat.le_trans (Nat.le_of_eq (nrec_tag t obs)) (recorded_once_step h').1) s c

/-- **`WInv` holds along every guarded run**, with the log of the run and, as the bound on the counters, the number of
its `recorded` entries, which is at most the length of the schedule. -/
theorem winv_run (cfg : Config) (t1 t2 : Int) (s : List (Tid × Act)) (hcfg : WNoWrap cfg) (hs : SchedOK t1 t2 s) :
    ∃ n, n < 2^61 ∧
      WInv cfg n (run (M cfg t1 t2) (Conc.Config.init _) s).2 (run (M cfg t1 t2) (Conc.Config.init _) s).1.g
        (run (M cfg t1 t2) (Conc.Config.init _) s).1.l := by
  have hlen := Nat.lt_of_le_of_lt (nrec_run_le cfg t1 t2 s (Conc.Config.init _)) hs.len
  refine ⟨_, hlen, run_ind (A := fun _ a => TickOK a)
    (P := fun lg c => nrec lg < 2^61 → WInv cfg (nrec lg) lg c.g c.l)
    (fun lg c t a g' l' obs _ hP ha hstep hlt => ?_) s _ Reach.init
    (fun _ => ⟨sinv_init t1 t2, wginv_init cfg t1 t2 hs.t1, fun _ => trivial⟩) hs.ticks hlen⟩
  rw [nrec_append, nrec_tag] at hlt ⊢
  obtain ⟨hS, hG, hL⟩ := hP (by omega)
  have hr := step_sound hstep
  obtain ⟨ho, he⟩ := hr.weff
  exact ⟨sinv_step hS he, wginv_step t hcfg (by omega) hS hG (hL t) ho he,
    forall_upd (hr.lok hcfg hS hG.objw hG.ts (hL t) ha) (fun _ _ => lok_mono he.beff) hL⟩

theorem StepR.lr {R : Int → Prop} {cfg : Config} {g g' : CG} {l l' : L} {a : Act} {obs : List Obs}
    (h : StepR cfg g l a g' l' obs) (hl : LR R l) (ha : ActR R a) : LR R l' := by
  induction h
  case w0 | h1Succ | h1Other => exact ha
  case w1Next | h1s | h2 => exact hl
  all_goals trivial

/-- **Every bucket timestamp is a ticker reading**: the constructor's first reading or a `tick` of the schedule. -/
theorem bucket_ts_is_reading (cfg : Config) (t1 t2 : Int) (s : List (Tid × Act)) :
    let g := (run (M cfg t1 t2) (Conc.Config.init _) s).1.g
    ∀ b, b < g.buckets.length → (g.bucket b).ts = t1 ∨ ∃ tid, (tid, Act.tick (g.bucket b).ts) ∈ s := by
  let R : Int → Prop := fun x => x = t1 ∨ ∃ tid, (tid, Act.tick x) ∈ s
  refine (run_ind (A := fun _ a => ActR R a)
    (P := fun _ c => (∀ b, b < c.g.buckets.length → R (c.g.bucket b).ts) ∧ ∀ tid, LR R (c.l tid))
    (fun _ c t a g' l' obs _ hP ha hs => ?_) s (Conc.Config.init _) Reach.init ⟨fun b hb => ?_, fun _ => trivial⟩
    (fun e he => ?_)).1
  · have hr := step_sound hs
    exact ⟨ts_step hP.1 (hP.2 t) hr.weff.2.beff, forall_upd (hr.lr (hP.2 t) ha) (fun _ _ h => h) hP.2⟩
  · have : b = 0 := by simp [Conc.Config.init, M, initG] at hb; omega
    subst this; exact Or.inl rfl
  · obtain ⟨tid, a⟩ := e
    cases a with
    | tick x => exact Or.inr ⟨tid, he⟩
    | _ => trivial

def rollBy (tid : Tid) (e : Tid × Obs) : Option (Nat × Int × Int) :=
  if e.1 = tid then (match e.2 with | .rolled w _ s f => some (w, s, f) | _ => none) else none

/-- window and count of the last `rolled` entry emitted by thread `tid` -/
def lastRollBy (tid : Tid) (lg : List (Tid × Obs)) : Option (Nat × Int × Int) := (lg.filterMap (rollBy tid)).getLast?

theorem StepR.to_w3 {cfg : Config} {g g' : CG} {l : L} {a : Act} {obs : List Obs} {c : Call} {o w : Nat} {e : Int × Int}
    (h : StepR cfg g l a g' (.w3 c o w e) obs) : ∃ tt sc, obs = [.rolled w tt e.1 e.2, .recorded w tt sc] := by
  cases h; exact ⟨_, _, rfl⟩

theorem lastRollBy_other (lg : List (Tid × Obs)) {t tid : Tid} (h : t ≠ tid) (obs : List Obs) :
    lastRollBy tid (lg ++ tag t obs) = lastRollBy tid lg := by
  have : (tag t obs).filterMap (rollBy tid) = [] := by
    rw [List.filterMap_eq_nil_iff]
    intro e he
    obtain ⟨o, _, rfl⟩ := List.mem_map.mp he
    simp [rollBy, h]
  simp only [lastRollBy, List.filterMap_append, this, List.append_nil]

theorem lastRollBy_roll (lg : List (Tid × Obs)) (t : Tid) (w : Nat) (tt s f : Int) (sc : Bool) :
    lastRollBy t (lg ++ tag t [.rolled w tt s f, .recorded w tt sc]) = some (w, s, f) := by
  have : (tag t [.rolled w tt s f, .recorded w tt sc]).filterMap (rollBy t) = [(w, s, f)] := by
    simp [tag, rollBy]
  simp only [lastRollBy, List.filterMap_append, this, List.getLast?_append]
  rfl

/-- a thread about to store a snapshot carries the count of the last roll it emitted -/
def SnapInv (lg : List (Tid × Obs)) (ls : Tid → L) : Prop :=
  ∀ tid c o w e, ls tid = .w3 c o w e → lastRollBy tid lg = some (w, e.1, e.2)

theorem snapInv_step {cfg : Config} {lg : List (Tid × Obs)} {g g' : CG} {ls : Tid → L} {t : Tid} {a : Act} {l' : L}
    {obs : List Obs} (h : SnapInv lg ls) (hs : step cfg t g (ls t) a = some (g', l', obs)) :
    SnapInv (lg ++ tag t obs) (upd ls t l') := by
  intro tid c o w e hl
  by_cases e1 : tid = t
  · subst e1
    rw [upd_same] at hl
    subst hl
    obtain ⟨tt, sc, rfl⟩ := (step_sound hs).to_w3
    exact lastRollBy_roll lg tid w tt e.1 e.2 sc
  · rw [upd_other _ _ _ _ e1] at hl
    rw [lastRollBy_other lg (fun h => e1 h.symm)]
    exact h tid c o w e hl

theorem snapInv_run (cfg : Config) (t1 t2 : Int) (s : List (Tid × Act)) :
    SnapInv (run (M cfg t1 t2) (Conc.Config.init _) s).2 (run (M cfg t1 t2) (Conc.Config.init _) s).1.l :=
  run_ind (A := fun _ _ => True) (P := fun lg c => SnapInv lg c.l) (fun _ _ _ _ _ _ _ _ h _ hs => snapInv_step h hs)
    s _ Reach.init (fun tid c o w e h => by cases h) (fun _ _ => trivial)

end Garr.Breaker
