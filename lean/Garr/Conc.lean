/-!
# Generic small-step machines for concurrent objects

Unboundedly many threads (`Tid = Nat`); a thread in `idle` may start any operation (an `Act`), so
`Reach` covers all client programs and all schedules.  `inv_of_reach` is the invariant rule.
-/
namespace Garr.Conc

abbrev Tid := Nat

structure Machine where
  G : Type      -- shared state (heap, published pointers, ghost history)
  L : Type      -- one thread's local state: program counter + locals
  Act : Type    -- external choice for this step (which call to start, a random value, a tick, …)
  Obs : Type    -- what the step makes observable (response, linearization-point marker, …)
  init : G
  idle : L
  step : Tid → G → L → Act → Option (G × L × List Obs)   -- `none` = not enabled

structure Config (M : Machine) where
  g : M.G
  l : Tid → M.L

def Config.init (M : Machine) : Config M := ⟨M.init, fun _ => M.idle⟩

def upd {α : Type} (f : Tid → α) (t : Tid) (v : α) : Tid → α := fun u => if u = t then v else f u

@[simp] theorem upd_same {α} (f : Tid → α) (t : Tid) (v : α) : upd f t v t = v := by simp [upd]
@[simp] theorem upd_other {α} (f : Tid → α) (t u : Tid) (v : α) (h : u ≠ t) : upd f t v u = f u := by simp [upd, h]

theorem upd_self {α : Type} (f : Tid → α) (t : Tid) : upd f t (f t) = f := by
  funext u; unfold upd; split
  · rename_i h; rw [h]
  · rfl

theorem upd_upd {α : Type} (f : Tid → α) (t : Tid) (a b : α) : upd (upd f t a) t b = upd f t b := by
  funext u; unfold upd; split <;> rfl

theorem upd_back {α : Type} (l : Tid → α) (t : Tid) (a b : α) (h : l t = b) : upd (upd l t a) t b = l := by
  rw [upd_upd, ← h, upd_self]

theorem forall_upd {α : Type} {P Q : α → Prop} {f : Tid → α} {t : Tid} {v : α}
    (hv : Q v) (ho : ∀ u, u ≠ t → P (f u) → Q (f u)) (h : ∀ u, P (f u)) : ∀ u, Q (upd f t v u) := by
  intro u
  by_cases hu : u = t
  · rw [hu, upd_same]; exact hv
  · rw [upd_other _ _ _ _ hu]; exact ho u hu (h u)

theorem upd_eq_or {α : Type} (f : Tid → α) (t : Tid) (v : α) (u : Tid) :
    (u = t ∧ upd f t v u = v) ∨ (u ≠ t ∧ upd f t v u = f u) := by
  by_cases h : u = t
  · exact Or.inl ⟨h, by rw [h, upd_same]⟩
  · exact Or.inr ⟨h, upd_other _ _ _ _ h⟩

/-- reachability: closed under any thread taking any enabled step -/
inductive Reach (M : Machine) : Config M → Prop
  | init : Reach M (Config.init M)
  | step {c t a g' l' obs} : Reach M c → M.step t c.g (c.l t) a = some (g', l', obs) →
      Reach M ⟨g', upd c.l t l'⟩

theorem inv_of_reach (M : Machine) (Inv : Config M → Prop)
    (h0 : Inv (Config.init M))
    (hs : ∀ c t a g' l' obs, Inv c → M.step t c.g (c.l t) a = some (g', l', obs) → Inv ⟨g', upd c.l t l'⟩) :
    ∀ c, Reach M c → Inv c := by
  intro c h
  induction h with
  | init => exact h0
  | step _ hstep ih => exact hs _ _ _ _ _ _ ih hstep

/-- only finitely many threads have ever moved: from some id on, all are idle -/
theorem finite_support {M : Machine} {c : Config M} (hc : Reach M c) : ∃ N, ∀ t, N ≤ t → c.l t = M.idle := by
  induction hc with
  | init => exact ⟨0, fun _ _ => rfl⟩
  | @step c t a g' l' obs _ _ ih =>
    obtain ⟨N, hN⟩ := ih
    refine ⟨max N (t + 1), fun u hu => ?_⟩
    obtain ⟨hu1, hu2⟩ := Nat.max_le.1 hu
    show upd c.l t l' u = M.idle
    rw [upd_other _ _ _ _ (Nat.ne_of_gt hu2)]; exact hN u hu1

/-- run a schedule from a configuration; disabled steps are skipped. Returns the final
configuration and the observation log (oldest first), each entry tagged with its thread. -/
def run (M : Machine) : Config M → List (Tid × M.Act) → Config M × List (Tid × M.Obs)
  | c, [] => (c, [])
  | c, (t, a) :: rest =>
    match M.step t c.g (c.l t) a with
    | none => run M c rest
    | some (g', l', obs) =>
      let r := run M ⟨g', upd c.l t l'⟩ rest
      (r.1, obs.map (fun o => (t, o)) ++ r.2)

theorem run_cons_none {M : Machine} {c : Config M} {t : Tid} {a : M.Act} {rest : List (Tid × M.Act)}
    (h : M.step t c.g (c.l t) a = none) : run M c ((t, a) :: rest) = run M c rest := by
  simp only [run, h]

theorem run_cons_some {M : Machine} {c : Config M} {t : Tid} {a : M.Act} {rest : List (Tid × M.Act)}
    {g' : M.G} {l' : M.L} {obs : List M.Obs} (h : M.step t c.g (c.l t) a = some (g', l', obs)) :
    run M c ((t, a) :: rest) =
      ((run M ⟨g', upd c.l t l'⟩ rest).1, obs.map (fun o => (t, o)) ++ (run M ⟨g', upd c.l t l'⟩ rest).2) := by
  simp only [run, h]

theorem run_cons_eq {M : Machine} {c : Config M} {t : Tid} {a : M.Act} {rest : List (Tid × M.Act)}
    {g' : M.G} {l' : M.L} {obs : List M.Obs} {c2 : Config M} {lg2 : List (Tid × M.Obs)}
    (h : M.step t c.g (c.l t) a = some (g', l', obs)) (hrun : run M ⟨g', upd c.l t l'⟩ rest = (c2, lg2)) :
    run M c ((t, a) :: rest) = (c2, obs.map (fun o => (t, o)) ++ lg2) := by
  rw [run_cons_some h, hrun]

theorem run_append {M : Machine} (c : Config M) (s1 s2 : List (Tid × M.Act)) :
    run M c (s1 ++ s2) = ((run M (run M c s1).1 s2).1, (run M c s1).2 ++ (run M (run M c s1).1 s2).2) := by
  induction s1 generalizing c with
  | nil => simp [run]
  | cons ta rest ih =>
    obtain ⟨t, a⟩ := ta
    cases h : M.step t c.g (c.l t) a with
    | none => simp only [List.cons_append, run_cons_none h]; exact ih c
    | some r =>
      obtain ⟨g', l', obs⟩ := r
      simp only [List.cons_append, run_cons_some h, ih, List.append_assoc]

/-- forward induction along a run: `P lg c` relates the log emitted so far to the current
    configuration; `A` restricts the schedule entries -/
theorem run_ind_gen (M : Machine) (A : Tid → M.Act → Prop) (P : List (Tid × M.Obs) → Config M → Prop)
    (hstep : ∀ lg c t a g' l' obs, Reach M c → P lg c → A t a → M.step t c.g (c.l t) a = some (g', l', obs) →
      P (lg ++ obs.map (fun o => (t, o))) ⟨g', upd c.l t l'⟩) :
    ∀ (s : List (Tid × M.Act)) (c : Config M) (lg : List (Tid × M.Obs)), Reach M c → P lg c →
      (∀ e ∈ s, A e.1 e.2) → P (lg ++ (run M c s).2) (run M c s).1 := by
  intro s
  induction s with
  | nil => intro c lg _ hP _; simpa [run] using hP
  | cons ta rest ih =>
    intro c lg hc hP hA
    obtain ⟨t, a⟩ := ta
    cases h : M.step t c.g (c.l t) a with
    | none =>
      rw [run_cons_none h]
      exact ih c lg hc hP (fun e he => hA e (List.mem_cons_of_mem _ he))
    | some r =>
      obtain ⟨g', l', obs⟩ := r
      rw [run_cons_some h]
      have h1 := hstep lg c t a g' l' obs hc hP (hA (t, a) (List.mem_cons_self ..)) h
      have h2 := ih _ _ (Reach.step hc h) h1 (fun e he => hA e (List.mem_cons_of_mem _ he))
      simpa [List.append_assoc] using h2

/-- `run_ind_gen` for a machine given by its components, so that the predicate and the step hypothesis speak of
    the component types themselves and not of their projections out of the machine -/
theorem run_ind_raw {G L Act Obs : Type} {init : G} {idle : L} {step : Tid → G → L → Act → Option (G × L × List Obs)}
    (A : Tid → Act → Prop) (Q : List (Tid × Obs) → G → (Tid → L) → Prop)
    (hstep : ∀ (lg : List (Tid × Obs)) (g : G) (ls : Tid → L) (t : Tid) (a : Act) (g' : G) (l' : L) (obs : List Obs),
      Reach ⟨G, L, Act, Obs, init, idle, step⟩ ⟨g, ls⟩ → Q lg g ls → A t a → step t g (ls t) a = some (g', l', obs) →
      Q (lg ++ obs.map (fun o => (t, o))) g' (upd ls t l'))
    (s : List (Tid × Act)) (c : Config ⟨G, L, Act, Obs, init, idle, step⟩) (hc : Reach _ c) (hQ : Q [] c.g c.l)
    (hA : ∀ e ∈ s, A e.1 e.2) : Q (run _ c s).2 (run _ c s).1.g (run _ c s).1.l :=
  run_ind_gen _ A (fun lg c => Q lg c.g c.l)
    (fun lg c t a g' l' obs hr hp ha hs => hstep lg c.g c.l t a g' l' obs hr hp ha hs) s c [] hc hQ hA

theorem reach_run (M : Machine) (c : Config M) (h : Reach M c) (s : List (Tid × M.Act)) :
    Reach M (run M c s).1 := by
  induction s generalizing c with
  | nil => exact h
  | cons ta rest ih =>
    obtain ⟨t, a⟩ := ta
    simp only [run]
    split
    · exact ih c h
    · rename_i g' l' obs hstep
      exact ih _ (Reach.step h hstep)

theorem exists_tid_bound {α : Type} (s : List (Tid × α)) : ∃ N, ∀ e ∈ s, e.1 < N := by
  induction s with
  | nil => exact ⟨0, fun _ h => by simp at h⟩
  | cons e r ih =>
    obtain ⟨N, hN⟩ := ih
    refine ⟨max N (e.1 + 1), fun e' he' => ?_⟩
    rcases List.mem_cons.mp he' with rfl | h
    · exact Nat.lt_of_lt_of_le (Nat.lt_succ_self _) (Nat.le_max_right _ _)
    · exact Nat.lt_of_lt_of_le (hN e' h) (Nat.le_max_left _ _)

theorem run_other_gen (M : Machine) (u : Tid) (s : List (Tid × M.Act)) : ∀ (c : Config M),
    (∀ e ∈ s, e.1 ≠ u) → (run M c s).1.l u = c.l u := by
  induction s with
  | nil => intro c _; rfl
  | cons ta rest ih =>
    intro c hs
    obtain ⟨t, a⟩ := ta
    have ht : t ≠ u := hs (t, a) (List.mem_cons_self ..)
    have hrest : ∀ e ∈ rest, e.1 ≠ u := fun e he => hs e (List.mem_cons_of_mem _ he)
    cases he : M.step t c.g (c.l t) a with
    | none => rw [run_cons_none he]; exact ih c hrest
    | some r =>
      obtain ⟨g', l', obs⟩ := r
      rw [run_cons_some he]
      simp only
      rw [ih _ hrest]
      simp [upd, Ne.symm ht]

theorem countP_run_le {M : Machine} (p : Tid × M.Obs → Bool)
    (h1 : ∀ t g l a g' l' obs, M.step t g l a = some (g', l', obs) → (obs.map (fun o => (t, o))).countP p ≤ 1)
    (s : List (Tid × M.Act)) (c : Config M) : (run M c s).2.countP p ≤ s.length := by
  induction s generalizing c with
  | nil => exact Nat.le_refl 0
  | cons ta rest ih =>
    obtain ⟨t, a⟩ := ta
    cases h : M.step t c.g (c.l t) a with
    | none => rw [run_cons_none h]; exact Nat.le_succ_of_le (ih c)
    | some r =>
      obtain ⟨g', l', obs⟩ := r
      have := h1 _ _ _ _ _ _ _ h
      have := ih ⟨g', upd c.l t l'⟩
      rw [run_cons_some h, List.countP_append, List.length_cons]
      omega

/-- a schedule over the threads below `N` leaves all threads from `N` on idle -/
theorem run_support (M : Machine) (s : List (Tid × M.Act)) (N : Nat) :
    ∀ (c : Config M), (∀ t, N ≤ t → c.l t = M.idle) → s.all (fun p => decide (p.1 < N)) = true →
      ∀ t, N ≤ t → (run M c s).1.l t = M.idle := by
  induction s with
  | nil => intro c h _; exact h
  | cons ta rest ih =>
    intro c h hs
    obtain ⟨t0, a⟩ := ta
    simp only [List.all_cons, Bool.and_eq_true, decide_eq_true_eq] at hs
    have h0 : t0 < N := hs.1
    have hrest := hs.2
    simp only [run]
    split
    · exact ih c h hrest
    · refine ih _ (fun t ht => ?_) hrest
      have hne : t ≠ t0 := fun e => by subst e; exact Nat.lt_irrefl _ (Nat.lt_of_lt_of_le h0 ht)
      exact (upd_other c.l t0 t _ hne).trans (h t ht)

end Garr.Conc
