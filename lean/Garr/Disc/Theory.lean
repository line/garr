import Garr.Disc.Model
/-!
# Disciplined accesses are data-race free (abstract happens-before model)

An abstract execution (`Exec`) is a finite trace of memory accesses (`Ev`: thread, location, access
kind, the locks held with their mode, and whether the access happens while the object is still
private to its creating thread) with a happens-before relation `hb` on trace indices.  The FIELDS of
`Exec` (not axioms) are the guarantees of the Go memory model that the argument uses:

* `hb_lt`, `hb_trans`, `hb_po` — `hb` is a strict partial order, compatible with the trace order
  (the trace is a linearisation of `hb`), containing program order;
* `lock_edge` — two accesses made inside critical sections of the same `RWMutex`, by different
  threads, at least one of them in write mode, are ordered (conflicting critical sections do not
  overlap and "the n-th `Unlock` is synchronized before the m-th `Lock` returns, n < m", likewise
  `RUnlock` → `Lock` and `Unlock` → `RLock`): the earlier one in the trace happens before the later one;
* `publish_edge` — an access made while the object is private happens before every access to it by
  another thread made after publication (the reference reached the other thread through a
  synchronising operation — atomic store/CAS → load, channel send → receive, `Unlock` → `Lock`,
  `go` statement — executed after the private access and observed before the other thread's access);
  together with `hb_lt` this says in particular that no `priv` access comes after a published access
  of another thread;
* `priv_owner` — while private, an object is accessed by one thread only (its creator).

`Race` is the Go memory model's data race: two accesses of different threads to the same location,
at least one a write, at least one non-atomic, unordered by `hb`.

`Discipline`/`Obeys` are the per-location synchronisation classes and the per-access obligations
(mirroring `okFact`); `disciplined_drf`: if every access obeys the class of its location, there is
no race.  `racyAtomicOnly`, `racyLockedR` show that the obligations are not vacuous (violating
them admits executions with a race) and `lockedExec` that the theorem's hypotheses are satisfiable
by an execution with real conflicts.
-/
namespace Garr.Disc

inductive Acc | plainR | plainW | atomicR | atomicW
deriving Repr, DecidableEq

def Acc.isWrite : Acc → Bool
  | .plainW => true
  | .atomicW => true
  | _ => false

def Acc.isPlain : Acc → Bool
  | .plainR => true
  | .plainW => true
  | _ => false

structure Ev where
  tid : Nat
  loc : Nat
  acc : Acc
  /-- locks held (critical sections the access lies in), with the mode they are held in -/
  held : List (Nat × Mode) := []
  /-- the access happens before the object is published (it is private to its creating thread) -/
  priv : Bool := false

structure Exec where
  evs : List Ev
  hb : Nat → Nat → Prop
  /-- the trace order is a linearisation of happens-before -/
  hb_lt : ∀ i j, hb i j → i < j
  hb_trans : ∀ i j k, hb i j → hb j k → hb i k
  /-- program order -/
  hb_po : ∀ (i j : Nat) (ei ej : Ev), evs[i]? = some ei → evs[j]? = some ej → i < j → ei.tid = ej.tid → hb i j
  /-- conflicting critical sections of one `RWMutex` are ordered -/
  lock_edge : ∀ (i j : Nat) (ei ej : Ev) (m : Nat) (mi mj : Mode), evs[i]? = some ei → evs[j]? = some ej → i < j → ei.tid ≠ ej.tid →
    (m, mi) ∈ ei.held → (m, mj) ∈ ej.held → (mi = .W ∨ mj = .W) → hb i j
  /-- safe publication -/
  publish_edge : ∀ (i j : Nat) (ei ej : Ev), evs[i]? = some ei → evs[j]? = some ej → ei.loc = ej.loc →
    ei.tid ≠ ej.tid → ei.priv = true → ej.priv = false → hb i j
  /-- a private object is accessed by its creator only -/
  priv_owner : ∀ (i j : Nat) (ei ej : Ev), evs[i]? = some ei → evs[j]? = some ej → ei.loc = ej.loc →
    ei.priv = true → ej.priv = true → ei.tid = ej.tid

theorem Exec.hb_irrefl (E : Exec) (i : Nat) : ¬ E.hb i i :=
  fun h => Nat.lt_irrefl _ (E.hb_lt i i h)

def Race (E : Exec) (i j : Nat) : Prop :=
  ∃ ei ej, E.evs[i]? = some ei ∧ E.evs[j]? = some ej ∧ i ≠ j ∧ ei.tid ≠ ej.tid ∧ ei.loc = ej.loc ∧
    (ei.acc.isWrite = true ∨ ej.acc.isWrite = true) ∧
    (ei.acc.isPlain = true ∨ ej.acc.isPlain = true) ∧
    ¬ E.hb i j ∧ ¬ E.hb j i

theorem Race.symm {E : Exec} {i j : Nat} : Race E i j → Race E j i := by
  rintro ⟨ei, ej, hi, hj, hne, ht, hl, hw, hp, h1, h2⟩
  exact ⟨ej, ei, hj, hi, hne.symm, ht.symm, hl.symm, hw.symm, hp.symm, h2, h1⟩

inductive LocClass
  | atomicOnly          -- after publication, accessed by sync/atomic operations only
  | locked (m : Nat)    -- after publication, accessed only while holding lock `m`; writes in write mode
  | immutable           -- after publication, only read
  | confined            -- all accesses by one thread (the object is not shared)
deriving Repr, DecidableEq

/-- the class of every location, and the owning thread of the confined ones -/
structure Discipline where
  cls : Nat → LocClass
  owner : Nat → Nat

def Obeys (D : Discipline) (e : Ev) : Prop :=
  match D.cls e.loc with
  | .atomicOnly => e.priv = true ∨ e.acc.isPlain = false
  | .locked m => e.priv = true ∨ ∃ md, (m, md) ∈ e.held ∧ (e.acc.isWrite = true → md = .W)
  | .immutable => e.priv = true ∨ e.acc.isWrite = false
  | .confined => e.tid = D.owner e.loc

theorem Race.published {E : Exec} {i j : Nat} {ei ej : Ev} (hi : E.evs[i]? = some ei)
    (hj : E.evs[j]? = some ej) (hl : ei.loc = ej.loc) (ht : ei.tid ≠ ej.tid)
    (h1 : ¬ E.hb i j) (h2 : ¬ E.hb j i) : ei.priv = false ∧ ej.priv = false := by
  cases hpi : ei.priv <;> cases hpj : ej.priv
  · exact ⟨rfl, rfl⟩
  · exact absurd (E.publish_edge j i ej ei hj hi hl.symm (Ne.symm ht) hpj hpi) h2
  · exact absurd (E.publish_edge i j ei ej hi hj hl ht hpi hpj) h1
  · exact absurd (E.priv_owner i j ei ej hi hj hl hpi hpj) ht

/-- **Disciplined programs are data-race free**: if every access of an execution obeys the
synchronisation class of its location, no two accesses race. -/
theorem disciplined_drf (E : Exec) (D : Discipline) (h : ∀ e ∈ E.evs, Obeys D e) :
    ∀ i j, ¬ Race E i j := by
  rintro i j ⟨ei, ej, hi, hj, hne, ht, hl, hw, hp, h1, h2⟩
  have oi := h ei (List.mem_of_getElem? hi)
  have oj := h ej (List.mem_of_getElem? hj)
  obtain ⟨hpi, hpj⟩ := Race.published hi hj hl ht h1 h2
  unfold Obeys at oi oj
  rw [← hl] at oj
  simp only [hpi, hpj, Bool.false_eq_true, false_or] at oi oj
  cases hc : D.cls ei.loc <;> rw [hc] at oi oj
  case atomicOnly =>
    rcases hp with hp | hp
    · rw [oi] at hp; cases hp
    · rw [oj] at hp; cases hp
  case locked m =>
    obtain ⟨mi, hmi, hwi⟩ := oi
    obtain ⟨mj, hmj, hwj⟩ := oj
    have hW : mi = .W ∨ mj = .W := hw.elim (fun x => Or.inl (hwi x)) (fun x => Or.inr (hwj x))
    rcases Nat.lt_or_gt_of_ne hne with hlt | hlt
    · exact h1 (E.lock_edge i j ei ej m mi mj hi hj hlt ht hmi hmj hW)
    · exact h2 (E.lock_edge j i ej ei m mj mi hj hi hlt (Ne.symm ht) hmj hmi hW.symm)
  case immutable =>
    rcases hw with hw | hw
    · rw [oi] at hw; cases hw
    · rw [oj] at hw; cases hw
  case confined => exact ht (oi.trans (by rw [oj, hl]))

/-- a two-event trace with no synchronisation at all -/
def twoEvents (e0 e1 : Ev) (ht : e0.tid ≠ e1.tid)
    (hlock : ∀ m mi mj, (m, mi) ∈ e0.held → (m, mj) ∈ e1.held → ¬ (mi = .W ∨ mj = .W))
    (hp0 : e0.priv = false) (hp1 : e1.priv = false) : Exec where
  evs := [e0, e1]
  hb := fun _ _ => False
  hb_lt := by intro _ _ h; exact h.elim
  hb_trans := by intro _ _ _ h; exact h.elim
  hb_po := by
    intro i j ei ej hi hj hlt htid
    match i, j with
    | 0, 0 => omega
    | 0, 1 => simp at hi hj; subst hi hj; exact ht htid
    | 1, 0 => omega
    | 1, 1 => omega
    | _ + 2, _ => simp at hi
    | _, _ + 2 => simp at hj
  lock_edge := by
    intro i j ei ej m mi mj hi hj hlt _ h0 h1 hW
    match i, j with
    | 0, 0 => omega
    | 0, 1 => simp at hi hj; subst hi hj; exact hlock m mi mj h0 h1 hW
    | 1, 0 => omega
    | 1, 1 => omega
    | _ + 2, _ => simp at hi
    | _, _ + 2 => simp at hj
  publish_edge := by
    intro i j ei ej hi hj _ _ hpi _
    match i with
    | 0 => simp at hi; subst hi; rw [hp0] at hpi; cases hpi
    | 1 => simp at hi; subst hi; rw [hp1] at hpi; cases hpi
    | _ + 2 => simp at hi
  priv_owner := by
    intro i j ei ej hi hj _ hpi _
    match i with
    | 0 => simp at hi; subst hi; rw [hp0] at hpi; cases hpi
    | 1 => simp at hi; subst hi; rw [hp1] at hpi; cases hpi
    | _ + 2 => simp at hi

theorem twoEvents_race {e0 e1 : Ev} (ht : e0.tid ≠ e1.tid)
    (hlock : ∀ m mi mj, (m, mi) ∈ e0.held → (m, mj) ∈ e1.held → ¬ (mi = .W ∨ mj = .W))
    (hp0 : e0.priv = false) (hp1 : e1.priv = false) (hl : e0.loc = e1.loc)
    (hw : e0.acc.isWrite = true ∨ e1.acc.isWrite = true) (hp : e0.acc.isPlain = true ∨ e1.acc.isPlain = true) :
    Race (twoEvents e0 e1 ht hlock hp0 hp1) 0 1 :=
  ⟨e0, e1, rfl, rfl, Nat.zero_ne_one, ht, hl, hw, hp, id, id⟩

/-- a plain write and a plain read of the same published location by two threads, unsynchronised -/
def racyAtomicOnly : Exec :=
  twoEvents ⟨0, 0, .plainW, [], false⟩ ⟨1, 0, .plainR, [], false⟩ (by decide)
    (by intro m mi mj h; cases h) rfl rfl

theorem racyAtomicOnly_race : Race racyAtomicOnly 0 1 :=
  twoEvents_race _ _ rfl rfl rfl (.inl rfl) (.inl rfl)

/-- the plain accesses of `racyAtomicOnly` violate the class `atomicOnly` of the location (the obligation
is not vacuous: replacing an atomic access by a plain one is what `Obeys` forbids) -/
example : ¬ ∀ e ∈ racyAtomicOnly.evs, Obeys ⟨fun _ => .atomicOnly, fun _ => 0⟩ e := by
  intro h
  exact disciplined_drf racyAtomicOnly _ h 0 1 racyAtomicOnly_race

example : ¬ Obeys ⟨fun _ => .atomicOnly, fun _ => 0⟩ ⟨0, 0, .plainW, [], false⟩ := by
  simp [Obeys, Acc.isPlain]

/-- a plain write made under the READ lock and a plain read under the read lock: read-mode critical
sections are not ordered w.r.t. each other, so this races — "writes in write mode" is needed -/
def racyLockedR : Exec :=
  twoEvents ⟨0, 0, .plainW, [(7, .R)], false⟩ ⟨1, 0, .plainR, [(7, .R)], false⟩ (by decide)
    (by intro m mi mj h0 h1; simp at h0 h1; rw [h0.2, h1.2]; simp) rfl rfl

theorem racyLockedR_race : Race racyLockedR 0 1 :=
  twoEvents_race _ _ rfl rfl rfl (.inl rfl) (.inl rfl)

example : ¬ Obeys ⟨fun _ => .locked 7, fun _ => 0⟩ ⟨0, 0, .plainW, [(7, .R)], false⟩ := by
  simp [Obeys, Acc.isWrite]

/-- a disciplined execution with real conflicts: thread 0 initialises location 0 while it is private,
then threads 1 and 2 write and read it under lock 7 (write mode / read mode); happens-before is the
trace order (publication edge, then lock edges) -/
def lockedExec : Exec where
  evs := [⟨0, 0, .plainW, [], true⟩, ⟨1, 0, .plainW, [(7, .W)], false⟩, ⟨2, 0, .plainR, [(7, .R)], false⟩]
  hb := fun i j => i < j
  hb_lt := fun _ _ h => h
  hb_trans := fun _ _ _ => Nat.lt_trans
  hb_po := by intro i j _ _ _ _ h _; exact h
  lock_edge := by intro i j _ _ _ _ _ _ _ h _ _ _ _; exact h
  publish_edge := by
    intro i j ei ej hi hj _ _ hpi hpj
    match i, j with
    | 0, 0 => simp at hi hj; subst hi hj; simp at hpj
    | 0, _ + 1 => exact Nat.succ_pos _
    | 1, _ => simp at hi; subst hi; simp at hpi
    | 2, _ => simp at hi; subst hi; simp at hpi
    | _ + 3, _ => simp at hi
  priv_owner := by
    intro i j ei ej hi hj _ hpi hpj
    match i, j with
    | 0, 0 => simp at hi hj; subst hi hj; rfl
    | _, 1 => simp at hj; subst hj; simp at hpj
    | _, 2 => simp at hj; subst hj; simp at hpj
    | _, _ + 3 => simp at hj
    | 1, _ => simp at hi; subst hi; simp at hpi
    | 2, _ => simp at hi; subst hi; simp at hpi
    | _ + 3, _ => simp at hi

theorem lockedExec_obeys : ∀ e ∈ lockedExec.evs, Obeys ⟨fun _ => .locked 7, fun _ => 0⟩ e := by
  intro e he
  simp only [lockedExec, List.mem_cons, List.not_mem_nil, or_false] at he
  rcases he with rfl | rfl | rfl
  · exact Or.inl rfl
  · exact Or.inr ⟨.W, List.mem_cons_self, fun _ => rfl⟩
  · exact Or.inr ⟨.R, List.mem_cons_self, nofun⟩

/-- the theorem applies to it: three pairwise conflicting accesses, no race -/
example : ∀ i j, ¬ Race lockedExec i j := disciplined_drf _ _ lockedExec_obeys

end Garr.Disc
