import Garr.Conc

/-!
# Linearizability of all runs of a small-step machine, from linearization points

* `of_lp`: a history that is well-formed (`WF`) and whose LP markers replay legally through the
  specification is Herlihy–Wing linearizable, for operation ids of an arbitrary type.
* `wf_of_disciplined`: the history (`hist`) of every schedule of a `Garr.Conc.Machine` whose control
  flow obeys a local discipline on linearization points (`Disciplined`) is well-formed.
* `linearizable_of_refines`: with forward simulation at the LP steps (`Refines`), every run is
  linearizable.
* `Garr.Lin.Example`: a tiny counter machine satisfying all hypotheses (non-vacuity).
-/
namespace Garr.Lin

open Garr.Conc

inductive Ev (I Op Ret : Type) where
  | inv (k : I) (op : Op)      -- invocation of operation instance k
  | lp  (k : I) (r : Ret)      -- ghost: linearization point of k, with the result fixed there
  | res (k : I) (r : Ret)      -- response of k

def Ev.id {I Op Ret : Type} : Ev I Op Ret → I
  | .inv k _ => k
  | .lp k _ => k
  | .res k _ => k

deriving instance DecidableEq for Ev

structure Spec (Op Ret S : Type) where
  init : S
  apply : S → Op → S × Ret

variable {I Op Ret S : Type}

/-- a sequence of (operation, result) pairs is a legal sequential run from state `s` -/
def legal (sp : Spec Op Ret S) : S → List (Op × Ret) → Prop
  | _, [] => True
  | s, (op, r) :: rest => (sp.apply s op).2 = r ∧ legal sp (sp.apply s op).1 rest

/-- the state reached by a sequence of operations (results ignored) -/
def exec (sp : Spec Op Ret S) : S → List (Op × Ret) → S
  | s, [] => s
  | s, (op, _) :: rest => exec sp (sp.apply s op).1 rest

theorem legal_append (sp : Spec Op Ret S) (s : S) (a b : List (Op × Ret)) :
    legal sp s (a ++ b) ↔ legal sp s a ∧ legal sp (exec sp s a) b := by
  induction a generalizing s with
  | nil => simp [legal, exec]
  | cons x a ih =>
    obtain ⟨op, r⟩ := x
    simp [legal, exec, ih, and_assoc]

theorem exec_append (sp : Spec Op Ret S) (s : S) (a b : List (Op × Ret)) :
    exec sp s (a ++ b) = exec sp (exec sp s a) b := by
  induction a generalizing s with
  | nil => simp [exec]
  | cons x a ih =>
    obtain ⟨op, r⟩ := x
    simp [exec, ih]

/-- ids of the LP markers, in history order -/
def lpIds : List (Ev I Op Ret) → List I
  | [] => []
  | .lp k _ :: h => k :: lpIds h
  | _ :: h => lpIds h

theorem lpIds_append (a b : List (Ev I Op Ret)) : lpIds (a ++ b) = lpIds a ++ lpIds b := by
  induction a with
  | nil => rfl
  | cons e a ih => cases e <;> simp [lpIds, ih]

theorem mem_lpIds {h : List (Ev I Op Ret)} {k : I} : k ∈ lpIds h ↔ ∃ r, Ev.lp k r ∈ h := by
  induction h with
  | nil => simp [lpIds]
  | cons e h ih => cases e <;> simp [lpIds, ih, exists_or]

/-- `k1` responded before `k2` was invoked -/
def precedes (h : List (Ev I Op Ret)) (k1 k2 : I) : Prop :=
  ∃ r op A B C, h = A ++ [Ev.res k1 r] ++ B ++ [Ev.inv k2 op] ++ C

def before (l : List I) (k1 k2 : I) : Prop := ∃ X Y Z, l = X ++ [k1] ++ Y ++ [k2] ++ Z

/-- Herlihy–Wing linearizability of a history (pending operations may or may not be included) -/
def Linearizable (sp : Spec Op Ret S) (h : List (Ev I Op Ret)) : Prop :=
  ∃ (l : List I) (opOf : I → Op) (retOf : I → Ret),
    l.Nodup ∧
    (∀ k, k ∈ l → Ev.inv k (opOf k) ∈ h) ∧
    (∀ k r, Ev.res k r ∈ h → k ∈ l ∧ retOf k = r) ∧
    (∀ k1 k2, k1 ∈ l → k2 ∈ l → precedes h k1 k2 → before l k1 k2) ∧
    legal sp sp.init (l.map (fun k => (opOf k, retOf k)))

/-- what the machines' ghost logs satisfy -/
structure WF (h : List (Ev I Op Ret)) (opOf : I → Op) (retOf : I → Ret) : Prop where
  inv_op : ∀ k op, Ev.inv k op ∈ h → opOf k = op
  lp_ret : ∀ k r, Ev.lp k r ∈ h → retOf k = r
  lp_unique : (lpIds h).Nodup
  lp_after_inv : ∀ P Q k r, h = P ++ [Ev.lp k r] ++ Q → Ev.inv k (opOf k) ∈ P
  inv_unique : ∀ P Q k op, h = P ++ [Ev.inv k op] ++ Q → ∀ op', Ev.inv k op' ∉ P
  res_after_lp : ∀ P Q k r, h = P ++ [Ev.res k r] ++ Q → Ev.lp k r ∈ P

theorem mem_split {α : Type} {a : α} {l : List α} (h : a ∈ l) : ∃ s t, l = s ++ [a] ++ t := by
  obtain ⟨s, t, rfl⟩ := List.append_of_mem h
  exact ⟨s, t, by simp⟩

theorem WF.lp_not_before_inv {h : List (Ev I Op Ret)} {opOf : I → Op} {retOf : I → Ret} (wf : WF h opOf retOf)
    {P Q : List (Ev I Op Ret)} {k : I} {op : Op} (hPQ : h = P ++ [Ev.inv k op] ++ Q) (r : Ret) :
    Ev.lp k r ∉ P := by
  intro hin
  obtain ⟨s, t, rfl⟩ := mem_split hin
  have := wf.lp_after_inv s (t ++ [Ev.inv k op] ++ Q) k r (by rw [hPQ]; simp)
  exact wf.inv_unique _ Q k op hPQ _ (List.mem_append_left t (List.mem_append_left _ this))

theorem of_lp (sp : Spec Op Ret S) (h : List (Ev I Op Ret)) (opOf : I → Op) (retOf : I → Ret)
    (wf : WF h opOf retOf)
    (hlegal : legal sp sp.init ((lpIds h).map (fun k => (opOf k, retOf k)))) :
    Linearizable sp h := by
  refine ⟨lpIds h, opOf, retOf, wf.lp_unique, ?_, ?_, ?_, hlegal⟩
  · intro k hk
    obtain ⟨r, hr⟩ := mem_lpIds.mp hk
    obtain ⟨P, Q, hPQ⟩ := mem_split hr
    have := wf.lp_after_inv P Q k r hPQ
    rw [hPQ]; simp [this]
  · intro k r hres
    obtain ⟨P, Q, hPQ⟩ := mem_split hres
    have hlp := wf.res_after_lp P Q k r hPQ
    have hlp' : Ev.lp k r ∈ h := by rw [hPQ]; simp [hlp]
    exact ⟨mem_lpIds.mpr ⟨r, hlp'⟩, wf.lp_ret k r hlp'⟩
  · -- `k1` responded before `k2` was invoked: the LP of `k1` lies before its response, the LP of
    -- `k2` after its invocation
    intro k1 k2 _ hk2 hprec
    obtain ⟨r, op, A, B, C, hABC⟩ := hprec
    have h1 : Ev.lp k1 r ∈ A := wf.res_after_lp A (B ++ [Ev.inv k2 op] ++ C) k1 r (by rw [hABC]; simp)
    obtain ⟨r2, hr2⟩ := mem_lpIds.mp hk2
    rw [hABC] at hr2
    have h2 : Ev.lp k2 r2 ∈ C := (List.mem_append.mp hr2).resolve_left fun hm =>
      (List.mem_append.mp hm).elim (wf.lp_not_before_inv hABC r2) fun hI => nomatch List.mem_singleton.mp hI
    obtain ⟨a1, a2, rfl⟩ := mem_split h1
    obtain ⟨c1, c2, rfl⟩ := mem_split h2
    refine ⟨lpIds a1, lpIds a2 ++ lpIds ([Ev.res k1 r] ++ B ++ [Ev.inv k2 op]) ++ lpIds c1, lpIds c2, ?_⟩
    rw [hABC]
    simp [lpIds_append, lpIds]

/-! ### Histories built event by event

`WFH` is the "online" form of well-formedness: each event is admissible w.r.t. the prefix before
it (`EvOK`).  It is what a machine invariant establishes; `WFH.toWF` converts it to `WF`. -/

def EvOK (P : List (Ev I Op Ret)) : Ev I Op Ret → Prop
  | .inv k _ => ∀ op', Ev.inv k op' ∉ P
  | .lp k _ => (∃ op, Ev.inv k op ∈ P) ∧ ∀ r', Ev.lp k r' ∉ P
  | .res k r => Ev.lp k r ∈ P

inductive WFH : List (Ev I Op Ret) → Prop
  | nil : WFH []
  | snoc {H e} : WFH H → EvOK H e → WFH (H ++ [e])

theorem WFH.pre {H : List (Ev I Op Ret)} (h : WFH H) :
    ∀ P Q x, H = P ++ [x] ++ Q → EvOK P x := by
  induction h with
  | nil => intro P Q x h; simp at h
  | snoc _ hok ih =>
    intro P Q x hPQ
    -- `x` is the new last event, or `Q` ends in it
    rcases List.eq_nil_or_concat Q with rfl | ⟨Q', e', rfl⟩
    · rw [List.append_nil] at hPQ
      obtain ⟨rfl, hx⟩ := List.append_inj' hPQ rfl
      cases hx
      exact hok
    · rw [List.concat_eq_append, ← List.append_assoc] at hPQ
      exact ih P Q' x (List.append_inj' hPQ rfl).1

theorem WFH.lp_unique {H : List (Ev I Op Ret)} (h : WFH H) : (lpIds H).Nodup := by
  induction h with
  | nil => exact .nil
  | @snoc H e _ hok ih =>
    rw [lpIds_append]
    cases e with
    | lp k r =>
      refine List.nodup_append.mpr ⟨ih, List.pairwise_singleton _ k, fun a ha b hb hab => ?_⟩
      obtain ⟨r', hr'⟩ := mem_lpIds.mp ha
      cases List.mem_singleton.mp hb
      exact hok.2 r' (hab ▸ hr')
    | _ => simpa [lpIds] using ih

/-- two events each of which excludes the other from the prefix before it occur at most once between
them: an instance has one invocation and one LP marker -/
theorem WFH.unique {H : List (Ev I Op Ret)} (h : WFH H) {e e' : Ev I Op Ret}
    (hee' : ∀ P, EvOK P e' → e ∉ P) (he'e : ∀ P, EvOK P e → e' ∉ P) : e ∈ H → e' ∈ H → e = e' := by
  induction h with
  | nil => intro h1; cases h1
  | @snoc H x _ hok ih =>
    intro h1 h2
    rcases List.mem_append.mp h1 with a1 | a1 <;> rcases List.mem_append.mp h2 with a2 | a2
    · exact ih a1 a2
    · exact absurd a1 (hee' H (List.mem_singleton.mp a2 ▸ hok))
    · exact absurd a2 (he'e H (List.mem_singleton.mp a1 ▸ hok))
    · exact (List.mem_singleton.mp a1).trans (List.mem_singleton.mp a2).symm

/-- the operation of instance `k` according to the history (arbitrary if `k` was never invoked) -/
noncomputable def opOfH [Nonempty Op] (H : List (Ev I Op Ret)) (k : I) : Op :=
  Classical.epsilon fun op => Ev.inv k op ∈ H

/-- the result of instance `k` according to the history's LP marker (arbitrary if none) -/
noncomputable def retOfH [Nonempty Ret] (H : List (Ev I Op Ret)) (k : I) : Ret :=
  Classical.epsilon fun r => Ev.lp k r ∈ H

theorem WFH.toWF [Nonempty Op] [Nonempty Ret] {H : List (Ev I Op Ret)} (h : WFH H) :
    WF H (opOfH H) (retOfH H) := by
  have hop : ∀ k op, Ev.inv k op ∈ H → opOfH H k = op := fun k op hin =>
    (Ev.inv.inj (h.unique (fun _ hP => hP _) (fun _ hP => hP _) (Classical.epsilon_spec (p := fun op => Ev.inv k op ∈ H) ⟨op, hin⟩) hin)).2
  have hret : ∀ k r, Ev.lp k r ∈ H → retOfH H k = r := fun k r hin =>
    (Ev.lp.inj (h.unique (fun _ hP => hP.2 _) (fun _ hP => hP.2 _) (Classical.epsilon_spec (p := fun r => Ev.lp k r ∈ H) ⟨r, hin⟩) hin)).2
  refine ⟨hop, hret, h.lp_unique, fun P Q k r hPQ => ?_, fun P Q _ _ => h.pre P Q _,
    fun P Q _ _ => h.pre P Q _⟩
  obtain ⟨op, hin⟩ := (h.pre P Q _ hPQ).1
  rw [hop k op (by rw [hPQ]; simp [hin])]
  exact hin

/-- where a thread is w.r.t. its current specification operation -/
inductive Phase (Ret : Type) where
  | idle
  | pending
  | done (r : Ret)

/-- a classified observation: linearization-point marker or response -/
inductive Mk (Ret : Type) where
  | lp (r : Ret)
  | res (r : Ret)

def Mk.toEv {I Op Ret : Type} (k : I) : Mk Ret → Ev I Op Ret
  | .lp r => .lp k r
  | .res r => .res k r

def nres {Ret : Type} : List (Mk Ret) → Nat
  | [] => 0
  | .res _ :: m => nres m + 1
  | .lp _ :: m => nres m

/-- how a machine's actions/observations are read as history events -/
structure View (M : Machine) (Op Ret : Type) where
  /-- taking action `a` in local state `l` is the invocation of specification operation `op` -/
  invOf : M.L → M.Act → Option Op
  /-- the observation (made by a step from local state `l`) is a linearization-point marker
  carrying the result fixed there -/
  lpOf  : M.L → M.Obs → Option Ret
  /-- the observation (made by a step from local state `l`) is the response of a specification
  operation -/
  resOf : M.L → M.Obs → Option Ret
  ph    : M.L → Phase Ret
  /-- the specification operation the thread is executing while `pending` -/
  curOp : M.L → Option Op

variable {M : Machine}

/-- classify one observation (`lpOf` wins; `Disciplined.not_both` says there is never a conflict) -/
def View.mk? (V : View M Op Ret) (l : M.L) (o : M.Obs) : Option (Mk Ret) :=
  match V.lpOf l o, V.resOf l o with
  | some r, _ => some (.lp r)
  | none, some r => some (.res r)
  | none, none => none

/-- the LP/response markers among the observations of one step, in order
(`= obs.filterMap (V.mk? l)`, see `View.evs_eq_filterMap`; defined by recursion so that
`simp [View.evs, View.mk?]` evaluates it on concrete observation lists) -/
def View.evs (V : View M Op Ret) (l : M.L) : List M.Obs → List (Mk Ret)
  | [] => []
  | o :: os =>
    match V.mk? l o with
    | some m => m :: V.evs l os
    | none => V.evs l os

theorem View.evs_eq_filterMap (V : View M Op Ret) (l : M.L) (obs : List M.Obs) :
    V.evs l obs = obs.filterMap (V.mk? l) := by
  induction obs with
  | nil => rfl
  | cons o os ih =>
    simp only [View.evs, List.filterMap_cons, ih]
    cases V.mk? l o <;> rfl

/-- the history events of one enabled step of thread `t` whose current operation index is `n` -/
def stepEvs (V : View M Op Ret) (t : Tid) (n : Nat) (l : M.L) (a : M.Act) (obs : List M.Obs) :
    List (Ev (Nat × Nat) Op Ret) :=
  (match V.invOf l a with
    | some op => [Ev.inv (t, n) op]
    | none => []) ++ (V.evs l obs).map (Mk.toEv (t, n))

/-- The history of a schedule executed from configuration `c` (parallel to `Garr.Conc.run`;
disabled steps are skipped).  `cnt t` is the number of specification operations thread `t` has
*completed* (responded to) so far; the id of the current (or next) operation of `t` is
`(t, cnt t)`. -/
def hist (V : View M Op Ret) :
    Config M → (Tid → Nat) → List (Tid × M.Act) → List (Ev (Nat × Nat) Op Ret)
  | _, _, [] => []
  | c, cnt, (t, a) :: rest =>
    match M.step t c.g (c.l t) a with
    | none => hist V c cnt rest
    | some (g', l', obs) =>
      stepEvs V t (cnt t) (c.l t) a obs ++
        hist V ⟨g', upd c.l t l'⟩ (upd cnt t (cnt t + nres (V.evs (c.l t) obs))) rest

/-- the local linearization-point discipline of a machine's control flow -/
structure Disciplined (M : Machine) (V : View M Op Ret) : Prop where
  idle0 : V.ph M.idle = .idle
  not_both : ∀ l o, V.lpOf l o = none ∨ V.resOf l o = none
  idle_step : ∀ t g l a g' l' obs, M.step t g l a = some (g', l', obs) → V.ph l = .idle →
    V.evs l obs = [] ∧
    (V.invOf l a = none → V.ph l' = .idle) ∧
    (∀ op, V.invOf l a = some op → V.ph l' = .pending ∧ V.curOp l' = some op)
  pending_step : ∀ t g l a g' l' obs, M.step t g l a = some (g', l', obs) → V.ph l = .pending →
    V.invOf l a = none ∧
    ((V.evs l obs = [] ∧ V.ph l' = .pending ∧ V.curOp l' = V.curOp l) ∨
     (∃ r, V.evs l obs = [.lp r] ∧ V.ph l' = .done r) ∨
     (∃ r, V.evs l obs = [.lp r, .res r] ∧ V.ph l' = .idle))
  done_step : ∀ t g l a g' l' obs r, M.step t g l a = some (g', l', obs) → V.ph l = .done r →
    V.invOf l a = none ∧
    ((V.evs l obs = [] ∧ V.ph l' = .done r) ∨
     (V.evs l obs = [.res r] ∧ V.ph l' = .idle))

theorem hist_invariant (V : View M Op Ret)
    (P : Config M → (Tid → Nat) → List (Ev (Nat × Nat) Op Ret) → Prop)
    (hstep : ∀ {c cnt H t a g' l' obs}, P c cnt H → M.step t c.g (c.l t) a = some (g', l', obs) →
      P ⟨g', upd c.l t l'⟩ (upd cnt t (cnt t + nres (V.evs (c.l t) obs)))
        (H ++ stepEvs V t (cnt t) (c.l t) a obs))
    (s : List (Tid × M.Act)) :
    ∀ c cnt H, P c cnt H → ∃ cnt', P (run M c s).1 cnt' (H ++ hist V c cnt s) := by
  induction s with
  | nil => intro c cnt H h; exact ⟨cnt, by rw [hist, List.append_nil]; exact h⟩
  | cons ta rest ih =>
    obtain ⟨t, a⟩ := ta
    intro c cnt H h
    cases hs : M.step t c.g (c.l t) a with
    | none =>
      simp only [run, hist, hs]
      exact ih c cnt H h
    | some x =>
      obtain ⟨g', l', obs⟩ := x
      simp only [run, hist, hs]
      have := ih _ _ _ (hstep h hs)
      rwa [← List.append_assoc]

/-- ghost invariant of one thread `t` whose current operation index is `n`: no event of a later
operation of `t` is in the history `H`, and those of operation `n` are as the phase says -/
def Thr (t : Tid) (H : List (Ev (Nat × Nat) Op Ret)) (n : Nat) (ph : Phase Ret) (cu : Option Op) : Prop :=
  (∀ e ∈ H, e.id.1 = t → e.id.2 ≤ n) ∧
  match ph with
  | .idle => ∀ e ∈ H, e.id.1 = t → e.id.2 ≠ n
  | .pending => (∃ op, cu = some op ∧ Ev.inv (t, n) op ∈ H) ∧ ∀ r, Ev.lp (t, n) r ∉ H
  | .done r => Ev.lp (t, n) r ∈ H

theorem Thr.other {t : Tid} {H E : List (Ev (Nat × Nat) Op Ret)} {n : Nat} {ph : Phase Ret}
    {cu : Option Op} (hE : ∀ e ∈ E, e.id.1 ≠ t) (h : Thr t H n ph cu) : Thr t (H ++ E) n ph cu := by
  refine ⟨List.forall_mem_append.mpr ⟨h.1, fun e he het => absurd het (hE e he)⟩, ?_⟩
  cases ph with
  | idle => exact List.forall_mem_append.mpr ⟨h.2, fun e he het => absurd het (hE e he)⟩
  | pending =>
    exact ⟨h.2.1.imp fun _ => And.imp_right (List.mem_append_left _),
      fun r => List.not_mem_append (h.2.2 r) fun he => hE _ he rfl⟩
  | done r => exact List.mem_append_left _ h.2

theorem forall_mem_snoc {α : Type} {p : α → Prop} {H : List α} {x : α} (h : ∀ e ∈ H, p e) (hx : p x) :
    ∀ e ∈ H ++ [x], p e :=
  List.forall_mem_append.mpr ⟨h, List.forall_mem_singleton.mpr hx⟩

/-! The three events of an operation: each is admissible after a well-formed history in which the
thread is in the phase before it, and moves the thread to the next phase. -/

theorem Thr.inv {t : Tid} {H : List (Ev (Nat × Nat) Op Ret)} {n : Nat} {cu : Option Op} {op : Op}
    (hwf : WFH H) (h : Thr t H n .idle cu) :
    WFH (H ++ [Ev.inv (t, n) op]) ∧ Thr t (H ++ [Ev.inv (t, n) op]) n .pending (some op) :=
  ⟨.snoc hwf fun _ hin => h.2 _ hin rfl rfl, forall_mem_snoc h.1 (fun _ => Nat.le_refl _),
    ⟨op, rfl, List.mem_concat_self⟩,
    fun _ => List.not_mem_append (fun hr => h.2 _ hr rfl rfl) (fun he => nomatch List.mem_singleton.mp he)⟩

theorem Thr.lp {t : Tid} {H : List (Ev (Nat × Nat) Op Ret)} {n : Nat} {cu cu' : Option Op} {r : Ret}
    (hwf : WFH H) (h : Thr t H n .pending cu) :
    WFH (H ++ [Ev.lp (t, n) r]) ∧ Thr t (H ++ [Ev.lp (t, n) r]) n (.done r) cu' :=
  ⟨.snoc hwf ⟨h.2.1.imp fun _ => And.right, h.2.2⟩,
   forall_mem_snoc h.1 (fun _ => Nat.le_refl _), List.mem_concat_self⟩

/-- the response closes operation `n`: nothing of operation `n + 1` is in the history yet -/
theorem Thr.res {t : Tid} {H : List (Ev (Nat × Nat) Op Ret)} {n : Nat} {cu cu' : Option Op} {r : Ret}
    (hwf : WFH H) (h : Thr t H n (.done r) cu) :
    WFH (H ++ [Ev.res (t, n) r]) ∧ Thr t (H ++ [Ev.res (t, n) r]) (n + 1) .idle cu' :=
  ⟨.snoc hwf h.2,
   forall_mem_snoc (fun e he het => Nat.le_succ_of_le (h.1 e he het)) (fun _ => Nat.le_succ n),
   forall_mem_snoc (fun e he het => Nat.ne_of_lt (Nat.lt_succ_of_le (h.1 e he het)))
     (fun _ => Nat.ne_of_lt (Nat.lt_succ_self n))⟩

/-- What a step does to the acting thread, whose current operation has id `k`: phase and current
operation before, the markers and the history events of the step, phase and current operation after.
The seven kinds are the cases of `Disciplined`'s three `_step` fields (`tr_of_step`). -/
inductive Tr (k : I) :
    Phase Ret → Option Op → List (Mk Ret) → List (Ev I Op Ret) → Phase Ret → Option Op → Prop
  | idle {cu cu'} : Tr k .idle cu [] [] .idle cu'
  | call {cu} op : Tr k .idle cu [] [.inv k op] .pending (some op)
  | pend {cu} : Tr k .pending cu [] [] .pending cu
  | lp {cu cu'} r : Tr k .pending cu [.lp r] [.lp k r] (.done r) cu'
  | lpres {cu cu'} r : Tr k .pending cu [.lp r, .res r] [.lp k r, .res k r] .idle cu'
  | done {cu cu'} r : Tr k (.done r) cu [] [] (.done r) cu'
  | res {cu cu'} r : Tr k (.done r) cu [.res r] [.res k r] .idle cu'

theorem tr_of_step {V : View M Op Ret} (D : Disciplined M V) {t : Tid} {n : Nat} {g g' : M.G}
    {l l' : M.L} {a : M.Act} {obs : List M.Obs} (hs : M.step t g l a = some (g', l', obs)) :
    Tr (t, n) (V.ph l) (V.curOp l) (V.evs l obs) (stepEvs V t n l a obs) (V.ph l') (V.curOp l') := by
  unfold stepEvs
  cases hph : V.ph l with
  | idle =>
    obtain ⟨hevs, hnone, hsome⟩ := D.idle_step t g l a g' l' obs hs hph
    rw [hevs]
    cases hinv : V.invOf l a with
    | none => rw [hnone hinv]; exact .idle
    | some op => rw [(hsome op hinv).1, (hsome op hinv).2]; exact .call op
  | pending =>
    obtain ⟨hinv, ⟨hevs, hp, hc⟩ | ⟨r, hevs, hp⟩ | ⟨r, hevs, hp⟩⟩ := D.pending_step t g l a g' l' obs hs hph <;>
      rw [hinv, hevs, hp]
    · rw [hc]; exact .pend
    · exact .lp r
    · exact .lpres r
  | done r =>
    obtain ⟨hinv, ⟨hevs, hp⟩ | ⟨hevs, hp⟩⟩ := D.done_step t g l a g' l' obs r hs hph <;> rw [hinv, hevs, hp]
    · exact .done r
    · exact .res r

theorem tr_id {k : I} {ph ph' : Phase Ret} {cu cu' : Option Op} {ms : List (Mk Ret)} {E : List (Ev I Op Ret)}
    (h : Tr k ph cu ms E ph' cu') : ∀ e ∈ E, e.id = k := by
  induction h with
  | idle | pend | done => nofun
  | lpres => exact List.forall_mem_cons.mpr ⟨rfl, List.forall_mem_singleton.mpr rfl⟩
  | _ => exact List.forall_mem_singleton.mpr rfl

def Good (V : View M Op Ret) (c : Config M) (cnt : Tid → Nat)
    (H : List (Ev (Nat × Nat) Op Ret)) : Prop :=
  WFH H ∧ ∀ t, Thr t H (cnt t) (V.ph (c.l t)) (V.curOp (c.l t))

theorem good_init {V : View M Op Ret} (D : Disciplined M V) :
    Good V (Config.init M) (fun _ => 0) [] := by
  refine ⟨WFH.nil, fun t => ?_⟩
  show Thr t [] 0 (V.ph M.idle) (V.curOp M.idle)
  rw [D.idle0]
  exact ⟨nofun, nofun⟩

theorem tr_good {t : Tid} {n : Nat} {H E : List (Ev (Nat × Nat) Op Ret)} {ms : List (Mk Ret)}
    {ph ph' : Phase Ret} {cu cu' : Option Op} (h : Tr (t, n) ph cu ms E ph' cu') (hwf : WFH H)
    (hthr : Thr t H n ph cu) : WFH (H ++ E) ∧ Thr t (H ++ E) (n + nres ms) ph' cu' := by
  induction h with
  | idle | pend | done => rw [List.append_nil]; exact ⟨hwf, hthr⟩
  | call op => exact hthr.inv hwf
  | lp r => exact hthr.lp hwf
  | lpres r =>
    obtain ⟨hwf', hthr'⟩ := hthr.lp (r := r) (cu' := none) hwf
    rw [List.append_cons]
    exact hthr'.res hwf'
  | res r => exact hthr.res hwf

theorem good_step {V : View M Op Ret} (D : Disciplined M V) {c : Config M} {cnt : Tid → Nat}
    {H : List (Ev (Nat × Nat) Op Ret)} {t : Tid} {a : M.Act} {g' : M.G} {l' : M.L}
    {obs : List M.Obs} (h : Good V c cnt H) (hs : M.step t c.g (c.l t) a = some (g', l', obs)) :
    Good V ⟨g', upd c.l t l'⟩ (upd cnt t (cnt t + nres (V.evs (c.l t) obs)))
      (H ++ stepEvs V t (cnt t) (c.l t) a obs) := by
  obtain ⟨hwf, hthr⟩ := h
  have htr := tr_of_step D (n := cnt t) hs
  obtain ⟨hwf', ht'⟩ := tr_good htr hwf (hthr t)
  refine ⟨hwf', fun u => ?_⟩
  by_cases hu : u = t
  · subst hu
    simpa using ht'
  · simp only [upd_other _ _ _ _ hu]
    exact (hthr u).other fun e he h1 => hu (h1.symm.trans (congrArg Prod.fst (tr_id htr e he)))

/-- every history of a disciplined machine is well-formed. -/
theorem wf_of_disciplined [Nonempty Op] [Nonempty Ret] {V : View M Op Ret} (D : Disciplined M V)
    (s : List (Tid × M.Act)) :
    WF (hist V (Config.init M) (fun _ => 0) s)
      (opOfH (hist V (Config.init M) (fun _ => 0) s))
      (retOfH (hist V (Config.init M) (fun _ => 0) s)) := by
  obtain ⟨_, hwf, _⟩ := hist_invariant V (Good V) (good_step D) s
    (Config.init M) (fun _ => 0) [] (good_init D)
  exact hwf.toWF

/-- forward simulation: steps without an LP marker do not change the abstract state, a step with
marker `lp r` performs the thread's current specification operation with result `r` -/
structure Refines (M : Machine) (V : View M Op Ret) (sp : Spec Op Ret S) (abs : M.G → S)
    (Inv : Config M → Prop) : Prop where
  init : abs M.init = sp.init
  no_lp : ∀ (c : Config M) t a g' l' obs, Inv c → M.step t c.g (c.l t) a = some (g', l', obs) →
    (∀ r, Mk.lp r ∉ V.evs (c.l t) obs) → abs g' = abs c.g
  lp : ∀ (c : Config M) t a g' l' obs r op, Inv c →
    M.step t c.g (c.l t) a = some (g', l', obs) →
    Mk.lp r ∈ V.evs (c.l t) obs → V.curOp (c.l t) = some op → sp.apply (abs c.g) op = (abs g', r)

/-- replay invariant: for any `opOf`/`retOf` consistent with the history so far, the LP markers
replay legally through the specification and reach the abstraction of the shared state `g` -/
def Replay (sp : Spec Op Ret S) (abs : M.G → S) (g : M.G) (H : List (Ev (Nat × Nat) Op Ret)) :
    Prop :=
  ∀ (opOf : Nat × Nat → Op) (retOf : Nat × Nat → Ret),
    (∀ k op, Ev.inv k op ∈ H → opOf k = op) → (∀ k r, Ev.lp k r ∈ H → retOf k = r) →
    legal sp sp.init ((lpIds H).map (fun k => (opOf k, retOf k))) ∧
    exec sp sp.init ((lpIds H).map (fun k => (opOf k, retOf k))) = abs g

/-- one step preserves `Replay`, given what `Refines` says about it: without LP marker the replayed
sequence and the abstract state stay; with one, the pending operation (invoked in `H`) is appended
with the result of the marker (in `E`) -/
theorem tr_replay {sp : Spec Op Ret S} {abs : M.G → S} {g g' : M.G} {t : Tid} {n : Nat}
    {H E : List (Ev (Nat × Nat) Op Ret)} {ms : List (Mk Ret)} {ph ph' : Phase Ret} {cu cu' : Option Op}
    (h : Tr (t, n) ph cu ms E ph' cu') (hthr : Thr t H n ph cu) (hrep : Replay sp abs g H)
    (hno : (∀ r, Mk.lp r ∉ ms) → abs g' = abs g)
    (hlp : ∀ r op, Mk.lp r ∈ ms → cu = some op → sp.apply (abs g) op = (abs g', r)) :
    Replay sp abs g' (H ++ E) := by
  intro opOf retOf hop hret
  obtain ⟨hl, hx⟩ := hrep opOf retOf (fun k op hin => hop k op (List.mem_append_left _ hin))
    (fun k r hin => hret k r (List.mem_append_left _ hin))
  rw [lpIds_append]
  induction h with
  | lp r | lpres r =>
    obtain ⟨_, ⟨op, hcur, hin⟩, _⟩ := hthr
    have h1 : opOf (t, n) = op := hop _ op (List.mem_append_left _ hin)
    have h2 : retOf (t, n) = r := hret _ r (List.mem_append_right _ List.mem_cons_self)
    rw [List.map_append, legal_append, exec_append, hx]
    simp [lpIds, legal, exec, h1, h2, hlp r op List.mem_cons_self hcur, hl]
  | _ => exact (List.append_nil (lpIds H)).symm ▸ ⟨hl, hx.trans (hno nofun).symm⟩

theorem replay_hist {V : View M Op Ret} {sp : Spec Op Ret S} {abs : M.G → S}
    {Inv : Config M → Prop} (D : Disciplined M V) (R : Refines M V sp abs Inv)
    (hInv : ∀ c, Reach M c → Inv c) (s : List (Tid × M.Act)) :
    Replay sp abs (run M (Config.init M) s).1.g (hist V (Config.init M) (fun _ => 0) s) := by
  obtain ⟨_, _, _, h⟩ :=
    hist_invariant V (fun c cnt H => Reach M c ∧ Good V c cnt H ∧ Replay sp abs c.g H)
      (fun h hs =>
        ⟨Reach.step h.1 hs, good_step D h.2.1 hs,
          tr_replay (tr_of_step D hs) (h.2.1.2 _) h.2.2 (R.no_lp _ _ _ _ _ _ (hInv _ h.1) hs)
            fun r op => R.lp _ _ _ _ _ _ r op (hInv _ h.1) hs⟩)
      s (Config.init M) (fun _ => 0) [] ⟨Reach.init, good_init D, fun _ _ _ _ => ⟨trivial, R.init.symm⟩⟩
  simpa using h

/-- every run of a disciplined machine that refines `sp` at its linearization
points is linearizable. -/
theorem linearizable_of_refines [Nonempty Op] [Nonempty Ret] {V : View M Op Ret}
    {sp : Spec Op Ret S} {abs : M.G → S} {Inv : Config M → Prop}
    (D : Disciplined M V) (R : Refines M V sp abs Inv) (hInv : ∀ c, Reach M c → Inv c)
    (s : List (Tid × M.Act)) :
    Linearizable sp (hist V (Config.init M) (fun _ => 0) s) := by
  have wf := wf_of_disciplined D s
  exact of_lp sp _ _ _ wf (replay_hist D R hInv s _ _ wf.inv_op wf.lp_ret).1

/-! ## Non-vacuity: an atomic counter

`incr` takes an invocation step and one atomic step emitting `[lp 0, res 0]`; `read` takes an
invocation step, an atomic step emitting `[lp v]` and a separate response step emitting `[res v]`
(so all three phases occur); `nop` is an operation that is not part of the specification — its
response `res 7` is invisible because `resOf` looks at the local state.

The machine is `@[reducible]` so that `counter.G`, `counter.Obs`, … are seen as the concrete types
when the step obligations are discharged. -/
namespace Example

inductive CL where
  | idle | incr | read | readDone (v : Nat) | nop

inductive CAct where
  | callIncr | callRead | callNop | go

inductive CObs where
  | lp (r : Nat) | res (r : Nat) | note

inductive COp where
  | incr | read
deriving Inhabited

@[reducible] def counter : Machine where
  G := Nat
  L := CL
  Act := CAct
  Obs := CObs
  init := 0
  idle := .idle
  step := fun _ g l a =>
    match l, a with
    | .idle, .callIncr => some (g, .incr, [])
    | .idle, .callRead => some (g, .read, [])
    | .idle, .callNop => some (g, .nop, [.note])
    | .incr, .go => some (g + 1, .idle, [.lp 0, .note, .res 0])
    | .read, .go => some (g, .readDone g, [.lp g])
    | .readDone v, .go => some (g, .idle, [.res v])
    | .nop, .go => some (g, .idle, [.res 7])
    | _, _ => none

def counterSpec : Spec COp Nat Nat where
  init := 0
  apply := fun s op =>
    match op with
    | .incr => (s + 1, 0)
    | .read => (s, s)

def counterView : View counter COp Nat where
  invOf := fun (l : CL) (a : CAct) =>
    match l, a with
    | .idle, .callIncr => some .incr
    | .idle, .callRead => some .read
    | _, _ => none
  lpOf := fun (_ : CL) (o : CObs) => match o with | .lp r => some r | _ => none
  -- the response of the non-specification operation `nop` is invisible
  resOf := fun (l : CL) (o : CObs) => match l, o with | .nop, _ => none | _, .res r => some r | _, _ => none
  ph := fun (l : CL) =>
    match l with
    | .incr => .pending
    | .read => .pending
    | .readDone v => .done v
    | _ => .idle
  curOp := fun (l : CL) =>
    match l with
    | .incr => some .incr
    | .read => some .read
    | _ => none

/-- each obligation is checked on the enabled steps from the local states in the phase it speaks of -/
theorem counter_disciplined : Disciplined counter counterView where
  idle0 := rfl
  not_both := fun l o => by
    cases o with
    | lp => exact .inr (by cases l <;> rfl)
    | _ => exact .inl rfl
  idle_step := by
    intro t g l a g' l' obs hs hph
    cases l <;> cases hph <;> cases a <;> cases hs
    -- from `idle`: the invocations `callIncr`, `callRead`, then `callNop`; from `nop`: `go`
    iterate 2 exact ⟨rfl, nofun, fun _ h => ⟨rfl, h⟩⟩
    all_goals exact ⟨rfl, fun _ => rfl, nofun⟩
  pending_step := by
    intro t g l a g' l' obs hs hph
    cases l <;> cases hph <;> cases a <;> cases hs
    -- `go` from `incr`, from `read`
    · exact ⟨rfl, .inr (.inr ⟨0, rfl, rfl⟩)⟩
    · exact ⟨rfl, .inr (.inl ⟨_, rfl, rfl⟩)⟩
  done_step := by
    intro t g l a g' l' obs r hs hph
    cases l <;> cases hph <;> cases a <;> cases hs
    exact ⟨rfl, .inr ⟨rfl, rfl⟩⟩

theorem counter_refines : Refines counter counterView counterSpec (fun g => g) (fun _ => True) where
  init := rfl
  no_lp := by
    intro c t a g' l' obs _ hs hno
    generalize c.l t = l, c.g = g at hs hno ⊢
    cases l <;> cases a <;> cases hs
    case incr.go | read.go => exact (hno _ (List.mem_cons_self ..)).elim
    all_goals rfl
  lp := by
    intro c t a g' l' obs r op _ hs hlp hcur
    generalize c.l t = l, c.g = g at hs hlp hcur ⊢
    cases l <;> cases hcur <;> cases a <;> cases hs
    -- `go` from `incr`, from `read`
    · rcases hlp with _ | ⟨_, _ | ⟨_, ⟨⟩⟩⟩
      rfl
    · rcases hlp with _ | ⟨_, ⟨⟩⟩
      rfl

/-- every run of the counter machine, under any schedule of any number of threads, is
linearizable w.r.t. the sequential counter -/
theorem counter_linearizable (s : List (Tid × CAct)) :
    Linearizable counterSpec (hist counterView (Config.init counter) (fun _ => 0) s) :=
  linearizable_of_refines counter_disciplined counter_refines (fun _ _ => trivial) s

end Example

end Garr.Lin
