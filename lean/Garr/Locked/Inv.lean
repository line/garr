import Garr.Locked.Model
/-!
# The lock invariant of the generic mutex-protected object `Garr.Locked.M P`

For every program table `P` and every reachable configuration (`lockInv_reach`):

* `writer_iff`   — the writer flag is set iff some thread is between its `Lock` and `Unlock` (`inW`);
* `excl`         — at most one thread is `inW`;
* `writer_noreaders`, `LockInv.no_reader` — while a thread is `inW`, the reader count is 0 and no thread
  is between `RLock` and `RUnlock` (`inR`);
* `readers`      — the reader count is the number of threads that are `inR` (finite witness: a duplicate-free
  list of exactly those threads, whose length is the count);
* `wr_ok`        — THE data fact: a thread about to write back (`wr op loc`) is a writer and its local copy
  `loc` still equals the guarded state `g.st`: nobody wrote since its `rd`, by exclusion.

`StepK` is the inversion of `step` (one constructor per kind of step, `stepK_of_step`); the invariant is
preserved kind by kind (`LockInv.preserved`), through frame lemmas for the writer part
(`frameW`, `soleW`), the reader part (`frameR`, `enterR`, `leaveR`) and the data part (`wr_upd`).

`Prog.ReadsPure` is the well-formedness condition of a table (read-locked methods do not change the
state); it holds for `queueProg` and `adderProg`.
-/
namespace Garr.Locked
open Garr.Conc

variable {S Op Ret : Type}

/-- the thread is a writer between its `Lock` and its `Unlock` -/
def inW (P : Prog S Op Ret) : LL S Op Ret → Prop
  | .rd op => P.writes op = true
  | .wr op _ => P.writes op = true
  | .rel op _ => P.writes op = true
  | _ => False

/-- the thread is a reader between its `RLock` and its `RUnlock` -/
def inR (P : Prog S Op Ret) : LL S Op Ret → Prop
  | .rd op => P.writes op = false
  | .rel op _ => P.writes op = false
  | _ => False

theorem not_inW_inR (P : Prog S Op Ret) (x : LL S Op Ret) : inW P x → ¬ inR P x := by
  intro hW hR
  cases x with
  | rd | rel => exact Bool.noConfusion (hW.symm.trans hR)
  | wr => exact hR
  | _ => exact hW

inductive StepK (P : Prog S Op Ret) (g : LG S) :
    LL S Op Ret → LAct Op → LG S → LL S Op Ret → List (LObs Ret) → Prop
  | call (op : Op) : StepK P g .idle (.call op) g (.acq op) []
  | lock (op : Op) : P.writes op = true → g.writer = false → g.readers = 0 →
      StepK P g (.acq op) .tau { g with writer := true } (.rd op) [.lock]
  | rlock (op : Op) : P.writes op = false → g.writer = false →
      StepK P g (.acq op) .tau { g with readers := g.readers + 1 } (.rd op) [.rlock]
  | copy (op : Op) : P.writes op = true → StepK P g (.rd op) .tau g (.wr op g.st) []
  | read (op : Op) : P.writes op = false →
      StepK P g (.rd op) .tau g (.rel op (P.apply g.st op).2) [.lp (P.apply g.st op).2]
  | write (op : Op) (loc : S) :
      StepK P g (.wr op loc) .tau { g with st := (P.apply loc op).1 } (.rel op (P.apply loc op).2)
        [.lp (P.apply loc op).2]
  | unlock (op : Op) (r : Ret) : P.writes op = true →
      StepK P g (.rel op r) .tau { g with writer := false } (.retn r) [.unlock]
  | runlock (op : Op) (r : Ret) : P.writes op = false →
      StepK P g (.rel op r) .tau { g with readers := g.readers - 1 } (.retn r) [.runlock]
  | ret (r : Ret) : StepK P g (.retn r) .tau g .idle [.ret r]

theorem stepK_of_step {P : Prog S Op Ret} {t : Tid} {g g' : LG S} {x x' : LL S Op Ret} {a : LAct Op}
    {obs : List (LObs Ret)} (hs : (M P).step t g x a = some (g', x', obs)) : StepK P g x a g' x' obs := by
  change Locked.step P t g x a = _ at hs
  unfold Locked.step at hs
  split at hs
  next op => cases hs; exact .call op
  next op =>
    by_cases hw : P.writes op = true
    · rw [if_pos hw] at hs
      by_cases hfree : (g.writer || g.readers != 0) = true
      · rw [if_pos hfree] at hs; cases hs
      · rw [if_neg hfree] at hs; cases hs
        have := Bool.or_eq_false_iff.mp (Bool.eq_false_iff.mpr hfree)
        exact .lock op hw this.1 (bne_eq_false_iff_eq.mp this.2)
    · rw [if_neg hw] at hs
      by_cases hfree : g.writer = true
      · rw [if_pos hfree] at hs; cases hs
      · rw [if_neg hfree] at hs; cases hs
        exact .rlock op (Bool.eq_false_iff.mpr hw) (Bool.eq_false_iff.mpr hfree)
  next op =>
    by_cases hw : P.writes op = true
    · rw [if_pos hw] at hs; cases hs; exact .copy op hw
    · rw [if_neg hw] at hs; cases hs; exact .read op (Bool.eq_false_iff.mpr hw)
  next op loc => cases hs; exact .write op loc
  next op r =>
    by_cases hw : P.writes op = true
    · rw [if_pos hw] at hs; cases hs; exact .unlock op r hw
    · rw [if_neg hw] at hs; cases hs; exact .runlock op r (Bool.eq_false_iff.mpr hw)
  next r => cases hs; exact .ret r
  · cases hs

structure LockInv (P : Prog S Op Ret) (g : LG S) (l : Tid → LL S Op Ret) : Prop where
  excl : ∀ t u, inW P (l t) → inW P (l u) → t = u
  writer_iff : g.writer = true ↔ ∃ t, inW P (l t)
  writer_noreaders : g.writer = true → g.readers = 0
  readers : ∃ rs : List Tid, rs.Nodup ∧ rs.length = g.readers ∧ ∀ t, t ∈ rs ↔ inR P (l t)
  wr_ok : ∀ t op loc, l t = .wr op loc → P.writes op = true ∧ loc = g.st

namespace LockInv

variable {P : Prog S Op Ret} {g g' : LG S} {l : Tid → LL S Op Ret} {t : Tid} {x x' : LL S Op Ret}

theorem no_reader_of_zero (h : LockInv P g l) (h0 : g.readers = 0) : ∀ u, ¬ inR P (l u) := by
  obtain ⟨rs, _, hlen, hmem⟩ := h.readers
  intro u hu
  have : u ∈ rs := (hmem u).mpr hu
  have hnil : rs = [] := List.eq_nil_of_length_eq_zero (hlen.trans h0)
  rw [hnil] at this
  cases this

theorem readers_zero (h : LockInv P g l) (hw : inW P (l t)) : g.readers = 0 :=
  h.writer_noreaders (h.writer_iff.mpr ⟨t, hw⟩)

theorem no_reader (h : LockInv P g l) (hw : inW P (l t)) : ∀ u, ¬ inR P (l u) :=
  h.no_reader_of_zero (h.readers_zero hw)

theorem no_writer (h : LockInv P g l) (hw : g.writer = false) : ∀ u, ¬ inW P (l u) := by
  intro u hu
  have := h.writer_iff.mpr ⟨u, hu⟩
  rw [hw] at this
  cases this

theorem upd_iff {p : LL S Op Ret → Prop} (hx : l t = x) (hp : p x' ↔ p x) (u : Tid) :
    p (upd l t x' u) ↔ p (l u) := by
  by_cases hu : u = t
  · rw [hu, upd_same, hx]; exact hp
  · rw [upd_other _ _ _ _ hu]

theorem frameW (h : LockInv P g l) (hx : l t = x) (hw : g'.writer = g.writer) (hW : inW P x' ↔ inW P x) :
    (∀ a b, inW P (upd l t x' a) → inW P (upd l t x' b) → a = b) ∧
    (g'.writer = true ↔ ∃ u, inW P (upd l t x' u)) := by
  refine ⟨fun a b ha hb => h.excl a b ((upd_iff hx hW a).mp ha) ((upd_iff hx hW b).mp hb), ?_⟩
  rw [hw, h.writer_iff]
  exact exists_congr fun u => (upd_iff hx hW u).symm

theorem soleW (ho : ∀ u, u ≠ t → ¬ inW P (l u)) (x' : LL S Op Ret) :
    (∀ a b, inW P (upd l t x' a) → inW P (upd l t x' b) → a = b) ∧
    ((∃ u, inW P (upd l t x' u)) ↔ inW P x') := by
  have key : ∀ u, inW P (upd l t x' u) → u = t := fun u hu =>
    Decidable.by_contra fun hut => ho u hut (upd_other l t u x' hut ▸ hu)
  refine ⟨fun a b ha hb => (key a ha).trans (key b hb).symm, fun ⟨u, hu⟩ => ?_, fun hx' => ⟨t, ?_⟩⟩
  · rw [key u hu, upd_same] at hu; exact hu
  · rw [upd_same]; exact hx'

theorem frameR (h : LockInv P g l) (hx : l t = x) (hR : inR P x' ↔ inR P x) :
    ∃ rs : List Tid, rs.Nodup ∧ rs.length = g.readers ∧ ∀ u, u ∈ rs ↔ inR P (upd l t x' u) := by
  obtain ⟨rs, hnd, hlen, hmem⟩ := h.readers
  exact ⟨rs, hnd, hlen, fun u => (hmem u).trans (upd_iff hx hR u).symm⟩

theorem enterR (h : LockInv P g l) (hx : l t = x) (hn : ¬ inR P x) (hx' : inR P x') :
    ∃ rs : List Tid, rs.Nodup ∧ rs.length = g.readers + 1 ∧ ∀ u, u ∈ rs ↔ inR P (upd l t x' u) := by
  obtain ⟨rs, hnd, hlen, hmem⟩ := h.readers
  have htn : t ∉ rs := fun ht => hn (hx ▸ (hmem t).mp ht)
  refine ⟨t :: rs, List.nodup_cons.mpr ⟨htn, hnd⟩, congrArg (· + 1) hlen, fun u => ?_⟩
  by_cases hu : u = t
  · rw [hu, upd_same]; exact iff_of_true List.mem_cons_self hx'
  · rw [upd_other _ _ _ _ hu, ← hmem u, List.mem_cons]; exact or_iff_right hu

theorem leaveR (h : LockInv P g l) (hx : l t = x) (hin : inR P x) (hx' : ¬ inR P x') :
    ∃ rs : List Tid, rs.Nodup ∧ rs.length = g.readers - 1 ∧ ∀ u, u ∈ rs ↔ inR P (upd l t x' u) := by
  obtain ⟨rs, hnd, hlen, hmem⟩ := h.readers
  have htm : t ∈ rs := (hmem t).mpr (hx ▸ hin)
  refine ⟨rs.erase t, hnd.erase t, by rw [List.length_erase_of_mem htm, hlen], fun u => ?_⟩
  rw [hnd.mem_erase_iff]
  by_cases hu : u = t
  · rw [hu, upd_same]; exact iff_of_false (fun hh => hh.1 rfl) hx'
  · rw [upd_other _ _ _ _ hu, ← hmem u]; exact and_iff_right hu

/-- `wr_ok` after a step of `t`: the mover's new local state is as required, and for the others either the
state is unchanged or nobody else is at `wr`, the mover being the writer -/
theorem wr_upd (h : LockInv P g l) (hx' : ∀ op loc, x' = .wr op loc → P.writes op = true ∧ loc = g'.st)
    (ho : g'.st = g.st ∨ inW P (l t)) :
    ∀ u op loc, upd l t x' u = .wr op loc → P.writes op = true ∧ loc = g'.st := by
  intro u op loc hu
  by_cases hut : u = t
  · rw [hut, upd_same] at hu; exact hx' op loc hu
  · rw [upd_other _ _ _ _ hut] at hu
    have hwr := h.wr_ok u op loc hu
    rcases ho with hst | htW
    · rw [hst]; exact hwr
    · exact absurd (h.excl u t (by rw [hu]; exact hwr.1) htW) hut

theorem frame (h : LockInv P g l) (hx : l t = x) (hW : inW P x' ↔ inW P x) (hR : inR P x' ↔ inR P x)
    (hw : g'.writer = g.writer) (hr : g'.readers = g.readers)
    (hwr : ∀ u op loc, upd l t x' u = .wr op loc → P.writes op = true ∧ loc = g'.st) :
    LockInv P g' (upd l t x') :=
  ⟨(h.frameW hx hw hW).1, (h.frameW hx hw hW).2, hw ▸ hr ▸ h.writer_noreaders, hr ▸ h.frameR hx hR, hwr⟩

theorem init (P : Prog S Op Ret) : LockInv P { st := P.init } (fun _ => .idle) where
  excl := nofun
  writer_iff := ⟨nofun, nofun⟩
  writer_noreaders := nofun
  readers := ⟨[], List.nodup_nil, rfl, fun _ => iff_of_false List.not_mem_nil id⟩
  wr_ok := nofun

theorem preserved {a : LAct Op} {obs : List (LObs Ret)} (h : LockInv P g l) (hx : l t = x)
    (hk : StepK P g x a g' x' obs) : LockInv P g' (upd l t x') := by
  induction hk with
  | call op => exact h.frame hx Iff.rfl Iff.rfl rfl rfl (h.wr_upd nofun (.inl rfl))
  | lock op hwop hw0 hr0 =>
    -- enabled only if no writer and no reader is inside: `t` becomes the only writer
    have s := soleW (t := t) (fun u _ => h.no_writer hw0 u) (LL.rd op)
    exact ⟨s.1, iff_of_true rfl (s.2.mpr hwop), fun _ => hr0,
      h.frameR hx (iff_of_false (not_inW_inR P (.rd op) hwop) not_false), h.wr_upd nofun (.inl rfl)⟩
  | rlock op hwop hw0 =>
    -- enabled only if no writer is inside
    have f := h.frameW hx rfl (iff_of_false (fun hW => not_inW_inR P (.rd op) hW hwop) not_false)
    exact ⟨f.1, f.2, fun hw1 => absurd hw1 (Bool.eq_false_iff.mp hw0), h.enterR hx not_false hwop,
      h.wr_upd nofun (.inl rfl)⟩
  | copy op hwop =>
    exact h.frame hx Iff.rfl (iff_of_false not_false (not_inW_inR P (.rd op) hwop)) rfl rfl
      (h.wr_upd (fun _ _ e => by cases e; exact ⟨hwop, rfl⟩) (.inl rfl))
  | read op hwop => exact h.frame hx Iff.rfl Iff.rfl rfl rfl (h.wr_upd nofun (.inl rfl))
  | write op loc =>
    have hwop := (h.wr_ok t op loc hx).1
    -- no other thread is at `wr` (exclusion), and this one leaves it
    exact h.frame hx Iff.rfl (iff_of_false (not_inW_inR P (.rel op _) hwop) (not_inW_inR P (.wr op loc) hwop))
      rfl rfl (h.wr_upd nofun (.inr (hx ▸ hwop)))
  | unlock op r hwop =>
    -- `t` was the only writer (exclusion), so afterwards nobody is
    have s := soleW (t := t) (fun u hu hW => hu (h.excl u t hW (hx ▸ hwop))) (LL.retn r)
    exact ⟨s.1, iff_of_false Bool.false_ne_true s.2.mp, nofun,
      h.frameR hx (iff_of_false not_false (not_inW_inR P (.rel op r) hwop)), h.wr_upd nofun (.inl rfl)⟩
  | runlock op r hwop =>
    have f := h.frameW (x' := .retn r) hx rfl (iff_of_false not_false fun hW => not_inW_inR P _ hW hwop)
    exact ⟨f.1, f.2, fun hw1 => by rw [h.writer_noreaders hw1], h.leaveR hx hwop not_false,
      h.wr_upd nofun (.inl rfl)⟩
  | ret r => exact h.frame hx Iff.rfl Iff.rfl rfl rfl (h.wr_upd nofun (.inl rfl))

end LockInv

def Inv (P : Prog S Op Ret) (c : Config (M P)) : Prop := LockInv P c.g c.l

/-- **Lock invariant**: every reachable configuration of `M P`, for every program table `P`, satisfies
`LockInv` (mutual exclusion, lock words = ghost counts, and `loc = g.st` for a writer at `wr`). -/
theorem lockInv_reach (P : Prog S Op Ret) : ∀ c, Reach (M P) c → Inv P c := by
  apply inv_of_reach (M P) (Inv P)
  · exact LockInv.init P
  · intro c t a g' l' obs hI hs
    exact LockInv.preserved hI rfl (stepK_of_step hs)

/-- the lock invariant spelled out, for every reachable configuration of `M P` (any `P`) -/
theorem lock_invariant (P : Prog S Op Ret) (c : Config (M P)) (h : Reach (M P) c) :
    let g : LG S := c.g
    let l : Tid → LL S Op Ret := c.l
    (g.writer = true ↔ ∃ t, inW P (l t)) ∧
    (∀ t u, inW P (l t) → inW P (l u) → t = u) ∧
    (∀ t, inW P (l t) → g.readers = 0 ∧ ∀ u, ¬ inR P (l u)) ∧
    (∃ rs : List Tid, rs.Nodup ∧ rs.length = g.readers ∧ ∀ t, t ∈ rs ↔ inR P (l t)) ∧
    (∀ t op loc, l t = .wr op loc → P.writes op = true ∧ loc = g.st) := by
  have hI : LockInv P c.g c.l := lockInv_reach P c h
  exact ⟨hI.writer_iff, hI.excl, fun t ht => ⟨hI.readers_zero ht, hI.no_reader ht⟩, hI.readers, hI.wr_ok⟩

/-- read-locked methods do not change the guarded state -/
def Prog.ReadsPure (P : Prog S Op Ret) : Prop := ∀ s op, P.writes op = false → (P.apply s op).1 = s

theorem queueProg_readsPure : queueProg.ReadsPure := by
  intro s op h
  cases op with
  | offer | poll => cases h
  | peek => cases s <;> rfl
  | size | isEmpty => rfl

theorem adderProg_readsPure : adderProg.ReadsPure := by
  intro s op h
  cases op with
  | sum => rfl
  | _ => cases h

end Garr.Locked
