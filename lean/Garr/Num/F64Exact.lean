import Garr.Num.F64Bits
import Garr.Num.F64Lemmas
/-!
# IEEE-754 binary64 addition is exact whenever the exact result is representable

`add_exact`: for finite `x y`, if `val x + val y` is representable then `F64.add x y` is a finite canonical
value with `val (add x y) = val x + val y` (no NaN, no infinity, no rounding).  Signed zeros are handled on
`val`, where `+0` and `-0` coincide.  `bval`/`fval`/`IsFinBits` read a stored `Int` bit pattern, and
`addBits_exact` is `add_exact` for the bit-pattern addition used by the adders' float algebra.

(Proof file: imports single Mathlib modules through `F64Lemmas`.)
-/
namespace Garr.F64Exact
open Garr Garr.F64

def Representable (q : ℚ) : Prop := ∃ (n : Bool) (m : ℕ) (e : ℤ), Canon m e ∧ val (.fin n m e) = q

def FinCanon (x : F64) : Prop := ∃ (n : Bool) (m : ℕ) (e : ℤ), Canon m e ∧ x = .fin n m e

theorem val_fin (n : Bool) (m : ℕ) (e : ℤ) :
    val (.fin n m e) = (if n then -1 else 1) * (m : ℚ) * (2:ℚ)^e := rfl

theorem val_fin_zero (n : Bool) (e : ℤ) : val (.fin n 0 e) = 0 := by
  rw [val_fin, Nat.cast_zero, mul_zero, zero_mul]

theorem representable_zero : Representable 0 :=
  ⟨false, 0, -1074, by decide, val_fin_zero _ _⟩

theorem FinCanon.representable {x : F64} (h : FinCanon x) : Representable (val x) := by
  obtain ⟨n, m, e, hc, rfl⟩ := h
  exact ⟨n, m, e, hc, rfl⟩

theorem FinCanon.isF64 {x : F64} (h : FinCanon x) : IsF64 x := by
  obtain ⟨n, m, e, hc, rfl⟩ := h
  exact hc

theorem abs_val_fin (n : Bool) (m : ℕ) (e : ℤ) : |val (.fin n m e)| = (m : ℚ) * (2:ℚ)^e := by
  cases n
  · rw [val_fin_false]; exact abs_of_nonneg (dy_nonneg m e)
  · rw [val_fin_true, abs_neg]; exact abs_of_nonneg (dy_nonneg m e)

theorem val_fin_sign {S : ℤ} {E : ℤ} {m : ℕ} {e : ℤ} (h : (S.natAbs : ℚ) * (2:ℚ)^E = (m : ℚ) * (2:ℚ)^e) :
    val (.fin (decide (S < 0)) m e) = (S : ℚ) * (2:ℚ)^E := by
  rw [val_fin, mul_assoc, ← h, ← mul_assoc, ← Int.cast_natCast]
  congr 1
  by_cases hS : S < 0
  · rw [decide_eq_true hS, if_pos rfl, Int.ofNat_natAbs_of_nonpos (Int.le_of_lt hS), Int.cast_neg, neg_one_mul,
      neg_neg]
  · rw [decide_eq_false hS, if_neg Bool.false_ne_true, one_mul, Int.natAbs_of_nonneg (Int.not_lt.1 hS)]

theorem ofFin_signed_exact {S : ℤ} {E : ℤ} {q : ℚ} (hq : (S : ℚ) * (2:ℚ)^E = q)
    (hr : Representable q) :
    ∃ (n : Bool) (m : ℕ) (e : ℤ), Canon m e ∧ ofFin (decide (S < 0)) S.natAbs E = .fin n m e ∧
      val (.fin n m e) = q := by
  obtain ⟨n, m, e, hc, hv⟩ := hr
  -- only the magnitude `m·2^e` of the witness matters: it is `|S|·2^E`, and the sign is that of `S`
  have hmag : ((S.natAbs : ℕ) : ℚ) * (2:ℚ)^E = (m : ℚ) * (2:ℚ)^e := by
    rw [← abs_val_fin n m e, hv, ← hq, abs_mul, abs_of_pos (two_zpow_pos E), Nat.cast_natAbs, Int.cast_abs]
  exact ⟨_, m, e, hc, ofFin_exact _ hc hmag, (val_fin_sign hmag).trans hq⟩

/-- the operands need not be in canonical form -/
theorem add_exact_fin (n1 : Bool) (m1 : ℕ) (e1 : ℤ) (n2 : Bool) (m2 : ℕ) (e2 : ℤ)
    (hr : Representable (val (.fin n1 m1 e1) + val (.fin n2 m2 e2))) :
    FinCanon (add (.fin n1 m1 e1) (.fin n2 m2 e2)) ∧
      val (add (.fin n1 m1 e1) (.fin n2 m2 e2)) = val (.fin n1 m1 e1) + val (.fin n2 m2 e2) := by
  obtain ⟨S, E, hs, hadd⟩ := add_fin_eq n1 m1 e1 n2 m2 e2
  rw [hadd]
  by_cases h0 : S = 0
  · subst h0
    simp only [if_true]
    refine ⟨⟨n1 && n2, 0, -1074, by decide, rfl⟩, ?_⟩
    rw [← hs, Int.cast_zero, zero_mul]; exact val_fin_zero _ _
  · simp only [if_neg h0]
    obtain ⟨n, m, e, hc, heq, hv⟩ := ofFin_signed_exact hs hr
    rw [heq]
    exact ⟨⟨n, m, e, hc, rfl⟩, hv⟩

def IsFin (x : F64) : Prop := ∃ (n : Bool) (m : ℕ) (e : ℤ), x = .fin n m e

theorem FinCanon.isFin {x : F64} (h : FinCanon x) : IsFin x := by
  obtain ⟨n, m, e, _, rfl⟩ := h
  exact ⟨n, m, e, rfl⟩

theorem add_exact {x y : F64} (hx : IsFin x) (hy : IsFin y) (hr : Representable (val x + val y)) :
    FinCanon (add x y) ∧ val (add x y) = val x + val y := by
  obtain ⟨n1, m1, e1, rfl⟩ := hx
  obtain ⟨n2, m2, e2, rfl⟩ := hy
  exact add_exact_fin n1 m1 e1 n2 m2 e2 hr

theorem add_exact_witness {x y z : F64} (hx : IsFin x) (hy : IsFin y) (hz : FinCanon z)
    (h : val z = val x + val y) : FinCanon (add x y) ∧ val (add x y) = val z := by
  rw [h]
  exact add_exact hx hy (h ▸ hz.representable)

theorem add_exact_ne_nan {x y : F64} (hx : IsFin x) (hy : IsFin y) (hr : Representable (val x + val y)) :
    add x y ≠ .nan ∧ ∀ s, add x y ≠ .inf s := by
  obtain ⟨⟨n, m, e, _, h⟩, _⟩ := add_exact hx hy hr
  rw [h]
  exact ⟨by simp, fun s => by simp⟩

theorem ofBits_isF64 (b : ℕ) : IsF64 (ofBits b) := by
  have hF : b % 2^52 < 2^52 := Nat.mod_lt _ (by decide)
  have hE : b / 2^52 % 2048 < 2048 := Nat.mod_lt _ (by decide)
  unfold ofBits
  generalize b % 2^52 = F at hF
  generalize b / 2^52 % 2048 = E at hE
  simp only
  split
  · split <;> trivial
  · split
    · exact ⟨Nat.lt_trans hF (by decide), Int.le_refl _, by decide, Or.inr rfl⟩
    · have : -1074 ≤ (E : ℤ) - 1075 ∧ (E : ℤ) - 1075 ≤ 971 := by omega
      exact ⟨Nat.add_lt_add_left hF _, this.1, this.2, Or.inl (Nat.le_add_right _ _)⟩

theorem div_mod_digit {B y F : ℕ} (hF : F < B) : (B * y + F) / B = y ∧ (B * y + F) % B = F :=
  ⟨by rw [Nat.mul_add_div (Nat.zero_lt_of_lt hF), Nat.div_eq_of_lt hF, Nat.add_zero],
   by rw [Nat.mul_add_mod, Nat.mod_eq_of_lt hF]⟩

/-- the three fields of the word `s·(B·C) + E·B + F` with `s < 2`, `E < C`, `F < B`
(binary64: `B = 2^52`, `C = 2^11`) -/
theorem word_fields {B C s E F : ℕ} (hs : s < 2) (hE : E < C) (hF : F < B) :
    (B * (C * s + E) + F) / (B * C) % 2 = s ∧ (B * (C * s + E) + F) / B % C = E ∧
      (B * (C * s + E) + F) % B = F := by
  have hlo := div_mod_digit (y := C * s + E) hF
  have hhi := div_mod_digit (y := s) hE
  exact ⟨by rw [← Nat.div_div_eq_div_mul, hlo.1, hhi.1, Nat.mod_eq_of_lt hs], by rw [hlo.1, hhi.2], hlo.2⟩

/-- a sign bit in front of `E·B + F`, in the form `word_fields` reads -/
theorem sign_word (n : Bool) (B C E F : ℕ) :
    (if n then B * C else 0) + (E * B + F) = B * (C * n.toNat + E) + F := by
  cases n
  · rw [if_neg Bool.false_ne_true, Bool.toNat_false, Nat.zero_add, Nat.mul_zero, Nat.zero_add, Nat.mul_comm]
  · rw [if_pos rfl, Bool.toNat_true, Nat.mul_one, Nat.mul_add, Nat.mul_comm E, Nat.add_assoc]

theorem ofBits_pack (n : Bool) {E F : ℕ} (hE : E < 2047) (hF : F < 2^52) :
    ofBits ((if n then 2^63 else 0) + (E * 2^52 + F)) =
      if E = 0 then .fin n F (-1074) else .fin n (2^52 + F) ((E : ℤ) - 1075) := by
  obtain ⟨a1, a2, a3⟩ := word_fields (B := 2^52) (C := 2048) (Bool.toNat_lt n) (Nat.lt_succ_of_lt hE) hF
  rw [← sign_word] at a1 a2 a3
  have hn : decide (n.toNat = 1) = n := by cases n <;> rfl
  unfold ofBits
  rw [show (2:ℕ)^63 = 2^52 * 2048 from rfl]
  simp only [a1, a2, a3, hn, if_neg (Nat.ne_of_lt hE)]

theorem ofBits_toBits_fin (n : Bool) {m : ℕ} {e : ℤ} (hc : Canon m e) :
    ofBits (toBits (.fin n m e)) = .fin n m e := by
  obtain ⟨h1, h2, h3, h4⟩ := hc
  rw [toBits]
  by_cases hm : m < 2^52
  · -- subnormal: biased exponent `0`, fraction `m`
    have := ofBits_pack n (E := 0) (F := m) (by decide) hm
    rw [Nat.zero_mul, Nat.zero_add, if_pos rfl] at this
    rw [if_pos hm, this, h4.resolve_left (Nat.not_le.2 hm)]
  · -- normal: biased exponent `e + 1075`, fraction `m - 2^52`
    have hE : (e + 1075).toNat < 2047 ∧ (e + 1075).toNat ≠ 0 ∧ (((e + 1075).toNat : ℕ) : ℤ) - 1075 = e := by
      omega
    have hm' : 2^52 ≤ m := Nat.le_of_not_lt hm
    -- `h1` is read as `m < 2^52 + 2^52`
    rw [if_neg hm, ofBits_pack n hE.1 (Nat.sub_lt_left_of_lt_add hm' h1), if_neg hE.2.1,
      Nat.add_sub_cancel' hm', hE.2.2]

theorem ofBits_toBits {x : F64} (h : FinCanon x) : ofBits (toBits x) = x := by
  obtain ⟨n, m, e, hc, rfl⟩ := h
  exact ofBits_toBits_fin n hc

/-- the float stored as the bit pattern `b` (stored values are non-negative integers `< 2^64`) -/
def bval (b : ℤ) : F64 := ofBits b.toNat

/-- the rational value of a stored bit pattern (`0` for NaN / ±∞ — always used together with `IsFinBits`) -/
def fval (b : ℤ) : ℚ := val (bval b)

def IsFinBits (b : ℤ) : Prop := IsFin (bval b)

/-- bit-pattern addition, as performed by the adders' float algebra (`Garr.Adder.floatAlg.add`) -/
def addBits (a b : ℤ) : ℤ := ((toBits (add (bval a) (bval b)) : ℕ) : ℤ)

theorem bval_isF64 (b : ℤ) : IsF64 (bval b) := ofBits_isF64 _

theorem IsFinBits.finCanon {b : ℤ} (h : IsFinBits b) : FinCanon (bval b) := by
  obtain ⟨n, m, e, he⟩ := h
  have := bval_isF64 b
  rw [he] at this
  exact ⟨n, m, e, this, he⟩

theorem IsFinBits.representable {b : ℤ} (h : IsFinBits b) : Representable (fval b) :=
  h.finCanon.representable

theorem bval_zero : bval 0 = .fin false 0 (-1074) := by
  unfold bval ofBits; simp

theorem isFinBits_zero : IsFinBits 0 := ⟨false, 0, -1074, bval_zero⟩

theorem fval_zero : fval 0 = 0 := by
  unfold fval; rw [bval_zero]; exact val_fin_zero _ _

theorem bval_addBits {a b : ℤ} (h : FinCanon (add (bval a) (bval b))) :
    bval (addBits a b) = add (bval a) (bval b) := by
  unfold addBits
  show ofBits (Int.toNat ((toBits (add (bval a) (bval b)) : ℕ) : ℤ)) = _
  rw [Int.toNat_natCast]
  exact ofBits_toBits h

theorem addBits_exact {a b : ℤ} (ha : IsFinBits a) (hb : IsFinBits b) (hr : Representable (fval a + fval b)) :
    IsFinBits (addBits a b) ∧ fval (addBits a b) = fval a + fval b := by
  obtain ⟨hc, hv⟩ := add_exact ha hb hr
  have e := bval_addBits hc
  refine ⟨?_, ?_⟩
  · show IsFin (bval (addBits a b))
    rw [e]; exact hc.isFin
  · show val (bval (addBits a b)) = _
    rw [e]; exact hv

theorem representable_int_mul_pow {k : ℤ} {e : ℤ} (hk : k.natAbs < 2^53) (he1 : -1074 ≤ e) (he2 : e ≤ 971) :
    Representable ((k : ℚ) * (2:ℚ)^e) := by
  obtain ⟨m, e', hc, hv⟩ := canon_of_lt (e + 1074).toNat k.natAbs e hk he1 he2 (Int.self_le_toNat _)
  exact ⟨_, m, e', hc, val_fin_sign hv⟩

end Garr.F64Exact
