import Garr.Num.F64
import Mathlib.Tactic.Ring
import Mathlib.Tactic.Linarith
import Mathlib.Tactic.Positivity
import Mathlib.Tactic.NormNum
import Mathlib.Algebra.Order.Field.Power
import Mathlib.Algebra.Order.Field.Rat
/-!
# Lemma library for the exact binary64 model `Garr.F64`

The semantic value is `val : F64 → ℚ`; `le`/`lt` are the order of `val` on finite values (`le_fin_iff`,
`lt_fin_iff`), and `le_cases` splits `le a b` into the two infinite cases and the finite one.
(`F64Order.lean` gives the comparisons a second meaning, `ext : F64 → EInt`, in integers and without Mathlib,
so that the statements of C20 stay core-only; the arithmetic here needs `ℚ`, and neither file uses the other.)

Every operation rounds through `roundQ`, so the rounding theory is developed for `roundQ` (arbitrary
numerator and denominator): `roundQ_eq` writes it as `pack` of `rneQ`, the quotient divided by the quantum and
rounded to nearest-even.  `ofFin · M E` is `roundQ` of a fraction of value `M·2^E` (`ofFin_eq`).

On top: `sat` (= `toInt64` guarded by `lt · two63`, the tail of `saturatedMultiply`) and the float core of the
C05 clauses `satmul_mono`, `satmul_nonneg`, `satmul_ge`, `satmul_ge_small` (the last two through `le_sat_mul`).

(Proof file: imports single Mathlib tactic modules; the model files stay core-only.)
-/
namespace Garr.F64

theorem rne_ge_floor (N D : Nat) : N / D ≤ rne N D := by
  unfold rne; simp only; split <;> omega

theorem rne_le_floor_succ (N D : Nat) : rne N D ≤ N / D + 1 := by
  unfold rne; simp only; split <;> omega

theorem rne_mono {N1 N2 D : Nat} (h : N1 ≤ N2) : rne N1 D ≤ rne N2 D := by
  rcases Nat.lt_or_ge (N1 / D) (N2 / D) with hlt | hge
  · exact Nat.le_trans (rne_le_floor_succ N1 D) (Nat.le_trans hlt (rne_ge_floor N2 D))
  · -- same quotient: the remainders are ordered as the numerators, and the round-up test is monotone in them
    have heq : N1 / D = N2 / D := Nat.le_antisymm (Nat.div_le_div_right h) hge
    have e1 := Nat.div_add_mod N1 D
    have e2 := Nat.div_add_mod N2 D
    unfold rne; simp only
    rw [heq] at e1 ⊢
    split <;> split <;> omega

theorem rne_exact (m D : Nat) (hD : 0 < D) : rne (m * D) D = m := by
  unfold rne; simp only
  rw [Nat.mul_div_cancel m hD, Nat.mul_mod_left, if_neg (by omega)]

theorem rne_scale (N D k : Nat) (hk : 0 < k) : rne (N * k) (D * k) = rne N D := by
  unfold rne; simp only
  rw [Nat.mul_div_mul_right N D hk, Nat.mul_mod_mul_right k N D, ← Nat.mul_assoc]
  simp only [gt_iff_lt, Nat.mul_lt_mul_right hk, Nat.mul_left_inj (Nat.ne_of_gt hk)]

theorem rne_succ_mul_gt (N D : Nat) (hD : 0 < D) : N < (rne N D + 1) * D := by
  have h1 := rne_ge_floor N D
  calc N < (N / D + 1) * D := by rw [Nat.mul_comm]; exact Nat.lt_mul_div_succ N hD
    _ ≤ (rne N D + 1) * D := Nat.mul_le_mul_right D (by omega)

theorem rne_cross {N1 D1 N2 D2 : Nat} (hD1 : 0 < D1) (hD2 : 0 < D2) (h : N1 * D2 ≤ N2 * D1) :
    rne N1 D1 ≤ rne N2 D2 :=
  calc rne N1 D1 = rne (N1 * D2) (D1 * D2) := (rne_scale _ _ _ hD2).symm
    _ ≤ rne (N2 * D1) (D1 * D2) := rne_mono h
    _ = rne (N2 * D1) (D2 * D1) := by rw [Nat.mul_comm D1 D2]
    _ = rne N2 D2 := rne_scale _ _ _ hD1

def val : F64 → ℚ
  | .fin neg m e => (if neg then -1 else 1) * (m : ℚ) * (2:ℚ)^e
  | _ => 0

theorem val_fin_false (m : ℕ) (e : ℤ) : val (.fin false m e) = (m : ℚ) * (2:ℚ)^e := by
  simp only [val, Bool.false_eq_true, if_false, one_mul]

theorem val_fin_true (m : ℕ) (e : ℤ) : val (.fin true m e) = -((m : ℚ) * (2:ℚ)^e) := by
  simp only [val, if_true, neg_mul, one_mul]

theorem two_zpow_pos (e : ℤ) : (0:ℚ) < (2:ℚ)^e := by positivity

theorem two_ne : (2:ℚ) ≠ 0 := by norm_num

theorem two_zpow_add_nat (q : ℤ) (k : ℕ) : (2:ℚ)^(q + k) = ((2^k : ℕ) : ℚ) * (2:ℚ)^q := by
  rw [zpow_add₀ two_ne, zpow_natCast]; push_cast; ring

theorem dy_nonneg (m : ℕ) (e : ℤ) : (0:ℚ) ≤ (m : ℚ) * (2:ℚ)^e :=
  mul_nonneg (Nat.cast_nonneg m) (two_zpow_pos e).le

theorem lt_of_two_zpow_lt {a b : ℤ} (h : (2:ℚ)^a < (2:ℚ)^b) : a < b :=
  (zpow_lt_zpow_iff_right₀ (by norm_num : (1:ℚ) < 2)).1 h

theorem scaled_cast (neg : Bool) (m : ℕ) {em e : ℤ} (h : e ≤ em) :
    ((scaled neg m em e : ℤ) : ℚ) = val (.fin neg m em) * ((2:ℚ)^e)⁻¹ := by
  unfold scaled val
  push_cast
  rw [← zpow_natCast, Int.toNat_of_nonneg (by omega), zpow_sub₀ two_ne]
  ring

theorem min_exp_le (e1 e2 : ℤ) :
    (if e1 ≤ e2 then e1 else e2) ≤ e1 ∧ (if e1 ≤ e2 then e1 else e2) ≤ e2 := by
  split <;> omega

theorem le_fin_iff (n1 : Bool) (m1 : ℕ) (e1 : ℤ) (n2 : Bool) (m2 : ℕ) (e2 : ℤ) :
    le (.fin n1 m1 e1) (.fin n2 m2 e2) = true ↔ val (.fin n1 m1 e1) ≤ val (.fin n2 m2 e2) := by
  simp only [le, decide_eq_true_eq]
  rw [← Int.cast_le (R := ℚ), scaled_cast _ _ (min_exp_le e1 e2).1, scaled_cast _ _ (min_exp_le e1 e2).2]
  exact mul_le_mul_iff_of_pos_right (inv_pos.2 (two_zpow_pos _))

theorem lt_fin_iff (n1 : Bool) (m1 : ℕ) (e1 : ℤ) (n2 : Bool) (m2 : ℕ) (e2 : ℤ) :
    lt (.fin n1 m1 e1) (.fin n2 m2 e2) = true ↔ val (.fin n1 m1 e1) < val (.fin n2 m2 e2) := by
  simp only [lt, decide_eq_true_eq]
  rw [← Int.cast_lt (R := ℚ), scaled_cast _ _ (min_exp_le e1 e2).1, scaled_cast _ _ (min_exp_le e1 e2).2]
  exact mul_lt_mul_iff_of_pos_right (inv_pos.2 (two_zpow_pos _))

theorem mul_pow_toNat {q : ℤ} (h : q ≤ 0) (a : ℕ) : a * 2^q.toNat = a := by
  rw [Int.toNat_of_nonpos h, Nat.pow_zero, Nat.mul_one]

/-- `a·2^q` as a fraction of naturals, whatever the sign of `q` -/
theorem cast_mul_pow (a : ℕ) (q : ℤ) :
    ((a * 2^q.toNat : ℕ) : ℚ) = (a : ℚ) * (2:ℚ)^q * ((2^(-q).toNat : ℕ) : ℚ) := by
  push_cast
  by_cases h : 0 ≤ q
  · rw [Int.toNat_of_nonpos (Int.neg_nonpos_of_nonneg h), pow_zero, mul_one, ← zpow_natCast, Int.toNat_of_nonneg h]
  · rw [Int.toNat_of_nonpos (by omega), pow_zero, ← zpow_natCast (2:ℚ) (-q).toNat, Int.toNat_of_nonneg (by omega),
      mul_assoc, ← zpow_add₀ two_ne, add_neg_cancel, zpow_zero]

theorem scale_le_iff (a b : ℕ) (q : ℤ) : a * 2^q.toNat ≤ b * 2^(-q).toNat ↔ (a : ℚ) * (2:ℚ)^q ≤ (b : ℚ) := by
  rw [← Nat.cast_le (α := ℚ), cast_mul_pow a q, Nat.cast_mul b]
  exact mul_le_mul_iff_of_pos_right (by positivity)

theorem scale_ge_iff (a b : ℕ) (q : ℤ) : b * 2^(-q).toNat ≤ a * 2^q.toNat ↔ (b : ℚ) ≤ (a : ℚ) * (2:ℚ)^q := by
  rw [← Nat.cast_le (α := ℚ), cast_mul_pow a q, Nat.cast_mul b]
  exact mul_le_mul_iff_of_pos_right (by positivity)

theorem log2_cast {n : ℕ} (h : 0 < n) : (2:ℚ)^n.log2 ≤ (n : ℚ) ∧ (n : ℚ) < (2:ℚ)^n.log2 * 2 := by
  refine ⟨by exact_mod_cast Nat.log2_self_le (Nat.ne_of_gt h), ?_⟩
  have := Nat.lt_log2_self (n := n)
  rw [pow_succ] at this; exact_mod_cast this

theorem ilog2q_spec {num den : ℕ} (hn : 0 < num) (hd : 0 < den) :
    (2:ℚ)^(ilog2q num den) * (den : ℚ) ≤ (num : ℚ) ∧
      (num : ℚ) < (2:ℚ)^(ilog2q num den + 1) * (den : ℚ) := by
  obtain ⟨a1, a2⟩ := log2_cast hn
  obtain ⟨b1, b2⟩ := log2_cast hd
  unfold ilog2q
  simp only
  -- the first guess `e0` is off by at most one; the test decides `2^e0 ≤ num/den`
  have hT : (2:ℚ)^((num.log2 : ℤ) - (den.log2 : ℤ)) * (2:ℚ)^den.log2 = (2:ℚ)^num.log2 := by
    rw [← zpow_natCast, ← zpow_natCast, ← zpow_add₀ two_ne, sub_add_cancel]
  generalize (num.log2 : ℤ) - (den.log2 : ℤ) = e0 at hT ⊢
  have hge : ((if e0 ≥ 0 then decide (num ≥ den * 2^e0.toNat) else decide (num * 2^(-e0).toNat ≥ den)) = true) ↔
      (den : ℚ) * (2:ℚ)^e0 ≤ (num : ℚ) := by
    rw [← scale_le_iff]
    split
    · rw [mul_pow_toNat (q := -e0) (by omega), decide_eq_true_eq]
    · rw [mul_pow_toNat (q := e0) (by omega), decide_eq_true_eq]
  have pe := two_zpow_pos e0
  by_cases hg : (den : ℚ) * (2:ℚ)^e0 ≤ (num : ℚ)
  · rw [if_pos (hge.2 hg), zpow_add_one₀ two_ne]
    refine ⟨by rwa [mul_comm], ?_⟩
    calc (num : ℚ) < (2:ℚ)^num.log2 * 2 := a2
      _ = (2:ℚ)^e0 * 2 * (2:ℚ)^den.log2 := by rw [← hT]; ring
      _ ≤ (2:ℚ)^e0 * 2 * (den : ℚ) := mul_le_mul_of_nonneg_left b1 (by positivity)
  · rw [if_neg (fun h => hg (hge.1 h)), sub_add_cancel]
    refine ⟨?_, by rw [mul_comm]; exact not_le.1 hg⟩
    have h2 : (2:ℚ)^(e0 - 1) * 2 = (2:ℚ)^e0 := by rw [← zpow_add_one₀ two_ne, sub_add_cancel]
    calc (2:ℚ)^(e0 - 1) * (den : ℚ) ≤ (2:ℚ)^(e0 - 1) * ((2:ℚ)^den.log2 * 2) :=
          mul_le_mul_of_nonneg_left b2.le (two_zpow_pos _).le
      _ = (2:ℚ)^e0 * (2:ℚ)^den.log2 := by rw [← h2]; ring
      _ = (2:ℚ)^num.log2 := hT
      _ ≤ (num : ℚ) := a1

theorem ilog2q_mono {num1 den1 num2 den2 : ℕ} (hn1 : 0 < num1) (hd1 : 0 < den1) (hn2 : 0 < num2) (hd2 : 0 < den2)
    (h : (num1 : ℚ) * den2 ≤ (num2 : ℚ) * den1) : ilog2q num1 den1 ≤ ilog2q num2 den2 := by
  obtain ⟨s1, _⟩ := ilog2q_spec hn1 hd1
  obtain ⟨_, t2⟩ := ilog2q_spec hn2 hd2
  have hX1 : (0:ℚ) < (den1 : ℚ) := by exact_mod_cast hd1
  have hX2 : (0:ℚ) < (den2 : ℚ) := by exact_mod_cast hd2
  have : (2:ℚ)^(ilog2q num1 den1) * den1 * den2 < (2:ℚ)^(ilog2q num2 den2 + 1) * den1 * den2 :=
    calc _ ≤ (num1 : ℚ) * den2 := mul_le_mul_of_nonneg_right s1 hX2.le
      _ ≤ (num2 : ℚ) * den1 := h
      _ < (2:ℚ)^(ilog2q num2 den2 + 1) * den2 * den1 := mul_lt_mul_of_pos_right t2 hX1
      _ = _ := mul_right_comm ..
  have := lt_of_two_zpow_lt (lt_of_mul_lt_mul_right (lt_of_mul_lt_mul_right this hX2.le) hX1.le)
  omega

/-- significand after renormalising a carry out of rounding (`m1 = 2^53`) -/
def pm (m1 : Nat) : Nat := if m1 = 2^53 then 2^52 else m1
/-- exponent after renormalising the carry -/
def pq (m1 : Nat) (q : Int) : Int := if m1 = 2^53 then q + 1 else q
/-- the float of a rounded significand `m1` at exponent `q`: renormalised, overflow to infinity.
Irreducible, so that the elaborator does not unfold `IsF64 (pack ..)` down to the overflow test. -/
@[irreducible] def pack (neg : Bool) (m1 : Nat) (q : Int) : F64 :=
  if 2^52 ≤ pm m1 ∧ pq m1 q > 971 then .inf neg else .fin neg (pm m1) (pq m1 q)

theorem pm_pq (m1 : Nat) (q : Int) :
    (m1 = 2^53 ∧ pm m1 = 2^52 ∧ pq m1 q = q + 1) ∨ (m1 ≠ 2^53 ∧ pm m1 = m1 ∧ pq m1 q = q) := by
  unfold pm pq
  split
  · next h => exact Or.inl ⟨h, rfl, rfl⟩
  · next h => exact Or.inr ⟨h, rfl, rfl⟩

theorem pm_pq_val (m1 : ℕ) (q : ℤ) : (pm m1 : ℚ) * (2:ℚ)^(pq m1 q) = (m1 : ℚ) * (2:ℚ)^q := by
  rcases pm_pq m1 q with ⟨a, b, c⟩ | ⟨_, b, c⟩ <;> rw [b, c]
  rw [a, zpow_add_one₀ two_ne]; push_cast; ring

theorem pack_sign (neg : Bool) (m1 : Nat) (q : Int) :
    pack neg m1 q = .inf neg ∨ pack neg m1 q = .fin neg (pm m1) (pq m1 q) := by
  unfold pack; split
  · left; rfl
  · right; rfl

theorem pack_neg (neg : Bool) (m1 : Nat) (q : Int) : pack (!neg) m1 q = F64.neg (pack neg m1 q) := by
  unfold pack; split <;> rfl

theorem pack_isF64 (neg : Bool) {m1 : Nat} {q : Int} (h1 : m1 ≤ 2^53) (h2 : -1074 < q → 2^52 ≤ m1)
    (h3 : -1074 ≤ q) : IsF64 (pack neg m1 q) := by
  unfold pack
  split
  · trivial
  · rename_i h
    unfold IsF64 Canon
    rcases pm_pq m1 q with ⟨a, b, c⟩ | ⟨a, b, c⟩ <;> rw [b, c] at h ⊢ <;> omega

theorem pack_canon (neg : Bool) {m : ℕ} {e : ℤ} (h : Canon m e) : pack neg m e = .fin neg m e := by
  obtain ⟨h1, _, h3, _⟩ := h
  rcases pm_pq m e with ⟨a, _, _⟩ | ⟨_, b, c⟩
  · omega
  · unfold pack; rw [b, c, if_neg (by omega)]

theorem dy_le_of {m1 m2 : ℕ} {q1 q2 : ℤ} (h : (q1 = q2 ∧ m1 ≤ m2) ∨ (q1 < q2 ∧ m1 ≤ 2 * m2)) :
    (m1 : ℚ) * (2:ℚ)^q1 ≤ (m2 : ℚ) * (2:ℚ)^q2 := by
  rcases h with ⟨rfl, h⟩ | ⟨hq, h⟩
  · exact mul_le_mul_of_nonneg_right (by exact_mod_cast h) (two_zpow_pos _).le
  · have h2 : (2:ℚ)^(q1+1) ≤ (2:ℚ)^q2 := zpow_le_zpow_right₀ (by norm_num) (by omega)
    have h3 : (m1 : ℚ) ≤ 2 * m2 := by exact_mod_cast h
    calc (m1 : ℚ) * 2^q1 ≤ (2 * m2) * 2^q1 := mul_le_mul_of_nonneg_right h3 (two_zpow_pos _).le
      _ = m2 * (2:ℚ)^(q1+1) := by rw [zpow_add_one₀ two_ne]; ring
      _ ≤ m2 * (2:ℚ)^q2 := mul_le_mul_of_nonneg_left h2 (Nat.cast_nonneg _)

/-- `pack` is monotone in `(q, m)` ordered lexicographically, on normalised significands -/
theorem pack_le {m1 m2 : ℕ} {q1 q2 : ℤ} (h1 : m1 ≤ 2^53) (h2 : m2 ≤ 2^53) (hq : q1 ≤ q2)
    (hn : -1074 < q2 → 2^52 ≤ m2) (he : q1 = q2 → m1 ≤ m2) (hq1 : -1074 ≤ q1) :
    le (pack false m1 q1) (pack false m2 q2) = true := by
  have hv : (q1 = q2 ∧ m1 ≤ m2) ∨ (q1 < q2 ∧ m1 ≤ 2 * m2) := by omega
  unfold pack
  by_cases o2 : 2^52 ≤ pm m2 ∧ pq m2 q2 > 971
  · rw [if_pos o2]; split <;> rfl
  · -- no overflow on the right, hence none on the left; the values are `m1·2^q1 ≤ m2·2^q2`
    have o1 : ¬ (2^52 ≤ pm m1 ∧ pq m1 q1 > 971) := by
      have hp1 := pm_pq m1 q1
      have hp2 := pm_pq m2 q2
      omega
    rw [if_neg o1, if_neg o2, le_fin_iff, val_fin_false, val_fin_false, pm_pq_val, pm_pq_val]
    exact dy_le_of hv

/-- quantum exponent chosen for a value with `floor(log2) = e` -/
def qOfE (e : Int) : Int := if e - 52 < -1074 then -1074 else e - 52

theorem qOfE_ge (e : Int) : -1074 ≤ qOfE e ∧ e - 52 ≤ qOfE e := by
  unfold qOfE; split <;> omega

theorem qOfE_mono {e1 e2 : Int} (h : e1 ≤ e2) : qOfE e1 ≤ qOfE e2 := by
  unfold qOfE; split <;> split <;> omega

theorem qOfE_gt {e : Int} (h : -1074 < qOfE e) : qOfE e = e - 52 := by
  unfold qOfE at h ⊢; split <;> omega

/-- `num/den` divided by the quantum `2^q` and rounded to nearest-even -/
def rneQ (num den : ℕ) (q : ℤ) : ℕ := rne (num * 2^(-q).toNat) (den * 2^q.toNat)

theorem rneQ_den_pos {den : ℕ} (hd : 0 < den) (q : ℤ) : 0 < den * 2^q.toNat :=
  Nat.mul_pos hd (Nat.two_pow_pos _)

theorem rneQ_le {num den k : ℕ} {q : ℤ} (hd : 0 < den) (h : (num : ℚ) ≤ (k : ℚ) * (2:ℚ)^q * (den : ℚ)) :
    rneQ num den q ≤ k := by
  have h' : num * 2^(-q).toNat ≤ k * (den * 2^q.toNat) := by
    rw [← Nat.mul_assoc, scale_ge_iff, Nat.cast_mul, mul_right_comm]; exact h
  exact (rne_mono h').trans_eq (rne_exact k _ (rneQ_den_pos hd q))

theorem le_rneQ {num den k : ℕ} {q : ℤ} (hd : 0 < den) (h : (k : ℚ) * (2:ℚ)^q * (den : ℚ) ≤ (num : ℚ)) :
    k ≤ rneQ num den q := by
  have h' : k * (den * 2^q.toNat) ≤ num * 2^(-q).toNat := by
    rw [← Nat.mul_assoc, scale_le_iff, Nat.cast_mul, mul_right_comm]; exact h
  exact (rne_exact k _ (rneQ_den_pos hd q)).symm.trans_le (rne_mono h')

theorem rneQ_lt {num den : ℕ} (hd : 0 < den) (q : ℤ) :
    (num : ℚ) < ((rneQ num den q : ℚ) + 1) * (2:ℚ)^q * (den : ℚ) := by
  unfold rneQ
  have h := rne_succ_mul_gt (num * 2^(-q).toNat) (den * 2^q.toNat) (rneQ_den_pos hd q)
  rw [← Nat.mul_assoc, ← not_le, scale_le_iff, not_le, Nat.cast_mul, mul_right_comm, Nat.cast_succ] at h
  exact h

theorem roundQ_zero (neg : Bool) (den : ℕ) : roundQ neg 0 den = zero neg := by
  unfold roundQ; rw [if_pos rfl]

theorem roundQ_eq (neg : Bool) {num : ℕ} (den : ℕ) (h : num ≠ 0) :
    roundQ neg num den =
      pack neg (rneQ num den (qOfE (ilog2q num den))) (qOfE (ilog2q num den)) := by
  have hN : ∀ q : ℤ, (if q ≥ 0 then num else num * 2^(-q).toNat) = num * 2^(-q).toNat := by
    intro q; split
    · rw [mul_pow_toNat (q := -q) (by omega)]
    · rfl
  have hD : ∀ q : ℤ, (if q ≥ 0 then den * 2^q.toNat else den) = den * 2^q.toNat := by
    intro q; split
    · rfl
    · rw [mul_pow_toNat (q := q) (by omega)]
  unfold roundQ pack pm pq qOfE rneQ
  simp only [if_neg h, hN, hD]

theorem rneQ_bounds {num den : ℕ} (hn : 0 < num) (hd : 0 < den) :
    rneQ num den (qOfE (ilog2q num den)) ≤ 2^53 ∧
    (-1074 < qOfE (ilog2q num den) → 2^52 ≤ rneQ num den (qOfE (ilog2q num den))) := by
  obtain ⟨s1, s2⟩ := ilog2q_spec hn hd
  have hq := qOfE_ge (ilog2q num den)
  have hqgt : -1074 < qOfE (ilog2q num den) → qOfE (ilog2q num den) = ilog2q num den - 52 := qOfE_gt
  generalize ilog2q num den = e at *
  generalize qOfE e = q at *
  have hY : (0:ℚ) < (den : ℚ) := by exact_mod_cast hd
  constructor
  · apply rneQ_le hd
    have h1 : (2:ℚ)^(e + 1) ≤ (2:ℚ)^(q + 53) := zpow_le_zpow_right₀ (by norm_num) (by omega)
    calc (num : ℚ) ≤ (2:ℚ)^(e + 1) * den := s2.le
      _ ≤ (2:ℚ)^(q + 53) * den := mul_le_mul_of_nonneg_right h1 hY.le
      _ = ((2^53 : ℕ) : ℚ) * (2:ℚ)^q * den := congrArg (· * (den : ℚ)) (two_zpow_add_nat q 53)
  · intro hgt
    apply le_rneQ hd
    calc ((2^52 : ℕ) : ℚ) * (2:ℚ)^q * den = (2:ℚ)^(q + 52) * den :=
          congrArg (· * (den : ℚ)) (two_zpow_add_nat q 52).symm
      _ = (2:ℚ)^e * den := by rw [hqgt hgt, sub_add_cancel]
      _ ≤ (num : ℚ) := s1

theorem zero_isF64 (neg : Bool) : IsF64 (zero neg) := by
  show Canon 0 (-1074); decide

/-- **every result of `roundQ` is a canonical binary64** -/
theorem roundQ_isF64 (neg : Bool) (num : ℕ) {den : ℕ} (hd : 0 < den) : IsF64 (roundQ neg num den) := by
  by_cases hn : num = 0
  · subst hn; rw [roundQ_zero]; exact zero_isF64 neg
  · have b := rneQ_bounds (Nat.pos_of_ne_zero hn) hd
    have := pack_isF64 neg b.1 b.2 (qOfE_ge _).1
    rwa [← roundQ_eq neg den hn] at this

theorem roundQ_sign (neg : Bool) (num den : ℕ) :
    roundQ neg num den = .inf neg ∨ ∃ m q, roundQ neg num den = .fin neg m q := by
  by_cases hn : num = 0
  · subst hn; right; rw [roundQ_zero]; exact ⟨_, _, rfl⟩
  · rw [roundQ_eq neg den hn]
    exact (pack_sign _ _ _).imp_right fun h => ⟨_, _, h⟩

theorem roundQ_neg (neg : Bool) (num den : ℕ) : roundQ (!neg) num den = F64.neg (roundQ neg num den) := by
  by_cases hn : num = 0
  · subst hn; rw [roundQ_zero, roundQ_zero]; rfl
  · rw [roundQ_eq _ den hn, roundQ_eq _ den hn, pack_neg]

theorem zero_le_roundQ (num den : ℕ) : le (zero false) (roundQ false num den) = true := by
  rcases roundQ_sign false num den with h | ⟨m, q, h⟩ <;> rw [h]
  · rfl
  · rw [zero, le_fin_iff, val_fin_false, val_fin_false, Nat.cast_zero, zero_mul]; exact dy_nonneg m q

/-- **`roundQ` is monotone in the rational** (`num1/den1 ≤ num2/den2`, cross-multiplied) -/
theorem roundQ_mono {num1 den1 num2 den2 : ℕ} (hd1 : 0 < den1) (hd2 : 0 < den2)
    (h : num1 * den2 ≤ num2 * den1) : le (roundQ false num1 den1) (roundQ false num2 den2) = true := by
  by_cases hn1 : num1 = 0
  · subst hn1; rw [roundQ_zero]; exact zero_le_roundQ num2 den2
  · have hp1 : 0 < num1 := Nat.pos_of_ne_zero hn1
    have hp2 : 0 < num2 := Nat.pos_of_mul_pos_right (Nat.lt_of_lt_of_le (Nat.mul_pos hp1 hd2) h)
    rw [roundQ_eq false den1 hn1, roundQ_eq false den2 (by omega)]
    obtain ⟨a1, _⟩ := rneQ_bounds hp1 hd1
    obtain ⟨b1, b2⟩ := rneQ_bounds hp2 hd2
    have he : ilog2q num1 den1 ≤ ilog2q num2 den2 := ilog2q_mono hp1 hd1 hp2 hd2 (by exact_mod_cast h)
    refine pack_le a1 b1 (qOfE_mono he) b2 ?_ (qOfE_ge _).1
    -- at a common quantum the significands are `rne` of ratios in the same order
    intro heq
    rw [← heq]
    generalize qOfE (ilog2q num1 den1) = q
    refine rne_cross (rneQ_den_pos hd1 q) (rneQ_den_pos hd2 q) ?_
    calc num1 * 2^(-q).toNat * (den2 * 2^q.toNat) = num1 * den2 * (2^(-q).toNat * 2^q.toNat) := by ring
      _ ≤ num2 * den1 * (2^(-q).toNat * 2^q.toNat) := Nat.mul_le_mul_right _ h
      _ = num2 * 2^(-q).toNat * (den1 * 2^q.toNat) := by ring

/-- **`roundQ` of a representable value is that value** -/
theorem roundQ_exact (neg : Bool) {num den m : ℕ} {e : ℤ} (hd : 0 < den) (hc : Canon m e)
    (h : (num : ℚ) = (m : ℚ) * (2:ℚ)^e * (den : ℚ)) : roundQ neg num den = .fin neg m e := by
  have hY : (0:ℚ) < (den : ℚ) := by exact_mod_cast hd
  have pe := two_zpow_pos e
  by_cases hm : m = 0
  · subst hm
    rw [Nat.cast_zero, zero_mul, zero_mul, Nat.cast_eq_zero] at h
    obtain ⟨_, h2, _, h4⟩ := hc
    obtain rfl : e = -1074 := by omega
    subst h
    exact roundQ_zero neg den
  · have hmpos : (0:ℚ) < (m : ℚ) := by exact_mod_cast Nat.pos_of_ne_zero hm
    have hn : 0 < num := by
      have : (0:ℚ) < (num : ℚ) := by rw [h]; positivity
      exact_mod_cast this
    obtain ⟨s1, s2⟩ := ilog2q_spec hn hd
    rw [h, mul_le_mul_iff_of_pos_right hY] at s1
    rw [h, mul_lt_mul_iff_of_pos_right hY] at s2
    obtain ⟨c1, c2, c3, c4⟩ := hc
    -- the binade `E` of `m·2^e` is `e + 52` for a normal `m`, at most that otherwise
    have hq : qOfE (ilog2q num den) = e := by
      generalize ilog2q num den = E at s1 s2
      have u : E < e + 53 := lt_of_two_zpow_lt <|
        calc (2:ℚ)^E ≤ (m : ℚ) * (2:ℚ)^e := s1
          _ < ((2^53 : ℕ) : ℚ) * (2:ℚ)^e := mul_lt_mul_of_pos_right (by exact_mod_cast c1) pe
          _ = (2:ℚ)^(e + 53) := (two_zpow_add_nat e 53).symm
      have l : 2^52 ≤ m → e + 52 < E + 1 := fun hnm => lt_of_two_zpow_lt <|
        calc (2:ℚ)^(e + 52) = ((2^52 : ℕ) : ℚ) * (2:ℚ)^e := two_zpow_add_nat e 52
          _ ≤ (m : ℚ) * (2:ℚ)^e := mul_le_mul_of_nonneg_right (by exact_mod_cast hnm) pe.le
          _ < (2:ℚ)^(E + 1) := s2
      unfold qOfE
      split <;> omega
    have hr : rneQ num den e = m :=
      Nat.le_antisymm (rneQ_le hd h.le) (le_rneQ hd h.ge)
    rw [roundQ_eq neg den (by omega), hq, hr]
    exact pack_canon neg ⟨c1, c2, c3, c4⟩

theorem roundQ_fin (neg : Bool) {num den : ℕ} (hn : 0 < num) (hd : 0 < den) (hhi : qOfE (ilog2q num den) < 971) :
    ∃ m q, roundQ neg num den = .fin neg m q ∧ qOfE (ilog2q num den) ≤ q ∧ q ≤ qOfE (ilog2q num den) + 1 ∧
      (num : ℚ) < ((m : ℚ) + 1) * (2:ℚ)^q * (den : ℚ) := by
  rw [roundQ_eq neg den (Nat.ne_of_gt hn)]
  have hu := rneQ_lt (num := num) hd (qOfE (ilog2q num den))
  generalize rneQ num den (qOfE (ilog2q num den)) = m1 at hu ⊢
  generalize qOfE (ilog2q num den) = q at hu hhi ⊢
  have hq : q ≤ pq m1 q ∧ pq m1 q ≤ q + 1 := by rcases pm_pq m1 q with ⟨_, _, c⟩ | ⟨_, _, c⟩ <;> omega
  refine ⟨pm m1, pq m1 q, by unfold pack; exact if_neg (by omega), hq.1, hq.2, lt_of_lt_of_le hu ?_⟩
  have hle : (2:ℚ)^q ≤ (2:ℚ)^(pq m1 q) := zpow_le_zpow_right₀ (by norm_num) hq.1
  calc ((m1 : ℚ) + 1) * (2:ℚ)^q * den = ((m1 : ℚ) * (2:ℚ)^q + (2:ℚ)^q) * den := by ring
    _ ≤ ((pm m1 : ℚ) * (2:ℚ)^(pq m1 q) + (2:ℚ)^(pq m1 q)) * den := by
        rw [pm_pq_val]
        exact mul_le_mul_of_nonneg_right ((add_le_add_iff_left _).2 hle) (Nat.cast_nonneg den)
    _ = ((pm m1 : ℚ) + 1) * (2:ℚ)^(pq m1 q) * den := by ring

theorem ofFin_eq (neg : Bool) (M : ℕ) (E : ℤ) : ofFin neg M E = roundQ neg (M * 2^E.toNat) (2^(-E).toNat) := by
  unfold ofFin; split
  · rw [Int.toNat_of_nonpos (by omega : -E ≤ 0)]; rfl
  · rw [mul_pow_toNat (q := E) (by omega)]

theorem ofFin_zero (neg : Bool) (E : Int) : ofFin neg 0 E = zero neg := by
  rw [ofFin_eq, Nat.zero_mul]; exact roundQ_zero _ _

theorem ofFin_isF64 (neg : Bool) (M : Nat) (E : Int) : IsF64 (ofFin neg M E) := by
  rw [ofFin_eq]; exact roundQ_isF64 neg _ (Nat.two_pow_pos _)

theorem ofFin_sign (neg : Bool) (M : Nat) (E : Int) :
    ofFin neg M E = .inf neg ∨ ∃ m q, ofFin neg M E = .fin neg m q := by
  rw [ofFin_eq]; exact roundQ_sign ..

theorem ofFin_neg (neg : Bool) (M : Nat) (E : Int) : ofFin (!neg) M E = F64.neg (ofFin neg M E) := by
  rw [ofFin_eq, ofFin_eq]; exact roundQ_neg ..

theorem ofFin_ne_nan (neg : Bool) (M : ℕ) (E : ℤ) : ofFin neg M E ≠ .nan := by
  rcases ofFin_sign neg M E with h | ⟨m, q, h⟩ <;> rw [h] <;> exact F64.noConfusion

theorem zero_le_ofFin (M : ℕ) (E : ℤ) : le (zero false) (ofFin false M E) = true := by
  rw [ofFin_eq]; exact zero_le_roundQ ..

/-- **rounding is monotone**: `M1·2^E1 ≤ M2·2^E2` implies `fl(M1·2^E1) ≤ fl(M2·2^E2)` (in the float order,
`+∞` on overflow) -/
theorem ofFin_mono {M1 M2 : ℕ} {E1 E2 : ℤ} (h : (M1 : ℚ) * (2:ℚ)^E1 ≤ (M2 : ℚ) * (2:ℚ)^E2) :
    le (ofFin false M1 E1) (ofFin false M2 E2) = true := by
  rw [ofFin_eq, ofFin_eq]
  refine roundQ_mono (Nat.two_pow_pos _) (Nat.two_pow_pos _) ?_
  rw [← Nat.cast_le (α := ℚ), Nat.cast_mul _ (2^(-E2).toNat), Nat.cast_mul _ (2^(-E1).toNat), cast_mul_pow M1 E1,
    cast_mul_pow M2 E2,
    mul_right_comm _ ((2^(-E2).toNat : ℕ) : ℚ)]
  exact mul_le_mul_of_nonneg_right (mul_le_mul_of_nonneg_right h (Nat.cast_nonneg _)) (Nat.cast_nonneg _)

/-- **rounding a representable value is the identity** -/
theorem ofFin_exact (neg : Bool) {M m : ℕ} {E e : ℤ} (hc : Canon m e)
    (h : (M : ℚ) * (2:ℚ)^E = (m : ℚ) * (2:ℚ)^e) : ofFin neg M E = .fin neg m e := by
  rw [ofFin_eq]; exact roundQ_exact neg (Nat.two_pow_pos _) hc (by rw [cast_mul_pow, h])

theorem ofFin_canon (neg : Bool) {m : Nat} {e : Int} (h : Canon m e) : ofFin neg m e = .fin neg m e :=
  ofFin_exact neg h rfl

theorem le_cases {a b : F64} (h : le a b = true) :
    (a = .inf true ∧ b ≠ .nan) ∨ (b = .inf false ∧ a ≠ .nan) ∨
      ∃ n1 m1 e1 n2 m2 e2, a = .fin n1 m1 e1 ∧ b = .fin n2 m2 e2 ∧
        val (.fin n1 m1 e1) ≤ val (.fin n2 m2 e2) := by
  rcases b with _ | n2 | ⟨n2, m2, e2⟩
  · cases a <;> cases h
  · cases n2
    · exact Or.inr (Or.inl ⟨rfl, fun e => by subst e; cases h⟩)
    · rcases a with _ | n1 | _
      · cases h
      · cases n1
        · cases h
        · exact Or.inl ⟨rfl, nofun⟩
      · cases h
  · rcases a with _ | n1 | ⟨n1, m1, e1⟩
    · cases h
    · obtain rfl : n1 = true := h
      exact Or.inl ⟨rfl, nofun⟩
    · exact Or.inr (Or.inr ⟨_, _, _, _, _, _, rfl, rfl, (le_fin_iff ..).1 h⟩)

theorem le_of_lt_eq_false {a b : F64} (ha : a ≠ .nan) (hb : b ≠ .nan) (h : lt b a = false) :
    le a b = true := by
  rcases a with _ | n1 | ⟨n1, m1, e1⟩ <;> rcases b with _ | n2 | ⟨n2, m2, e2⟩
  case fin.fin => rw [le_fin_iff, ← not_lt, ← lt_fin_iff, h]; exact Bool.false_ne_true
  case inf.inf => revert h; cases n1 <;> cases n2 <;> decide
  case inf.fin =>
    cases n1
    · cases h
    · rfl
  case fin.inf =>
    cases n2
    · rfl
    · cases h
  case nan.nan | nan.inf | nan.fin => exact absurd rfl ha
  all_goals exact absurd rfl hb

theorem le_inf_false {a : F64} (ha : a ≠ .nan) : le a (.inf false) = true := by
  cases a with
  | nan => exact absurd rfl ha
  | inf n => cases n <;> rfl
  | fin n m e => rfl

theorem inf_true_le {a : F64} (ha : a ≠ .nan) : le (.inf true) a = true := by
  cases a with
  | nan => exact absurd rfl ha
  | inf n => rfl
  | fin n m e => rfl

theorem val_neg (x : F64) : val (F64.neg x) = - val x := by
  cases x with
  | nan | inf _ => exact neg_zero.symm
  | fin n m e => cases n <;> simp only [F64.neg, Bool.not_false, Bool.not_true, val_fin_true, val_fin_false, neg_neg]

theorem le_neg_neg (a b : F64) : le (F64.neg a) (F64.neg b) = le b a := by
  rcases a with _ | n1 | ⟨n1, m1, e1⟩ <;> rcases b with _ | n2 | ⟨n2, m2, e2⟩
  case fin.fin =>
    -- `neg` is unfolded for `le_fin_iff` and folded back for `val_neg`
    rw [Bool.eq_iff_iff, F64.neg, F64.neg, le_fin_iff, le_fin_iff, ← F64.neg, ← F64.neg, val_neg, val_neg,
      neg_le_neg_iff]
  case inf.inf => cases n1 <;> cases n2 <;> rfl
  case fin.inf => cases n2 <;> rfl
  all_goals rfl

theorem pos_le_neg {M1 M2 : ℕ} {E1 E2 : ℤ} (h : val (.fin false M1 E1) ≤ val (.fin true M2 E2)) :
    M1 = 0 ∧ M2 = 0 := by
  rw [val_fin_false, val_fin_true] at h
  have a := dy_nonneg M1 E1
  have b := dy_nonneg M2 E2
  have z : ∀ {M : ℕ} {E : ℤ}, (M : ℚ) * (2:ℚ)^E ≤ 0 → M = 0 := fun hz =>
    Nat.cast_eq_zero.1 (le_antisymm (nonpos_of_mul_nonpos_left hz (two_zpow_pos _)) (Nat.cast_nonneg _))
  exact ⟨z (M := M1) (E := E1) (by linarith), z (M := M2) (E := E2) (by linarith)⟩

theorem le_of_signs {a b : F64} (ha : a = .inf true ∨ ∃ m q, a = .fin true m q)
    (hb : b = .inf false ∨ ∃ m q, b = .fin false m q) : le a b = true := by
  rcases ha with rfl | ⟨m1, q1, rfl⟩ <;> rcases hb with rfl | ⟨m2, q2, rfl⟩
  · rfl
  · rfl
  · rfl
  · rw [le_fin_iff, val_fin_true, val_fin_false]
    linarith [dy_nonneg m1 q1, dy_nonneg m2 q2]

theorem ofFin_mono_signed {n1 n2 : Bool} {M1 M2 : ℕ} {E1 E2 : ℤ}
    (h : val (.fin n1 M1 E1) ≤ val (.fin n2 M2 E2)) : le (ofFin n1 M1 E1) (ofFin n2 M2 E2) = true := by
  cases n1 <;> cases n2
  · rw [val_fin_false, val_fin_false] at h; exact ofFin_mono h
  · obtain ⟨rfl, rfl⟩ := pos_le_neg h
    rw [ofFin_zero, ofFin_zero]; decide
  · exact le_of_signs (ofFin_sign _ _ _) (ofFin_sign _ _ _)
  · rw [val_fin_true, val_fin_true, neg_le_neg_iff] at h
    have e1 : ofFin true M1 E1 = F64.neg (ofFin false M1 E1) := ofFin_neg false M1 E1
    have e2 : ofFin true M2 E2 = F64.neg (ofFin false M2 E2) := ofFin_neg false M2 E2
    rw [e1, e2, le_neg_neg]; exact ofFin_mono h

/-! ## truncation to `int64` behind the `< 2^63` guard (`saturatedMultiply`'s tail) -/

/-- `if tmp < MaxInt64 then int64(tmp) else MaxInt64` -/
def sat (x : F64) : Int := if lt x two63 then toInt64 x else 2^63 - 1

/-- `floor (m·2^e)` -/
def mag (m : ℕ) (e : ℤ) : ℕ := if e ≥ 0 then m * 2^e.toNat else m / 2^(-e).toNat

theorem le_mag_iff (n m : ℕ) (e : ℤ) : n ≤ mag m e ↔ (n : ℚ) ≤ (m : ℚ) * (2:ℚ)^e := by
  rw [← scale_ge_iff]
  unfold mag
  split
  · rw [mul_pow_toNat (q := -e) (by omega)]
  · rw [mul_pow_toNat (q := e) (by omega)]
    exact Nat.le_div_iff_mul_le (Nat.two_pow_pos _)

theorem mag_mono {m1 m2 : ℕ} {e1 e2 : ℤ} (h : (m1 : ℚ) * (2:ℚ)^e1 ≤ (m2 : ℚ) * (2:ℚ)^e2) :
    mag m1 e1 ≤ mag m2 e2 :=
  (le_mag_iff _ _ _).2 (le_trans ((le_mag_iff _ _ _).1 (Nat.le_refl _)) h)

theorem mag_zero (e : ℤ) : mag 0 e = 0 := by
  unfold mag; split
  · exact Nat.zero_mul _
  · exact Nat.zero_div _

theorem val_two63 : val two63 = ((2^63 : ℕ) : ℚ) := by
  unfold two63; rw [val_fin_false]; norm_num

theorem toInt64_fin (neg : Bool) (m : ℕ) (e : ℤ) :
    toInt64 (.fin neg m e) =
      if (if neg then -(mag m e : ℤ) else (mag m e : ℤ)) ≥ 2^63 ∨ (if neg then -(mag m e : ℤ) else (mag m e : ℤ)) < -(2^63)
      then -(2^63) else (if neg then -(mag m e : ℤ) else (mag m e : ℤ)) := rfl

theorem toInt64_range (x : F64) : -(2^63) ≤ toInt64 x ∧ toInt64 x ≤ 2^63 - 1 := by
  cases x with
  | nan | inf _ => exact ⟨le_refl _, (by decide : -(2^63 : ℤ) ≤ 2^63 - 1)⟩
  | fin neg m e => rw [toInt64_fin]; split <;> omega

theorem sat_range (x : F64) : -(2^63) ≤ sat x ∧ sat x ≤ 2^63 - 1 := by
  unfold sat; split
  · exact toInt64_range x
  · omega

theorem sat_fin_pos (m : ℕ) (e : ℤ) : sat (.fin false m e) = min (mag m e : ℤ) (2^63 - 1) := by
  have hlt : lt (.fin false m e) two63 = true ↔ mag m e < 2^63 := by
    rw [two63, lt_fin_iff, ← two63, val_two63, val_fin_false, ← not_le, ← le_mag_iff, not_le]
  unfold sat
  rw [toInt64_fin]
  simp only [hlt, Bool.false_eq_true, if_false]
  split_ifs <;> omega

theorem sat_fin_neg (m : ℕ) (e : ℤ) : sat (.fin true m e) = max (-(mag m e : ℤ)) (-(2^63)) := by
  unfold sat
  have h : lt (.fin true m e) two63 = true := by
    rw [two63, lt_fin_iff, ← two63, val_two63, val_fin_true]
    exact lt_of_le_of_lt (neg_nonpos.2 (dy_nonneg m e)) (Nat.cast_pos.2 (by decide))
  rw [if_pos h, toInt64_fin]
  simp only [if_true]
  split <;> omega

theorem sat_inf_true : sat (.inf true) = -(2^63) := rfl
theorem sat_inf_false : sat (.inf false) = 2^63 - 1 := rfl
theorem sat_nan : sat .nan = 2^63 - 1 := rfl

/-- **the guarded truncation is monotone** with respect to the float order -/
theorem sat_mono {a b : F64} (h : le a b = true) : sat a ≤ sat b := by
  rcases le_cases h with ⟨rfl, _⟩ | ⟨rfl, _⟩ | ⟨n1, m1, e1, n2, m2, e2, rfl, rfl, hv⟩
  · rw [sat_inf_true]; exact (sat_range b).1
  · rw [sat_inf_false]; exact (sat_range a).2
  · cases n1 <;> cases n2
    · rw [val_fin_false, val_fin_false] at hv
      rw [sat_fin_pos, sat_fin_pos]
      have := mag_mono hv
      omega
    · obtain ⟨rfl, rfl⟩ := pos_le_neg hv
      rw [sat_fin_pos, sat_fin_neg, mag_zero, mag_zero]; decide
    · rw [sat_fin_neg, sat_fin_pos]; omega
    · rw [val_fin_true, val_fin_true, neg_le_neg_iff] at hv
      rw [sat_fin_neg, sat_fin_neg]
      have := mag_mono hv
      omega

theorem mul_pos_fin (m : ℕ) (q : ℤ) (n2 : Bool) (m2 : ℕ) (e2 : ℤ) :
    mul (.fin false m q) (.fin n2 m2 e2) = ofFin n2 (m * m2) (q + e2) := by cases n2 <;> rfl

theorem mul_pos_inf (m : ℕ) (q : ℤ) (n : Bool) :
    mul (.fin false m q) (.inf n) = if m = 0 then .nan else .inf n := by cases n <;> rfl

theorem mul_nan_right (x : F64) : mul x .nan = .nan := by cases x <;> rfl

theorem mul_pos_ne_nan {m : ℕ} (q : ℤ) (hm : m ≠ 0) {p : F64} (hp : p ≠ .nan) :
    mul (.fin false m q) p ≠ .nan := by
  cases p with
  | nan => exact absurd rfl hp
  | inf n => rw [mul_pos_inf, if_neg hm]; exact F64.noConfusion
  | fin n2 m2 e2 => rw [mul_pos_fin]; exact ofFin_ne_nan _ _ _

theorem val_mul_pos (m : ℕ) (q : ℤ) (n2 : Bool) (m2 : ℕ) (e2 : ℤ) :
    val (.fin n2 (m * m2) (q + e2)) = (m : ℚ) * (2:ℚ)^q * val (.fin n2 m2 e2) := by
  simp only [val]; rw [zpow_add₀ two_ne]; push_cast; ring

theorem mul_mono_right {m : ℕ} (q : ℤ) (hm : 0 < m) {p p' : F64} (h : le p p' = true) :
    le (mul (.fin false m q) p) (mul (.fin false m q) p') = true := by
  have hm0 : m ≠ 0 := by omega
  rcases le_cases h with ⟨rfl, hp'⟩ | ⟨rfl, hp⟩ | ⟨n2, m2, e2, n2', m2', e2', rfl, rfl, hv⟩
  · rw [mul_pos_inf, if_neg hm0]; exact inf_true_le (mul_pos_ne_nan q hm0 hp')
  · rw [mul_pos_inf m, if_neg hm0]; exact le_inf_false (mul_pos_ne_nan q hm0 hp)
  · rw [mul_pos_fin, mul_pos_fin]
    apply ofFin_mono_signed
    rw [val_mul_pos, val_mul_pos]
    exact mul_le_mul_of_nonneg_left hv (dy_nonneg m q)

theorem ofInt_pos {i : ℤ} (h : 0 < i) : ofInt i = roundQ false i.natAbs 1 := by
  unfold ofInt
  rw [if_neg (by omega), decide_eq_false (by omega)]

theorem natAbs_cast {i : ℤ} (h : 0 < i) : ((i.natAbs : ℕ) : ℚ) = (i : ℚ) := by
  rw [Nat.cast_natAbs, abs_of_nonneg h.le]

theorem ofInt_pos_spec {i : ℤ} (h0 : 0 < i) (h1 : i ≤ 2^63 - 1) :
    ∃ m q, ofInt i = .fin false m q ∧ 2^52 ≤ m ∧ m < 2^53 ∧ -52 ≤ q ∧ q ≤ 11 ∧
      (i : ℚ) < ((m : ℚ) + 1) * (2:ℚ)^q := by
  rw [ofInt_pos h0]
  have hn : 0 < i.natAbs := by omega
  obtain ⟨s1, s2⟩ := ilog2q_spec hn Nat.one_pos
  rw [natAbs_cast h0, Nat.cast_one, mul_one] at s1 s2
  have hlo : (0:ℤ) < ilog2q i.natAbs 1 + 1 := lt_of_two_zpow_lt <|
    calc (2:ℚ)^(0:ℤ) = 1 := zpow_zero _
      _ ≤ (i : ℚ) := by exact_mod_cast h0
      _ < _ := s2
  have hhi : ilog2q i.natAbs 1 < 63 := lt_of_two_zpow_lt <|
    calc (2:ℚ)^(ilog2q i.natAbs 1) ≤ (i : ℚ) := s1
      _ < (2:ℚ)^(63:ℤ) := by
        have : i < 2^63 := by omega
        rw [show (63:ℤ) = ((63:ℕ):ℤ) from rfl, zpow_natCast]
        exact_mod_cast this
  have hq := qOfE_ge (ilog2q i.natAbs 1)
  have hq' := qOfE_gt (e := ilog2q i.natAbs 1) (by omega)
  obtain ⟨m, q, hx, hq1, hq2, hup⟩ := roundQ_fin false hn Nat.one_pos (by omega)
  have hc := roundQ_isF64 false i.natAbs Nat.one_pos
  rw [hx] at hc
  obtain ⟨c1, -, -, c4⟩ := hc
  rw [natAbs_cast h0, Nat.cast_one, mul_one] at hup
  exact ⟨m, q, hx, by omega, c1, by omega, by omega, hup⟩

theorem val_one : val one = 1 := by
  unfold one; rw [val_fin_false]; norm_num

theorem add_fin_eq (n1 : Bool) (m1 : ℕ) (e1 : ℤ) (n2 : Bool) (m2 : ℕ) (e2 : ℤ) :
    ∃ S E : ℤ, (S : ℚ) * (2:ℚ)^E = val (.fin n1 m1 e1) + val (.fin n2 m2 e2) ∧
      add (.fin n1 m1 e1) (.fin n2 m2 e2) = if S = 0 then zero (n1 && n2) else ofFin (decide (S < 0)) S.natAbs E :=
  ⟨_, _, by rw [Int.cast_add, scaled_cast _ _ (min_exp_le e1 e2).1, scaled_cast _ _ (min_exp_le e1 e2).2, ← add_mul,
    mul_assoc, inv_mul_cancel₀ (two_zpow_pos _).ne', mul_one], rfl⟩

theorem add_fin_nonneg (m1 : ℕ) (e1 : ℤ) (n2 : Bool) (m2 : ℕ) (e2 : ℤ)
    (h : 0 ≤ val (.fin false m1 e1) + val (.fin n2 m2 e2)) :
    ∃ S E, add (.fin false m1 e1) (.fin n2 m2 e2) = ofFin false S E ∧
      (S : ℚ) * (2:ℚ)^E = val (.fin false m1 e1) + val (.fin n2 m2 e2) := by
  obtain ⟨S, E, hs, hadd⟩ := add_fin_eq false m1 e1 n2 m2 e2
  have hnn : 0 ≤ S := by
    have : (0:ℚ) ≤ (S : ℚ) := nonneg_of_mul_nonneg_left (by rw [hs]; exact h) (two_zpow_pos E)
    exact_mod_cast this
  refine ⟨S.natAbs, E, ?_, ?_⟩
  · rw [hadd]
    by_cases h0 : S = 0
    · subst h0; rw [if_pos rfl, Int.natAbs_zero, ofFin_zero]; rfl
    · rw [if_neg h0, decide_eq_false (by omega)]
  · rw [← hs, Nat.cast_natAbs, abs_of_nonneg hnn]

theorem add_one_fin {n : Bool} {m : ℕ} {e : ℤ} (h : -1 ≤ val (.fin n m e)) :
    ∃ S E, add one (.fin n m e) = ofFin false S E ∧ (S : ℚ) * (2:ℚ)^E = 1 + val (.fin n m e) := by
  have := add_fin_nonneg (2^52) (-52) n m e (by rw [← one, val_one]; linarith)
  rw [← one, val_one] at this
  exact this

/-- `1 + r` is monotone in `r ≥ -1` and non-negative -/
theorem add_one_mono {a b : F64} (ha : le (F64.neg one) a = true) (hab : le a b = true)
    (hb : le b one = true) : le (add one a) (add one b) = true ∧ le (zero false) (add one a) = true := by
  rcases le_cases hab with ⟨rfl, _⟩ | ⟨rfl, _⟩ | ⟨n1, m1, e1, n2, m2, e2, rfl, rfl, vab⟩
  · exact absurd ha Bool.false_ne_true
  · exact absurd hb Bool.false_ne_true
  · have va : -1 ≤ val (.fin n1 m1 e1) := by
      have vneg : val (.fin true (2^52) (-52)) = -1 := by rw [val_fin_true]; norm_num
      have := (le_fin_iff true (2^52) (-52) n1 m1 e1).1 ha
      rwa [vneg] at this
    obtain ⟨S1, E1, h1, v1⟩ := add_one_fin va
    obtain ⟨S2, E2, h2, v2⟩ := add_one_fin (le_trans va vab)
    rw [h1, h2]
    exact ⟨ofFin_mono (by rw [v1, v2]; linarith), zero_le_ofFin _ _⟩

/-! ## `saturatedMultiply` at the float level: `sat (mul (ofInt i) ·)` -/

theorem mul_zero_right (m : ℕ) (q : ℤ) : mul (.fin false m q) (zero false) = zero false := by
  unfold zero; rw [mul_pos_fin, Nat.mul_zero, ofFin_zero]; rfl

theorem sat_zero : sat (zero false) = 0 := by
  unfold zero; rw [sat_fin_pos, mag_zero]; decide

theorem satmul_mono {i : ℤ} (h0 : 0 < i) (h1 : i ≤ 2^63 - 1) {p p' : F64} (h : le p p' = true) :
    sat (mul (ofInt i) p) ≤ sat (mul (ofInt i) p') := by
  obtain ⟨m, q, hx, hm1, _⟩ := ofInt_pos_spec h0 h1
  rw [hx]
  exact sat_mono (mul_mono_right q (by omega) h)

theorem satmul_nonneg {i : ℤ} (h0 : 0 < i) (h1 : i ≤ 2^63 - 1) {p : F64} (h : le (zero false) p = true) :
    0 ≤ sat (mul (ofInt i) p) := by
  have := satmul_mono h0 h1 h
  obtain ⟨m, q, hx, _⟩ := ofInt_pos_spec h0 h1
  rw [hx, mul_zero_right, sat_zero] at this
  rw [hx]; exact this

/-- If the float `m'·2^q'` is at least `i` and at most the exact product of `m·2^q` with the constant
`cm·2^ce`, then multiplying `m·2^q` by any `p ≥ cm·2^ce`, rounding and truncating stays at or above `i`:
rounding and truncation are monotone and fix `m'·2^q'`, and the product is monotone in `p`. -/
theorem le_sat_mul {i : ℤ} (h0 : 0 < i) (h1 : i ≤ 2^63 - 1) {m m' cm : ℕ} {q q' ce : ℤ} (hm : 0 < m)
    (hc : Canon m' q') (hi : (i : ℚ) ≤ (m' : ℚ) * (2:ℚ)^q')
    (hx : (m' : ℚ) * (2:ℚ)^q' ≤ (m : ℚ) * (2:ℚ)^q * ((cm : ℚ) * (2:ℚ)^ce)) {p : F64}
    (h : le (.fin false cm ce) p = true) : i ≤ sat (mul (.fin false m q) p) := by
  have e : ((m * cm : ℕ) : ℚ) * (2:ℚ)^(q + ce) = (m : ℚ) * (2:ℚ)^q * ((cm : ℚ) * (2:ℚ)^ce) := by
    have := val_mul_pos m q false cm ce
    rwa [val_fin_false, val_fin_false] at this
  have hle : le (.fin false m' q') (mul (.fin false m q) (.fin false cm ce)) = true := by
    rw [mul_pos_fin, ← ofFin_canon false hc]; exact ofFin_mono (by rw [e]; exact hx)
  have a := (le_mag_iff i.natAbs m' q').2 (by rw [natAbs_cast h0]; exact hi)
  have b := sat_mono hle
  rw [sat_fin_pos] at b
  have c := sat_mono (mul_mono_right q hm h)
  omega

/-- `nextUp(1.0) = 1 + 2^-52`, the smallest float above 1 -/
def nextUpOne : F64 := .fin false (2^52 + 1) (-52)

/-- **never below the left operand** when the multiplier is at least `nextUp(1)` -/
theorem satmul_ge {i : ℤ} (h0 : 0 < i) (h1 : i ≤ 2^63 - 1) {p : F64}
    (h : le nextUpOne p = true) : i ≤ sat (mul (ofInt i) p) := by
  obtain ⟨m, q, hx, hm1, hm2, hq1, hq2, hup⟩ := ofInt_pos_spec h0 h1
  rw [hx]
  -- the float `x + ulp(x)` lies between `i` and the exact product
  have hup' : (i : ℚ) ≤ ((m + 1 : ℕ) : ℚ) * (2:ℚ)^q := by rw [Nat.cast_succ]; exact hup.le
  have hprod : ((m + 1 : ℕ) : ℚ) * (2:ℚ)^q ≤ (m : ℚ) * (2:ℚ)^q * (((2^52 + 1 : ℕ) : ℚ) * (2:ℚ)^(-52:ℤ)) := by
    have hm : (2:ℚ)^52 ≤ (m : ℚ) := by exact_mod_cast hm1
    have hc : (((2^52 + 1 : ℕ) : ℚ)) * (2:ℚ)^(-52:ℤ) = 1 + (2:ℚ)^(-52:ℤ) := by norm_num
    have hmc : 1 ≤ (m : ℚ) * (2:ℚ)^(-52:ℤ) := by
      calc (1:ℚ) = (2:ℚ)^52 * (2:ℚ)^(-52:ℤ) := by norm_num
        _ ≤ (m : ℚ) * (2:ℚ)^(-52:ℤ) := mul_le_mul_of_nonneg_right hm (two_zpow_pos _).le
    rw [hc, Nat.cast_succ]
    calc ((m : ℚ) + 1) * (2:ℚ)^q ≤ ((m : ℚ) + (m : ℚ) * (2:ℚ)^(-52:ℤ)) * (2:ℚ)^q :=
          mul_le_mul_of_nonneg_right ((add_le_add_iff_left _).2 hmc) (two_zpow_pos q).le
      _ = (m : ℚ) * (2:ℚ)^q * (1 + (2:ℚ)^(-52:ℤ)) := by ring
  -- in canonical form (a carry when `m + 1 = 2^53`)
  have hc : Canon (pm (m + 1)) (pq (m + 1) q) := by
    unfold Canon; rcases pm_pq (m + 1) q with ⟨_, b, c⟩ | ⟨_, b, c⟩ <;> omega
  exact le_sat_mul h0 h1 (by omega) hc (by rw [pm_pq_val]; exact hup') (by rw [pm_pq_val]; exact hprod) h

/-- a significand below `2^53` at an exponent in range has a canonical form: double it and lower the
exponent until it is normal or the exponent is minimal (at most `n` times) -/
theorem canon_of_lt (n : ℕ) : ∀ (M : ℕ) (e : ℤ), M < 2^53 → -1074 ≤ e → e ≤ 971 → e + 1074 ≤ n →
    ∃ (m : ℕ) (e' : ℤ), Canon m e' ∧ (M : ℚ) * (2:ℚ)^e = (m : ℚ) * (2:ℚ)^e' := by
  induction n with
  | zero => intro M e hM he1 he2 hn; exact ⟨M, e, ⟨hM, he1, he2, Or.inr (by omega)⟩, rfl⟩
  | succ n ih =>
    intro M e hM he1 he2 hn
    by_cases h : 2^52 ≤ M ∨ e = -1074
    · exact ⟨M, e, ⟨hM, he1, he2, h⟩, rfl⟩
    · have h' : 2 * M < 2^53 ∧ -1074 ≤ e - 1 ∧ e - 1 ≤ 971 ∧ e - 1 + 1074 ≤ n := by omega
      obtain ⟨m, e', hc, hv⟩ := ih (2 * M) (e - 1) h'.1 h'.2.1 h'.2.2.1 h'.2.2.2
      refine ⟨m, e', hc, hv ▸ ?_⟩
      rw [zpow_sub_one₀ two_ne_zero, Nat.cast_mul, Nat.cast_ofNat]
      ring

theorem ofInt_exact_small {i : ℤ} (h0 : 0 < i) (h1 : i < 2^53) :
    ∃ m q, ofInt i = .fin false m q ∧ Canon m q ∧ 0 < m ∧ (m : ℚ) * (2:ℚ)^q = (i : ℚ) := by
  rw [ofInt_pos h0]
  obtain ⟨m, q, hc, hv⟩ := canon_of_lt 1074 i.natAbs 0 (by omega) (by omega) (by omega) (by omega)
  rw [zpow_zero, mul_one, natAbs_cast h0] at hv
  have hi : (0:ℚ) < (i : ℚ) := by exact_mod_cast h0
  refine ⟨m, q, roundQ_exact false Nat.one_pos hc (by rw [natAbs_cast h0, hv, Nat.cast_one, mul_one]), hc,
    Nat.pos_of_ne_zero fun hm => ?_, hv.symm⟩
  rw [hm, Nat.cast_zero, zero_mul] at hv
  exact hi.ne' hv

/-- for `i < 2^53` (converted exactly) a multiplier `≥ 1.0` is enough to stay at or above `i` -/
theorem satmul_ge_small {i : ℤ} (h0 : 0 < i) (h1 : i < 2^53) {p : F64} (h : le one p = true) :
    i ≤ sat (mul (ofInt i) p) := by
  obtain ⟨m, q, hx, hcan, hm, hv⟩ := ofInt_exact_small h0 h1
  rw [hx]
  refine le_sat_mul h0 (by omega) hm hcan hv.ge ?_ h
  have : ((2^52 : ℕ) : ℚ) * (2:ℚ)^(-52:ℤ) = 1 := by norm_num
  rw [this, mul_one]

/-- a float `> 1` is `≥ nextUp(1)` (what the exponential constructor's check `multiplier > 1` gives) -/
theorem nextUpOne_le_of_one_lt {mu : F64} (hc : IsF64 mu) (h : lt one mu = true) :
    le nextUpOne mu = true := by
  cases mu with
  | nan => exact absurd h Bool.false_ne_true
  | inf n => exact h
  | fin n m e =>
    have hm : m < 2^53 := hc.1
    unfold one at h; unfold nextUpOne
    simp only [lt, le, scaled] at h ⊢
    by_cases he : -52 ≤ e
    · -- aligned at `-52`: strictly above the integer `2^52` means at least `2^52 + 1`
      simp only [if_pos he, decide_eq_true_eq, show ((-52:ℤ) - -52).toNat = 0 from rfl, Nat.pow_zero, Nat.mul_one,
        Bool.false_eq_true, if_false, Int.one_mul] at h ⊢
      omega
    · -- aligned at `e < -52`, `1.0` is `2^52·2^k` with `k ≥ 1`, which no significand below `2^53` exceeds
      exfalso
      have h2 : 2^52 * 2^1 ≤ 2^52 * 2^((-52:ℤ) - e).toNat :=
        Nat.mul_le_mul_left _ (Nat.pow_le_pow_right (by decide) (by omega))
      simp only [if_neg he, decide_eq_true_eq, Int.sub_self, Int.toNat_zero, Nat.pow_zero, Nat.mul_one,
        Bool.false_eq_true, if_false, Int.one_mul] at h
      cases n <;> simp only [if_true, Bool.false_eq_true, if_false, Int.one_mul] at h <;> omega

theorem mul_isF64 (x y : F64) : IsF64 (mul x y) := by
  rcases x with _ | n1 | ⟨n1, m1, e1⟩ <;> rcases y with _ | n2 | ⟨n2, m2, e2⟩
  case fin.fin => exact ofFin_isF64 _ _ _
  case inf.fin => show IsF64 (if m2 = 0 then .nan else .inf (n1 != n2)); split <;> trivial
  case fin.inf => show IsF64 (if m1 = 0 then .nan else .inf (n2 != n1)); split <;> trivial
  all_goals trivial

theorem add_isF64 (x y : F64) : IsF64 (add x y) := by
  rcases x with _ | n1 | ⟨n1, m1, e1⟩ <;> rcases y with _ | n2 | ⟨n2, m2, e2⟩
  case fin.fin =>
    obtain ⟨S, E, -, h⟩ := add_fin_eq n1 m1 e1 n2 m2 e2
    rw [h]; split
    · exact zero_isF64 _
    · exact ofFin_isF64 _ _ _
  case inf.inf => show IsF64 (if n1 = n2 then .inf n1 else .nan); split <;> trivial
  all_goals trivial

theorem ofInt_isF64 (i : ℤ) : IsF64 (ofInt i) := by
  unfold ofInt
  split
  · exact zero_isF64 _
  · exact roundQ_isF64 _ _ Nat.one_pos

theorem div_isF64 (x y : F64) : IsF64 (div x y) := by
  rcases x with _ | n1 | ⟨n1, m1, e1⟩ <;> rcases y with _ | n2 | ⟨n2, m2, e2⟩
  case fin.inf => exact zero_isF64 _
  case fin.fin =>
    show IsF64 (if m2 = 0 then (if m1 = 0 then .nan else .inf (n1 != n2)) else
      (if e1 - e2 ≥ 0 then roundQ (n1 != n2) (m1 * 2^(e1 - e2).toNat) m2
        else roundQ (n1 != n2) m1 (m2 * 2^(-(e1 - e2)).toNat)))
    split
    · split <;> trivial
    · next hm2 =>
      have hp : 0 < m2 := Nat.pos_of_ne_zero hm2
      split
      · exact roundQ_isF64 _ _ hp
      · exact roundQ_isF64 _ _ (Nat.mul_pos hp (Nat.two_pow_pos _))
  all_goals trivial

end Garr.F64
