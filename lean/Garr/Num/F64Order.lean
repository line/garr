import Garr.Num.F64
/-!
# An independent mathematical meaning of the binary64 comparisons

`F64.lt` / `F64.le` (in `Garr/Num/F64.lean`) are *computed*: they align both operands at the smaller
of the two exponents (`scaled`) and dispatch on the operand shapes.  This file gives the order a
meaning that does not mention either.

Every canonical binary64 `±m·2^e` has `e ≥ -1074`, so `value · 2^1074 = ±m·2^(e+1074)` is an
*integer* (`num`).  Multiplication by the positive constant `2^1074` is strictly monotone, hence
`x ↦ value x · 2^1074` is an order embedding of the finite binary64 values into `ℤ`, and of the
binary64 numbers (finite or infinite) into `ℤ ∪ {-∞, +∞}` (`EInt`, with its usual linear order).
`ext : F64 → EInt` is that embedding; `+0` and `-0` both map to `0`.

This file imports the model only, so that the `_sem` statements of `Props/C20.lean` rest on core Lean alone.
The arithmetic lemmas (`F64Lemmas.lean`) read the same comparisons through the rational value `val : F64 → ℚ`,
which needs Mathlib; neither file uses the other.
-/
namespace Garr
namespace F64

inductive EInt where
  | negInf
  | fin (z : Int)
  | posInf
deriving DecidableEq, Repr

namespace EInt

protected def lt : EInt → EInt → Prop
  | .negInf, .negInf => False
  | .negInf, _ => True
  | .fin _, .negInf => False
  | .fin a, .fin b => a < b
  | .fin _, .posInf => True
  | .posInf, _ => False

protected def le : EInt → EInt → Prop
  | .negInf, _ => True
  | .fin _, .negInf => False
  | .fin a, .fin b => a ≤ b
  | .fin _, .posInf => True
  | .posInf, .posInf => True
  | .posInf, _ => False

instance : LT EInt := ⟨EInt.lt⟩
instance : LE EInt := ⟨EInt.le⟩

instance : (x y : EInt) → Decidable (x < y)
  | .fin a, .fin b => inferInstanceAs (Decidable (a < b))
  | .negInf, .fin _ | .negInf, .posInf | .fin _, .posInf => isTrue trivial
  | .negInf, .negInf | .fin _, .negInf | .posInf, .negInf | .posInf, .fin _ | .posInf, .posInf =>
    isFalse (fun h => h)

instance : (x y : EInt) → Decidable (x ≤ y)
  | .fin a, .fin b => inferInstanceAs (Decidable (a ≤ b))
  | .negInf, .negInf | .negInf, .fin _ | .negInf, .posInf | .fin _, .posInf | .posInf, .posInf =>
    isTrue trivial
  | .fin _, .negInf | .posInf, .negInf | .posInf, .fin _ => isFalse (fun h => h)

@[simp] theorem fin_lt_fin (a b : Int) : (EInt.fin a < EInt.fin b) ↔ a < b := Iff.rfl
@[simp] theorem fin_le_fin (a b : Int) : (EInt.fin a ≤ EInt.fin b) ↔ a ≤ b := Iff.rfl
@[simp] theorem negInf_lt_fin (a : Int) : EInt.negInf < EInt.fin a := trivial
@[simp] theorem negInf_lt_posInf : EInt.negInf < EInt.posInf := trivial
@[simp] theorem fin_lt_posInf (a : Int) : EInt.fin a < EInt.posInf := trivial
@[simp] theorem not_lt_negInf (x : EInt) : ¬ x < EInt.negInf := by cases x <;> exact fun h => h
@[simp] theorem not_posInf_lt (x : EInt) : ¬ EInt.posInf < x := by cases x <;> exact fun h => h
@[simp] theorem negInf_le (x : EInt) : EInt.negInf ≤ x := by cases x <;> trivial
@[simp] theorem le_posInf (x : EInt) : x ≤ EInt.posInf := by cases x <;> trivial
@[simp] theorem not_fin_le_negInf (a : Int) : ¬ EInt.fin a ≤ EInt.negInf := fun h => h
@[simp] theorem not_posInf_le_fin (a : Int) : ¬ EInt.posInf ≤ EInt.fin a := fun h => h
@[simp] theorem not_posInf_le_negInf : ¬ EInt.posInf ≤ EInt.negInf := fun h => h

/-! `EInt` is a linear order: irreflexivity and transitivity of `<` by cases, `≤` as `¬ >` and as
`< ∨ =`; every other law follows from these four -/

protected theorem lt_irrefl (x : EInt) : ¬ x < x := by
  cases x with
  | fin a => exact Int.lt_irrefl a
  | _ => exact fun h => h

protected theorem lt_trans {x y z : EInt} : x < y → y < z → x < z := by
  intro h₁ h₂
  cases y with
  | negInf => exact absurd h₁ (not_lt_negInf x)
  | posInf => exact absurd h₂ (not_posInf_lt z)
  | fin b =>
    -- `x` is `-∞` or an integer below `b`, `z` is `+∞` or an integer above `b`
    cases z with
    | negInf => exact absurd h₂ (not_lt_negInf _)
    | posInf => cases x with
      | posInf => exact absurd h₁ (not_posInf_lt _)
      | _ => trivial
    | fin c => cases x with
      | posInf => exact absurd h₁ (not_posInf_lt _)
      | negInf => trivial
      | fin a => exact Int.lt_trans h₁ h₂

protected theorem not_lt {x y : EInt} : ¬ x < y ↔ y ≤ x := by
  cases x <;> cases y <;> simp

protected theorem le_iff_lt_or_eq {x y : EInt} : x ≤ y ↔ x < y ∨ x = y := by
  cases x <;> cases y <;> simp [Int.le_iff_lt_or_eq]

protected theorem le_of_lt {x y : EInt} (h : x < y) : x ≤ y := EInt.le_iff_lt_or_eq.2 (Or.inl h)

protected theorem lt_asymm {x y : EInt} : x < y → ¬ y < x :=
  fun h h' => EInt.lt_irrefl x (EInt.lt_trans h h')

protected theorem le_refl (x : EInt) : x ≤ x := EInt.le_iff_lt_or_eq.2 (Or.inr rfl)

protected theorem lt_of_lt_of_le {x y z : EInt} : x < y → y ≤ z → x < z :=
  fun h₁ h₂ => (EInt.le_iff_lt_or_eq.1 h₂).elim (EInt.lt_trans h₁) (fun e => e ▸ h₁)

protected theorem lt_of_le_of_lt {x y z : EInt} : x ≤ y → y < z → x < z :=
  fun h₁ h₂ => (EInt.le_iff_lt_or_eq.1 h₁).elim (fun h => EInt.lt_trans h h₂) (fun e => e ▸ h₂)

protected theorem le_trans {x y z : EInt} : x ≤ y → y ≤ z → x ≤ z :=
  fun h₁ h₂ => EInt.not_lt.1 fun h => EInt.not_lt.2 h₂ (EInt.lt_of_lt_of_le h h₁)

protected theorem le_antisymm {x y : EInt} : x ≤ y → y ≤ x → x = y :=
  fun h₁ h₂ => (EInt.le_iff_lt_or_eq.1 h₁).elim (fun h => absurd h (EInt.not_lt.2 h₂)) id

protected theorem le_total (x y : EInt) : x ≤ y ∨ y ≤ x :=
  (Decidable.em (y < x)).elim (fun h => Or.inr (EInt.le_of_lt h)) (fun h => Or.inl (EInt.not_lt.1 h))

protected theorem not_le {x y : EInt} : ¬ x ≤ y ↔ y < x := by
  rw [← EInt.not_lt, Decidable.not_not]

protected theorem lt_iff_le_and_ne {x y : EInt} : x < y ↔ x ≤ y ∧ x ≠ y :=
  ⟨fun h => ⟨EInt.le_of_lt h, fun e => EInt.lt_irrefl y (e ▸ h)⟩,
   fun h => (EInt.le_iff_lt_or_eq.1 h.1).resolve_right h.2⟩

def ofInt (n : Int) : EInt := .fin (n * 2 ^ 1074)

theorem ofInt_lt_ofInt (a b : Int) : ofInt a < ofInt b ↔ a < b :=
  Int.mul_lt_mul_right (Int.pow_pos (by decide))

theorem ofInt_le_ofInt (a b : Int) : ofInt a ≤ ofInt b ↔ a ≤ b :=
  Int.mul_le_mul_right (Int.pow_pos (by decide))

@[simp] theorem negInf_lt_ofInt (n : Int) : EInt.negInf < ofInt n := trivial
@[simp] theorem ofInt_lt_posInf (n : Int) : ofInt n < EInt.posInf := trivial
@[simp] theorem not_ofInt_le_negInf (n : Int) : ¬ ofInt n ≤ EInt.negInf := fun h => h
@[simp] theorem not_posInf_le_ofInt (n : Int) : ¬ EInt.posInf ≤ ofInt n := fun h => h

end EInt

/-- `(±m·2^e) · 2^1074` as an integer.  For `e ≥ -1074` (all canonical values) the exponent
`e + 1074` is non-negative, `toNat` is exact (`toNat_shift`) and this is the exact scaled value. -/
def num (neg : Bool) (m : Nat) (e : Int) : Int :=
  (if neg then -(m : Int) else (m : Int)) * 2 ^ (e + 1074).toNat

theorem toNat_shift {e : Int} (h : -1074 ≤ e) : (((e + 1074).toNat : Nat) : Int) = e + 1074 := by
  exact Int.toNat_of_nonneg (by omega)

/-- `num` with the sign as a factor `±1`, the form in which `scaled` carries it -/
theorem num_eq (s : Bool) (m : Nat) (e : Int) :
    num s m e = (if s then -1 else 1) * ((m : Int) * 2 ^ (e + 1074).toNat) := by
  cases s <;> simp [num, Int.neg_mul]

theorem natCast_mul_two_pow (m a b : Nat) : ((m * 2 ^ a : Nat) : Int) * 2 ^ b = m * 2 ^ (a + b) := by
  rw [Int.natCast_mul, Int.natCast_pow, Int.pow_add, Int.mul_assoc]; rfl

theorem num_shift (s : Bool) (m k : Nat) {e : Int} (h : -1074 ≤ e) :
    num s (m * 2 ^ k) e = num s m (e + k) := by
  rw [num_eq, num_eq, natCast_mul_two_pow, show e + (k : Int) + 1074 = k + (e + 1074) by omega,
    Int.toNat_add (Int.natCast_nonneg k) (by omega), Int.toNat_natCast]

theorem num_not (s : Bool) (m : Nat) (e : Int) : num (!s) m e = -num s m e := by
  cases s <;> simp [num, Int.neg_mul]

theorem num_false_pos {m : Nat} (e : Int) (hm : 0 < m) : 0 < num false m e := by
  simp only [num, Bool.false_eq_true, if_false]
  exact Int.mul_pos (by omega) (Int.pow_pos (by decide))

/-- the extended integer `value x · 2^1074` of a binary64 number.  NaN is not a number: its image
is a placeholder, every statement below excludes NaN explicitly. -/
def ext : F64 → EInt
  | .nan => .fin 0
  | .inf true => .negInf
  | .inf false => .posInf
  | .fin neg m e => .fin (num neg m e)

theorem isF64_one : IsF64 one := by decide

theorem isF64_neg_one : IsF64 (neg one) := by decide

theorem isF64_zero (s : Bool) : IsF64 (zero s) :=
  ⟨by decide, by decide, by decide, Or.inr rfl⟩

theorem isF64_neg {x : F64} (h : IsF64 x) : IsF64 (neg x) := by
  cases x <;> simp [neg, IsF64] <;> exact h

theorem num_one : num false (2 ^ 52) (-52) = 2 ^ 1074 := by
  have h : ((-52 : Int) + 1074).toNat = 1022 := by decide
  simp only [num, h, Bool.false_eq_true, if_false]
  rw [Int.natCast_pow, show ((2 : Nat) : Int) = 2 from rfl, ← Int.pow_add]

theorem ext_one : ext one = EInt.fin (2 ^ 1074) := by
  simp only [ext, one, num_one]

theorem ext_neg_one : ext (neg one) = EInt.fin (-(2 ^ 1074)) := by
  show EInt.fin (num (!false) (2 ^ 52) (-52)) = _
  rw [num_not, num_one]

theorem ext_zero (s : Bool) : ext (zero s) = EInt.fin 0 := by
  cases s <;> simp [ext, zero, num]

theorem ext_one_eq_ofInt : ext one = EInt.ofInt 1 := by
  rw [ext_one, EInt.ofInt, Int.one_mul]

theorem ext_neg_one_eq_ofInt : ext (neg one) = EInt.ofInt (-1) := by
  rw [ext_neg_one, EInt.ofInt, Int.neg_mul, Int.one_mul]

theorem ext_zero_eq_ofInt (s : Bool) : ext (zero s) = EInt.ofInt 0 := by
  rw [ext_zero, EInt.ofInt, Int.zero_mul]

theorem ext_inf_neg : ext (.inf true) = EInt.negInf := rfl
theorem ext_inf_pos : ext (.inf false) = EInt.posInf := rfl

/-! ## `scaled` at any common exponent is `num` divided by a positive power of two -/

theorem scaled_mul (s : Bool) (m : Nat) (em k : Int) (hk : -1074 ≤ k) (hke : k ≤ em) :
    scaled s m em k * 2 ^ (k + 1074).toNat = num s m em := by
  rw [num_eq, scaled, Int.mul_assoc, natCast_mul_two_pow,
    ← Int.toNat_add (Int.sub_nonneg_of_le hke) (by omega), ← Int.add_assoc, Int.sub_add_cancel]

theorem scaled_cmp (s₁ s₂ : Bool) (m₁ m₂ : Nat) (e₁ e₂ k : Int)
    (hk : -1074 ≤ k) (h₁ : k ≤ e₁) (h₂ : k ≤ e₂) :
    (scaled s₁ m₁ e₁ k < scaled s₂ m₂ e₂ k ↔ num s₁ m₁ e₁ < num s₂ m₂ e₂) ∧
      (scaled s₁ m₁ e₁ k ≤ scaled s₂ m₂ e₂ k ↔ num s₁ m₁ e₁ ≤ num s₂ m₂ e₂) := by
  have hp : (0 : Int) < 2 ^ (k + 1074).toNat := Int.pow_pos (by decide)
  rw [← scaled_mul s₁ m₁ e₁ k hk h₁, ← scaled_mul s₂ m₂ e₂ k hk h₂]
  exact ⟨(Int.mul_lt_mul_right hp).symm, (Int.mul_le_mul_right hp).symm⟩

/-- the exponent at which `lt`/`le` align two canonical operands -/
theorem align_bounds {e₁ e₂ : Int} (h₁ : -1074 ≤ e₁) (h₂ : -1074 ≤ e₂) :
    -1074 ≤ (if e₁ ≤ e₂ then e₁ else e₂) ∧ (if e₁ ≤ e₂ then e₁ else e₂) ≤ e₁ ∧
      (if e₁ ≤ e₂ then e₁ else e₂) ≤ e₂ := by
  by_cases h : e₁ ≤ e₂
  · rw [if_pos h]; exact ⟨h₁, Int.le_refl _, h⟩
  · rw [if_neg h]; exact ⟨h₂, Int.le_of_lt (Int.not_le.1 h), Int.le_refl _⟩

theorem lt_nan_left (x : F64) : F64.lt .nan x = false := by cases x <;> rfl
theorem lt_nan_right (x : F64) : F64.lt x .nan = false := by cases x <;> rfl
theorem le_nan_left (x : F64) : F64.le .nan x = false := by cases x <;> rfl
theorem le_nan_right (x : F64) : F64.le x .nan = false := by cases x <;> rfl

theorem cmp_ext {a b : F64} (ha : IsF64 a) (hb : IsF64 b) (na : a ≠ .nan) (nb : b ≠ .nan) :
    (F64.lt a b = true ↔ ext a < ext b) ∧ (F64.le a b = true ↔ ext a ≤ ext b) := by
  cases a with
  | nan => exact absurd rfl na
  | inf n1 =>
    cases b with
    | nan => exact absurd rfl nb
    | inf n2 => cases n1 <;> cases n2 <;> simp [lt, le, ext]
    | fin n2 m2 e2 => cases n1 <;> simp [lt, le, ext]
  | fin n1 m1 e1 =>
    cases b with
    | nan => exact absurd rfl nb
    | inf n2 => cases n2 <;> simp [lt, le, ext]
    | fin n2 m2 e2 =>
      obtain ⟨hk, h₁, h₂⟩ := align_bounds ha.2.1 hb.2.1
      simp only [lt, le, ext, decide_eq_true_eq, EInt.fin_lt_fin, EInt.fin_le_fin]
      exact scaled_cmp _ _ _ _ _ _ _ hk h₁ h₂

theorem lt_iff_ext {a b : F64} (ha : IsF64 a) (hb : IsF64 b) (na : a ≠ .nan) (nb : b ≠ .nan) :
    F64.lt a b = true ↔ ext a < ext b :=
  (cmp_ext ha hb na nb).1

theorem le_iff_ext {a b : F64} (ha : IsF64 a) (hb : IsF64 b) (na : a ≠ .nan) (nb : b ≠ .nan) :
    F64.le a b = true ↔ ext a ≤ ext b :=
  (cmp_ext ha hb na nb).2

/-- a comparison that is false on NaN and means `R` on numbers -/
theorem iff_of_nan_false {p : Bool} {a b : F64} {R : Prop} (hl : a = .nan → p = false)
    (hr : b = .nan → p = false) (h : a ≠ .nan → b ≠ .nan → (p = true ↔ R)) :
    p = true ↔ a ≠ .nan ∧ b ≠ .nan ∧ R := by
  constructor
  · intro hp
    have na : a ≠ .nan := fun e => Bool.noConfusion ((hl e).symm.trans hp)
    have nb : b ≠ .nan := fun e => Bool.noConfusion ((hr e).symm.trans hp)
    exact ⟨na, nb, (h na nb).1 hp⟩
  · exact fun ⟨na, nb, hR⟩ => (h na nb).2 hR

/-- IEEE `<` on canonical binary64 values is the strict order of the represented extended reals
(and false exactly when an operand is NaN). -/
theorem lt_iff {a b : F64} (ha : IsF64 a) (hb : IsF64 b) :
    F64.lt a b = true ↔ a ≠ .nan ∧ b ≠ .nan ∧ ext a < ext b :=
  iff_of_nan_false (fun e => e ▸ lt_nan_left b) (fun e => e ▸ lt_nan_right a) (lt_iff_ext ha hb)

/-- IEEE `<=` on canonical binary64 values is the order of the represented extended reals
(and false exactly when an operand is NaN). -/
theorem le_iff {a b : F64} (ha : IsF64 a) (hb : IsF64 b) :
    F64.le a b = true ↔ a ≠ .nan ∧ b ≠ .nan ∧ ext a ≤ ext b :=
  iff_of_nan_false (fun e => e ▸ le_nan_left b) (fun e => e ▸ le_nan_right a) (le_iff_ext ha hb)

/-- `IsF64` cannot be dropped: below exponent `-1074` (never produced by decoding 64 bits) the
`2^1074`-scaled value is no longer an integer and `num` truncates. -/
example : F64.lt (.fin false 1 (-2000)) (.fin false 1 (-1999)) = true ∧
    ¬ ext (.fin false 1 (-2000)) < ext (.fin false 1 (-1999)) := by decide +kernel

theorem lt_eq_false_iff {a b : F64} (ha : IsF64 a) (hb : IsF64 b) (na : a ≠ .nan) (nb : b ≠ .nan) :
    F64.lt a b = false ↔ ext b ≤ ext a := by
  rw [← EInt.not_lt, ← lt_iff_ext ha hb na nb]; simp

theorem lt_irrefl (a : F64) (ha : IsF64 a) : F64.lt a a = false :=
  Bool.eq_false_iff.2 fun h => EInt.lt_irrefl _ ((lt_iff ha ha).1 h).2.2

theorem lt_asymm {a b : F64} (ha : IsF64 a) (hb : IsF64 b) (h : F64.lt a b = true) :
    F64.lt b a = false :=
  Bool.eq_false_iff.2 fun h' => EInt.lt_asymm ((lt_iff ha hb).1 h).2.2 ((lt_iff hb ha).1 h').2.2

/-- transitivity laws pass from the images to the comparisons; the middle operand's NaN clause is
not needed -/
theorem trans_of_iff {p q r : Bool} {na nb nc P Q R : Prop} (hp : p = true ↔ na ∧ nb ∧ P)
    (hq : q = true ↔ nb ∧ nc ∧ Q) (hr : r = true ↔ na ∧ nc ∧ R) (t : P → Q → R)
    (h₁ : p = true) (h₂ : q = true) : r = true :=
  hr.2 ⟨(hp.1 h₁).1, (hq.1 h₂).2.1, t (hp.1 h₁).2.2 (hq.1 h₂).2.2⟩

theorem lt_trans {a b c : F64} (ha : IsF64 a) (hb : IsF64 b) (hc : IsF64 c)
    (h₁ : F64.lt a b = true) (h₂ : F64.lt b c = true) : F64.lt a c = true :=
  trans_of_iff (lt_iff ha hb) (lt_iff hb hc) (lt_iff ha hc) EInt.lt_trans h₁ h₂

theorem le_refl {a : F64} (ha : IsF64 a) (na : a ≠ .nan) : F64.le a a = true :=
  (le_iff ha ha).2 ⟨na, na, EInt.le_refl _⟩

theorem le_trans {a b c : F64} (ha : IsF64 a) (hb : IsF64 b) (hc : IsF64 c)
    (h₁ : F64.le a b = true) (h₂ : F64.le b c = true) : F64.le a c = true :=
  trans_of_iff (le_iff ha hb) (le_iff hb hc) (le_iff ha hc) EInt.le_trans h₁ h₂

theorem lt_of_lt_of_le {a b c : F64} (ha : IsF64 a) (hb : IsF64 b) (hc : IsF64 c)
    (h₁ : F64.lt a b = true) (h₂ : F64.le b c = true) : F64.lt a c = true :=
  trans_of_iff (lt_iff ha hb) (le_iff hb hc) (lt_iff ha hc) EInt.lt_of_lt_of_le h₁ h₂

theorem lt_of_le_of_lt {a b c : F64} (ha : IsF64 a) (hb : IsF64 b) (hc : IsF64 c)
    (h₁ : F64.le a b = true) (h₂ : F64.lt b c = true) : F64.lt a c = true :=
  trans_of_iff (le_iff ha hb) (lt_iff hb hc) (lt_iff ha hc) EInt.lt_of_le_of_lt h₁ h₂

theorem le_total {a b : F64} (ha : IsF64 a) (hb : IsF64 b) (na : a ≠ .nan) (nb : b ≠ .nan) :
    F64.le a b = true ∨ F64.le b a = true := by
  rw [le_iff_ext ha hb na nb, le_iff_ext hb ha nb na]; exact EInt.le_total _ _

/-- fails for NaN, where both are false -/
theorem lt_iff_not_le {a b : F64} (ha : IsF64 a) (hb : IsF64 b) (na : a ≠ .nan) (nb : b ≠ .nan) :
    F64.lt a b = true ↔ F64.le b a = false := by
  rw [lt_iff_ext ha hb na nb, ← EInt.not_le, ← le_iff_ext hb ha nb na]; simp

/-- `ext a = ext b`, not `a = b`: `+0` and `-0` are identified -/
theorem le_iff_lt_or_ext_eq {a b : F64} (ha : IsF64 a) (hb : IsF64 b) (na : a ≠ .nan)
    (nb : b ≠ .nan) : F64.le a b = true ↔ (F64.lt a b = true ∨ ext a = ext b) := by
  rw [le_iff_ext ha hb na nb, lt_iff_ext ha hb na nb]; exact EInt.le_iff_lt_or_eq

theorem lt_le {a b : F64} (ha : IsF64 a) (hb : IsF64 b) (h : F64.lt a b = true) :
    F64.le a b = true := by
  have ⟨na, nb, l⟩ := (lt_iff ha hb).1 h
  exact (le_iff ha hb).2 ⟨na, nb, EInt.le_of_lt l⟩

end F64
end Garr
