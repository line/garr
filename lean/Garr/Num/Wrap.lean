/-! Two's-complement wrap into int64, shared by the models. -/
namespace Garr

def wrap64 (x : Int) : Int := (x + 2^63) % 2^64 - 2^63

theorem wrap64_zero : wrap64 0 = 0 := by unfold wrap64; omega

theorem wrap64_range (x : Int) : -(2^63) ≤ wrap64 x ∧ wrap64 x < 2^63 := by
  unfold wrap64; omega

theorem wrap_id {x : Int} (h1 : -(2^63) ≤ x) (h2 : x < 2^63) : wrap64 x = x := by
  unfold wrap64; omega

theorem wrap_nat (n : Nat) (h : n < 2^62) : wrap64 (n : Int) = n := wrap_id (by omega) (by omega)

theorem wrap64_add (a b : Int) : wrap64 (wrap64 a + b) = wrap64 (a + b) := by
  unfold wrap64
  rw [show (a + 2^63) % 2^64 - 2^63 + b + 2^63 = (a + 2^63) % 2^64 + b from by
        rw [Int.add_right_comm, Int.sub_add_cancel],
    Int.emod_add_emod, Int.add_right_comm]

theorem wrap64_add' (a b : Int) : wrap64 (a + wrap64 b) = wrap64 (a + b) := by
  rw [Int.add_comm, wrap64_add, Int.add_comm]

theorem wrap64_idem (x : Int) : wrap64 (wrap64 x) = wrap64 x := by
  have := wrap64_add x 0
  rwa [Int.add_zero, Int.add_zero] at this

theorem wrap64_add_congr {x y : Int} (h : wrap64 x = wrap64 y) (z : Int) : wrap64 (x + z) = wrap64 (y + z) := by
  rw [← wrap64_add x, h, wrap64_add]

theorem wrap64_add_congr' (z : Int) {x y : Int} (h : wrap64 x = wrap64 y) : wrap64 (z + x) = wrap64 (z + y) := by
  rw [← wrap64_add' z x, h, wrap64_add']

end Garr
