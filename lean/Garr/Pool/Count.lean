import Garr.Pool.Trans
/-!
# Counting threads by program counter, and the effect of the task operations on single fields
-/
namespace Garr.Pool
open Garr.Conc

/-- exactly `n` threads are at a place satisfying `p` -/
def Counts (p : L → Bool) (l : Tid → L) (n : Nat) : Prop :=
  ∃ ts : List Tid, ts.Nodup ∧ ts.length = n ∧ ∀ t, t ∈ ts ↔ p (l t) = true

theorem Counts.init (p : L → Bool) (h : p .idle = false) : Counts p (fun _ => L.idle) 0 :=
  ⟨[], List.nodup_nil, rfl, fun t => by simp [h]⟩

theorem Counts.pos {p : L → Bool} {l : Tid → L} {n : Nat} (h : Counts p l n) (t : Tid) (ht : p (l t) = true) : 0 < n := by
  obtain ⟨ts, _, hlen, hmem⟩ := h
  have : t ∈ ts := (hmem t).2 ht
  rw [← hlen]; exact List.length_pos_of_mem this

theorem Counts.zero {p : L → Bool} {l : Tid → L} (h : Counts p l 0) (t : Tid) : p (l t) = false := by
  cases hp : p (l t) with
  | false => rfl
  | true => exact absurd (h.pos t hp) (Nat.lt_irrefl 0)

theorem Counts.eq_zero {p : L → Bool} {l : Tid → L} {n : Nat} (h : Counts p l n) (hn : ∀ t, p (l t) = false) : n = 0 := by
  obtain ⟨ts, _, hlen, hmem⟩ := h
  cases ts with
  | nil => exact hlen.symm
  | cons a as =>
    have : p (l a) = true := (hmem a).1 List.mem_cons_self
    rw [hn a] at this; cases this

theorem Counts.exists_of_ne_zero {p : L → Bool} {l : Tid → L} {n : Nat} (h : Counts p l n) (hn : n ≠ 0) :
    ∃ t, p (l t) = true :=
  Classical.byContradiction fun hne => hn (h.eq_zero fun t => Bool.eq_false_iff.2 fun ht => hne ⟨t, ht⟩)

theorem Counts.congr {p q : L → Bool} {l : Tid → L} {n : Nat} (h : Counts p l n)
    (hpq : ∀ t, p (l t) = q (l t)) : Counts q l n := by
  obtain ⟨ts, hnd, hlen, hmem⟩ := h
  exact ⟨ts, hnd, hlen, fun t => by rw [hmem, hpq]⟩

theorem Counts.upd {p : L → Bool} {l : Tid → L} {n : Nat} (h : Counts p l n) (t : Tid) (l' : L) :
    Counts p (upd l t l') (n + (p l').toNat - (p (l t)).toNat) := by
  have hpos := h.pos t
  obtain ⟨ts, hnd, hlen, hmem⟩ := h
  cases hold : p (l t) <;> cases hnew : p l'
  · refine ⟨ts, hnd, by simp [hlen], fun u => ?_⟩
    by_cases hu : u = t
    · subst hu; simp [hmem, hold, hnew]
    · simp [hmem, Garr.Conc.upd, hu]
  · refine ⟨t :: ts, ?_, by simp [hlen], fun u => ?_⟩
    · refine List.nodup_cons.2 ⟨?_, hnd⟩
      rw [hmem]; simp [hold]
    · by_cases hu : u = t
      · subst hu; simp [hnew]
      · simp [hmem, Garr.Conc.upd, hu]
  · have htm : t ∈ ts := (hmem t).2 hold
    refine ⟨ts.erase t, hnd.erase t, ?_, fun u => ?_⟩
    · rw [List.length_erase_of_mem htm, hlen]; simp
    · rw [hnd.mem_erase_iff]
      by_cases hu : u = t
      · subst hu; simp [hnew]
      · simp [hmem, Garr.Conc.upd, hu]
  · have := hpos hold
    refine ⟨ts, hnd, by simp [hlen], fun u => ?_⟩
    by_cases hu : u = t
    · subst hu; simp [hmem, hold, hnew]
    · simp [hmem, Garr.Conc.upd, hu]

theorem Counts.length_le {p : L → Bool} {l : Tid → L} {n : Nat} (h : Counts p l n) (ts : List Tid) (hnd : ts.Nodup)
    (hp : ∀ t ∈ ts, p (l t) = true) : ts.length ≤ n := by
  obtain ⟨rs, _, hlen, hmem⟩ := h
  rw [← hlen]
  exact hnd.length_le_of_subset (fun t ht => (hmem t).2 (hp t ht))

theorem Counts.unique {p : L → Bool} {l : Tid → L} {n m : Nat} (h : Counts p l n) (h' : Counts p l m) : n = m := by
  have h1 : n ≤ m := by
    obtain ⟨rs, hnd, hlen, hmem⟩ := h
    rw [← hlen]; exact h'.length_le rs hnd (fun t ht => (hmem t).1 ht)
  have h2 : m ≤ n := by
    obtain ⟨rs, hnd, hlen, hmem⟩ := h'
    rw [← hlen]; exact h.length_le rs hnd (fun t ht => (hmem t).1 ht)
  omega

theorem Counts.or {p q : L → Bool} {l : Tid → L} {n m : Nat} (hp : Counts p l n) (hq : Counts q l m)
    (hd : ∀ x, p x = true → q x = true → False) : Counts (fun x => p x || q x) l (n + m) := by
  obtain ⟨ps, hpn, hpl, hpm⟩ := hp
  obtain ⟨qs, hqn, hql, hqm⟩ := hq
  refine ⟨ps ++ qs, ?_, by simp [hpl, hql], fun t => ?_⟩
  · refine List.nodup_append.2 ⟨hpn, hqn, fun a ha b hb hab => ?_⟩
    subst hab
    exact hd _ ((hpm a).1 ha) ((hqm a).1 hb)
  · simp [hpm, hqm]

theorem task_default {g : G} {u : Nat} (h : g.tasks.length ≤ u) : g.task u = { ctx := .never } := by
  simp [G.task, List.getElem?_eq_none h]

theorem setTask_task (g : G) (u v : Nat) (x : Task) :
    (g.setTask u x).task v = if v = u ∧ u < g.tasks.length then x else g.task v := by
  unfold G.setTask G.task
  simp only [List.getElem?_set]
  by_cases h : u = v
  · subst h
    by_cases h2 : u < g.tasks.length <;> simp [h2]
  · have : ¬ v = u := fun e => h e.symm
    simp [h, this]

@[simp] theorem setTask_length (g : G) (u : Nat) (x : Task) : (g.setTask u x).tasks.length = g.tasks.length := by
  simp [G.setTask]

theorem task_of_set {g g' : G} {u : Nat} {x : Task} (ht : g'.tasks = g.tasks.set u x) (v : Nat) :
    g'.task v = if v = u ∧ u < g.tasks.length then x else g.task v := by
  rw [← setTask_task]; simp only [G.task, G.setTask, ht]

theorem newTask_task (g : G) (c : CtxKind) (v : Nat) :
    (newTask g c).task v = if v = g.tasks.length then { ctx := c } else g.task v := by
  unfold newTask G.task
  simp only [List.getElem?_append]
  by_cases h : v < g.tasks.length
  · have : v ≠ g.tasks.length := by omega
    simp [h, this]
  · by_cases h2 : v = g.tasks.length
    · subst h2; simp
    · have h3 : g.tasks.length < v := by omega
      simp [h, h2]
      cases hk : v - g.tasks.length with
      | zero => omega
      | succ k => simp

@[simp] theorem newTask_length (g : G) (c : CtxKind) : (newTask g c).tasks.length = g.tasks.length + 1 := by
  simp [newTask]

@[simp] theorem newTask_state (g : G) (c : CtxKind) : (newTask g c).state = g.state := rfl
@[simp] theorem setTask_state (g : G) (u : Nat) (x : Task) : (g.setTask u x).state = g.state := rfl
@[simp] theorem send_state (g : G) (u : Nat) (r : Res) : (g.send u r).state = g.state := rfl
@[simp] theorem newTask_ctxDone (g : G) (c : CtxKind) : (newTask g c).ctxDone = g.ctxDone := rfl
@[simp] theorem setTask_ctxDone (g : G) (u : Nat) (x : Task) : (g.setTask u x).ctxDone = g.ctxDone := rfl
@[simp] theorem send_ctxDone (g : G) (u : Nat) (r : Res) : (g.send u r).ctxDone = g.ctxDone := rfl
@[simp] theorem newTask_q (g : G) (c : CtxKind) : (newTask g c).q = g.q := rfl
@[simp] theorem setTask_q (g : G) (u : Nat) (x : Task) : (g.setTask u x).q = g.q := rfl
@[simp] theorem send_q (g : G) (u : Nat) (r : Res) : (g.send u r).q = g.q := rfl
@[simp] theorem newTask_closed (g : G) (c : CtxKind) : (newTask g c).closed = g.closed := rfl
@[simp] theorem setTask_closed (g : G) (u : Nat) (x : Task) : (g.setTask u x).closed = g.closed := rfl
@[simp] theorem send_closed (g : G) (u : Nat) (r : Res) : (g.send u r).closed = g.closed := rfl
@[simp] theorem newTask_expanded (g : G) (c : CtxKind) : (newTask g c).expanded = g.expanded := rfl
@[simp] theorem setTask_expanded (g : G) (u : Nat) (x : Task) : (g.setTask u x).expanded = g.expanded := rfl
@[simp] theorem send_expanded (g : G) (u : Nat) (r : Res) : (g.send u r).expanded = g.expanded := rfl
@[simp] theorem newTask_wg (g : G) (c : CtxKind) : (newTask g c).wg = g.wg := rfl
@[simp] theorem setTask_wg (g : G) (u : Nat) (x : Task) : (g.setTask u x).wg = g.wg := rfl
@[simp] theorem send_wg (g : G) (u : Nat) (r : Res) : (g.send u r).wg = g.wg := rfl
@[simp] theorem newTask_spawnFixed (g : G) (c : CtxKind) : (newTask g c).spawnFixed = g.spawnFixed := rfl
@[simp] theorem setTask_spawnFixed (g : G) (u : Nat) (x : Task) : (g.setTask u x).spawnFixed = g.spawnFixed := rfl
@[simp] theorem send_spawnFixed (g : G) (u : Nat) (r : Res) : (g.send u r).spawnFixed = g.spawnFixed := rfl
@[simp] theorem newTask_spawnExp (g : G) (c : CtxKind) : (newTask g c).spawnExp = g.spawnExp := rfl
@[simp] theorem setTask_spawnExp (g : G) (u : Nat) (x : Task) : (g.setTask u x).spawnExp = g.spawnExp := rfl
@[simp] theorem send_spawnExp (g : G) (u : Nat) (r : Res) : (g.send u r).spawnExp = g.spawnExp := rfl
@[simp] theorem newTask_readers (g : G) (c : CtxKind) : (newTask g c).readers = g.readers := rfl
@[simp] theorem setTask_readers (g : G) (u : Nat) (x : Task) : (g.setTask u x).readers = g.readers := rfl
@[simp] theorem send_readers (g : G) (u : Nat) (r : Res) : (g.send u r).readers = g.readers := rfl
@[simp] theorem newTask_writer (g : G) (c : CtxKind) : (newTask g c).writer = g.writer := rfl
@[simp] theorem setTask_writer (g : G) (u : Nat) (x : Task) : (g.setTask u x).writer = g.writer := rfl
@[simp] theorem send_writer (g : G) (u : Nat) (r : Res) : (g.send u r).writer = g.writer := rfl
@[simp] theorem newTask_wpending (g : G) (c : CtxKind) : (newTask g c).wpending = g.wpending := rfl
@[simp] theorem setTask_wpending (g : G) (u : Nat) (x : Task) : (g.setTask u x).wpending = g.wpending := rfl
@[simp] theorem send_wpending (g : G) (u : Nat) (r : Res) : (g.send u r).wpending = g.wpending := rfl
@[simp] theorem newTask_now (g : G) (c : CtxKind) : (newTask g c).now = g.now := rfl
@[simp] theorem setTask_now (g : G) (u : Nat) (x : Task) : (g.setTask u x).now = g.now := rfl
@[simp] theorem send_now (g : G) (u : Nat) (r : Res) : (g.send u r).now = g.now := rfl
@[simp] theorem newTask_panics (g : G) (c : CtxKind) : (newTask g c).panics = g.panics := rfl
@[simp] theorem setTask_panics (g : G) (u : Nat) (x : Task) : (g.setTask u x).panics = g.panics := rfl
@[simp] theorem send_panics (g : G) (u : Nat) (r : Res) : (g.send u r).panics = g.panics := rfl
@[simp] theorem enqueue_state (g : G) (u : Nat) : (enqueue g u).state = g.state := rfl
@[simp] theorem runTask_state (g : G) (u : Nat) (rest : List Nat) : (runTask g u rest).state = g.state := rfl
@[simp] theorem enqueue_ctxDone (g : G) (u : Nat) : (enqueue g u).ctxDone = g.ctxDone := rfl
@[simp] theorem runTask_ctxDone (g : G) (u : Nat) (rest : List Nat) : (runTask g u rest).ctxDone = g.ctxDone := rfl
@[simp] theorem enqueue_closed (g : G) (u : Nat) : (enqueue g u).closed = g.closed := rfl
@[simp] theorem runTask_closed (g : G) (u : Nat) (rest : List Nat) : (runTask g u rest).closed = g.closed := rfl
@[simp] theorem enqueue_expanded (g : G) (u : Nat) : (enqueue g u).expanded = g.expanded := rfl
@[simp] theorem runTask_expanded (g : G) (u : Nat) (rest : List Nat) : (runTask g u rest).expanded = g.expanded := rfl
@[simp] theorem enqueue_wg (g : G) (u : Nat) : (enqueue g u).wg = g.wg := rfl
@[simp] theorem runTask_wg (g : G) (u : Nat) (rest : List Nat) : (runTask g u rest).wg = g.wg := rfl
@[simp] theorem enqueue_spawnFixed (g : G) (u : Nat) : (enqueue g u).spawnFixed = g.spawnFixed := rfl
@[simp] theorem runTask_spawnFixed (g : G) (u : Nat) (rest : List Nat) : (runTask g u rest).spawnFixed = g.spawnFixed := rfl
@[simp] theorem enqueue_spawnExp (g : G) (u : Nat) : (enqueue g u).spawnExp = g.spawnExp := rfl
@[simp] theorem runTask_spawnExp (g : G) (u : Nat) (rest : List Nat) : (runTask g u rest).spawnExp = g.spawnExp := rfl
@[simp] theorem enqueue_readers (g : G) (u : Nat) : (enqueue g u).readers = g.readers := rfl
@[simp] theorem runTask_readers (g : G) (u : Nat) (rest : List Nat) : (runTask g u rest).readers = g.readers := rfl
@[simp] theorem enqueue_writer (g : G) (u : Nat) : (enqueue g u).writer = g.writer := rfl
@[simp] theorem runTask_writer (g : G) (u : Nat) (rest : List Nat) : (runTask g u rest).writer = g.writer := rfl
@[simp] theorem enqueue_wpending (g : G) (u : Nat) : (enqueue g u).wpending = g.wpending := rfl
@[simp] theorem runTask_wpending (g : G) (u : Nat) (rest : List Nat) : (runTask g u rest).wpending = g.wpending := rfl
@[simp] theorem enqueue_now (g : G) (u : Nat) : (enqueue g u).now = g.now := rfl
@[simp] theorem runTask_now (g : G) (u : Nat) (rest : List Nat) : (runTask g u rest).now = g.now := rfl
@[simp] theorem enqueue_panics (g : G) (u : Nat) : (enqueue g u).panics = g.panics := rfl
@[simp] theorem runTask_panics (g : G) (u : Nat) (rest : List Nat) : (runTask g u rest).panics = g.panics := rfl
@[simp] theorem enqueue_q (g : G) (u : Nat) : (enqueue g u).q = g.q ++ [u] := rfl
@[simp] theorem runTask_q (g : G) (u : Nat) (rest : List Nat) : (runTask g u rest).q = rest := rfl
@[simp] theorem send_length (g : G) (u : Nat) (r : Res) : (g.send u r).tasks.length = g.tasks.length := by simp [G.send]
@[simp] theorem enqueue_length (g : G) (u : Nat) : (enqueue g u).tasks.length = g.tasks.length := by simp [enqueue, G.setTask]
@[simp] theorem runTask_length (g : G) (u : Nat) (rest : List Nat) : (runTask g u rest).tasks.length = g.tasks.length := by
  simp [runTask, G.setTask]

theorem send_task (g : G) (u v : Nat) (r : Res) :
    (g.send u r).task v = if v = u ∧ u < g.tasks.length then { g.task u with results := [r] } else g.task v :=
  setTask_task g u v _

theorem send_results_self (g : G) (u : Nat) (r : Res) (hu : u < g.tasks.length) :
    ((g.send u r).task u).results = [r] := by
  rw [send_task, if_pos ⟨rfl, hu⟩]

theorem enqueue_task (g : G) (u v : Nat) :
    (enqueue g u).task v = if v = u ∧ u < g.tasks.length then { g.task u with enq := true } else g.task v := by
  show (g.setTask u { g.task u with enq := true }).task v = _
  exact setTask_task g u v _

theorem runTask_task (g : G) (u v : Nat) (rest : List Nat) :
    (runTask g u rest).task v =
      if v = u ∧ u < g.tasks.length then { g.task u with exec := (g.task u).exec + 1 } else g.task v := by
  show (g.setTask u { g.task u with exec := (g.task u).exec + 1 }).task v = _
  exact setTask_task g u v _

theorem setTask_frame {α} (f : Task → α) {g : G} {u : Nat} {x : Task} (h : f x = f (g.task u)) (v : Nat) :
    f ((g.setTask u x).task v) = f (g.task v) := by
  rw [setTask_task]; split
  · rename_i hv; rw [hv.1]; exact h
  · rfl

theorem newTask_frame {α} (f : Task → α) {g : G} {c : CtxKind} (h : f { ctx := c } = f { ctx := .never }) (v : Nat) :
    f ((newTask g c).task v) = f (g.task v) := by
  rw [newTask_task]; split
  · rename_i hv; rw [hv, task_default (Nat.le_refl _)]; exact h
  · rfl

/-- the task fields that `TaskInv` speaks about are unchanged -/
structure SameTasks (g g' : G) : Prop where
  len : g'.tasks.length = g.tasks.length
  enq : ∀ v, (g'.task v).enq = (g.task v).enq
  exec : ∀ v, (g'.task v).exec = (g.task v).exec
  results : ∀ v, (g'.task v).results = (g.task v).results

theorem SameTasks.of_tasks {g g' : G} (h : g'.tasks = g.tasks) : SameTasks g g' := by
  have : ∀ v, g'.task v = g.task v := fun v => by simp [G.task, h]
  exact ⟨by rw [h], fun v => by rw [this], fun v => by rw [this], fun v => by rw [this]⟩

theorem SameTasks.cancel (g : G) (u : Nat) : SameTasks g (g.setTask u { g.task u with tdone := true }) :=
  ⟨setTask_length _ _ _, setTask_frame Task.enq (by rfl), setTask_frame Task.exec (by rfl), setTask_frame Task.results (by rfl)⟩

theorem SameTasks.finish (g : G) (u : Nat) : SameTasks g (g.setTask u { g.task u with released := true }) :=
  ⟨setTask_length _ _ _, setTask_frame Task.enq (by rfl), setTask_frame Task.exec (by rfl), setTask_frame Task.results (by rfl)⟩

end Garr.Pool
