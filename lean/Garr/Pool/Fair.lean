import Garr.Pool.Progress
import Garr.Pool.Mono
/-!
# Worker-pool model: infinite executions, weak fairness, leads-to

An `Exec P` is an infinite sequence of configurations of `M P` from a reachable one, each position a stutter or one step
of one thread (`mover` records who moved), so clients may go on submitting for ever.  `WeakFair e t`: if some internal
action (`isInt`: `tau`, `choose k`) of `t` is enabled at every position from `n` on, `t` takes an internal step at some
position `≥ n`.  The environment is assumed to release the gate of every task whose executor was started
(`EnvReleases`, E1) and to let a pending spawned goroutine start (`EnvStarts`, E2).

Every liveness fact is an instance of one rule, `fair_leads`.  It is used in the forms `measure_leads` (one thread, a
measure only its own steps lower), `pc_leads` and `wait_leads` (one program counter) and `straight_leads` (a whole
call), chained by `leads_wf`.  What no step undoes holds between any two positions (`Exec.mono`).  The last two
sections derive (E2) from the spawn counters and build the executions of the non-vacuity witnesses from finite
schedules.
-/
namespace Garr.Pool.Fair
open Garr.Conc Garr.Pool Garr.Pool.Progress

variable {P : Params}

/-- the actions a thread takes on its own: a plain step or a `select` choice.  Narrower than `Progress.internal`, which
also counts the start of a spawned goroutine (`beFixed`, `beExp`, taken from `idle`): those are left to the environment
assumption (E2), so fairness speaks of `isInt` only; `isInt_of_not_idle` relates the two. -/
def isInt : Act → Bool
  | .tau | .choose _ => true
  | _ => false

/-- an infinite execution: starts in a reachable configuration; every position is a stutter or a step of one thread -/
structure Exec (P : Params) where
  c : Nat → Config (M P)
  mover : Nat → Option (Tid × Act)
  init : Reach (M P) (c 0)
  next : ∀ n, (mover n = none ∧ c (n + 1) = c n) ∨
    ∃ t a g' l' obs, mover n = some (t, a) ∧ (M P).step t (c n).g ((c n).l t) a = some (g', l', obs) ∧
      c (n + 1) = ⟨g', upd (c n).l t l'⟩

/-- some action that thread `t` takes on its own (`isInt`) is enabled -/
def EnabledInt (c : Config (M P)) (t : Tid) : Prop :=
  ∃ a g' l' obs, isInt a = true ∧ (M P).step t c.g (c.l t) a = some (g', l', obs)

/-- weak fairness of thread `t` for its internal actions -/
def WeakFair (e : Exec P) (t : Tid) : Prop :=
  ∀ n, (∀ m, n ≤ m → EnabledInt (e.c m) t) → ∃ m a, n ≤ m ∧ e.mover m = some (t, a) ∧ isInt a = true

def Fair (e : Exec P) : Prop := ∀ t, WeakFair e t

/-- (E1) the gate of every task whose executor has been started is eventually released -/
def EnvReleases (e : Exec P) : Prop :=
  ∀ n u, ((e.c n).g.task u).exec = 1 → ∃ m, n ≤ m ∧ ((e.c m).g.task u).released = true

/-- (E2) while a spawned fixed (expanded) worker goroutine is pending, some such goroutine eventually starts -/
def EnvStarts (e : Exec P) : Prop :=
  (∀ n, 0 < (e.c n).g.spawnFixed → ∃ m t, n ≤ m ∧ e.mover m = some (t, .beFixed)) ∧
  (∀ n, 0 < (e.c n).g.spawnExp → ∃ m t, n ≤ m ∧ e.mover m = some (t, .beExp))

theorem Exec.reach (e : Exec P) (n : Nat) : Reach (M P) (e.c n) := by
  induction n with
  | zero => exact e.init
  | succ n ih =>
    rcases e.next n with ⟨_, hc⟩ | ⟨t, a, g', l', obs, _, hs, hc⟩
    · rw [hc]; exact ih
    · rw [hc]; exact Reach.step ih hs

theorem Exec.pinv (e : Exec P) (n : Nat) : PInv P (e.c n) := pinv_reach P _ (e.reach n)
theorem Exec.xinv (e : Exec P) (n : Nat) : XInv P (e.c n) := xinv_reach P _ (e.reach n)

/-- what happens at position `m`, seen from thread `t`: nothing to `t`'s program counter and either a stutter or a
`Trans` step of another thread; or a `Trans` step of `t` itself -/
theorem Exec.cases (e : Exec P) (m : Nat) (t : Tid) :
    ((e.c (m + 1)).l t = (e.c m).l t ∧ (∀ a, e.mover m ≠ some (t, a)) ∧
      (e.c (m + 1) = e.c m ∨
        ∃ t' a g' l', t' ≠ t ∧ Trans P (e.c m).g ((e.c m).l t') a g' l' ∧ (e.c (m + 1)).g = g' ∧
          (e.c (m + 1)).l = upd (e.c m).l t' l')) ∨
    ∃ a g' l', e.mover m = some (t, a) ∧ Trans P (e.c m).g ((e.c m).l t) a g' l' ∧ (e.c (m + 1)).g = g' ∧
      (e.c (m + 1)).l = upd (e.c m).l t l' ∧ (e.c (m + 1)).l t = l' := by
  rcases e.next m with ⟨hm, hc⟩ | ⟨t', a, g', l', obs, hm, hs, hc⟩
  · exact Or.inl ⟨by rw [hc], fun a => by rw [hm]; nofun, Or.inl hc⟩
  · have htr : Trans P (e.c m).g ((e.c m).l t') a g' l' := step_trans (t := t') hs
    rw [hc, hm]
    rcases upd_eq_or (e.c m).l t' l' t with ⟨rfl, ea⟩ | ⟨hne, ea⟩
    · exact Or.inr ⟨a, g', l', rfl, htr, rfl, rfl, ea⟩
    · exact Or.inl ⟨ea, fun a' h => hne (by cases h; rfl), Or.inr ⟨t', a, g', l', fun h => hne h.symm, htr, rfl, rfl⟩⟩

theorem Exec.trans (e : Exec P) (m : Nat) :
    e.c (m + 1) = e.c m ∨
      ∃ t a g' l', e.mover m = some (t, a) ∧ Trans P (e.c m).g ((e.c m).l t) a g' l' ∧ (e.c (m + 1)).g = g' ∧
        (e.c (m + 1)).l t = l' := by
  rcases e.next m with ⟨_, hc⟩ | ⟨t', a, g', l', obs, hm, hs, hc⟩
  · exact Or.inl hc
  · exact Or.inr ⟨t', a, g', l', hm, step_trans (t := t') hs, by rw [hc], by rw [hc]; exact upd_same _ _ _⟩

theorem enabled_of_trans {c : Config (M P)} {t : Tid} {l : L} {a : Act} {g' : G} {l' : L} (hl : c.l t = l)
    (h : Trans P c.g l a g' l') (ha : isInt a = true) : EnabledInt c t := by
  obtain ⟨obs, hs⟩ := trans_step t h
  exact ⟨a, g', l', obs, ha, by rw [hl]; exact hs⟩

theorem stable_from {Q : Nat → Prop} {n : Nat} (h : Q n) (hs : ∀ m, n ≤ m → Q m → Q (m + 1)) :
    ∀ m, n ≤ m → Q m := by
  intro m hm
  obtain ⟨d, rfl⟩ := Nat.exists_eq_add_of_le hm
  induction d with
  | zero => exact h
  | succ d ih => exact hs (n + d) (Nat.le_add_right n d) (ih (Nat.le_add_right n d))

/-- safety half: `A` holds until `B` -/
theorem holds_unless (A B : Nat → Prop) (n : Nat) (hA : A n)
    (hst : ∀ m, n ≤ m → A m → ¬ B (m + 1) → A (m + 1)) :
    ∀ m, n ≤ m → A m ∨ ∃ k, n ≤ k ∧ k ≤ m ∧ B k := by
  refine stable_from (Q := fun m => A m ∨ ∃ k, n ≤ k ∧ k ≤ m ∧ B k) (Or.inl hA) (fun m hm ih => ?_)
  rcases ih with h | ⟨k, h1, h2, h3⟩
  · by_cases hb : B (m + 1)
    · exact Or.inr ⟨m + 1, by omega, Nat.le_refl _, hb⟩
    · exact Or.inl (hst m hm h hb)
  · exact Or.inr ⟨k, h1, by omega, h3⟩

/-- leads-to by stable enabledness: `A` holds at `n` and is stable until `B`; while `A ∧ ¬B`, thread `t` has an enabled
internal action and every internal step of `t` establishes `B`.  Weak fairness of `t` then gives `B` at some `m ≥ n`. -/
theorem fair_leads (e : Exec P) {t : Tid} (hf : WeakFair e t) (A B : Nat → Prop) (n : Nat) (hA : A n)
    (hst : ∀ m, n ≤ m → A m → ¬ B m → ¬ B (m + 1) → A (m + 1))
    (hen : ∀ m, n ≤ m → A m → ¬ B m → EnabledInt (e.c m) t)
    (hmv : ∀ m a, n ≤ m → A m → ¬ B m → e.mover m = some (t, a) → isInt a = true → B (m + 1)) :
    ∃ m, n ≤ m ∧ B m := by
  apply Classical.byContradiction
  intro hno
  have hnb : ∀ m, n ≤ m → ¬ B m := fun m hm hb => hno ⟨m, hm, hb⟩
  have hall : ∀ m, n ≤ m → A m := stable_from hA (fun m hm ih => hst m hm ih (hnb m hm) (hnb _ (by omega)))
  obtain ⟨m, a, hm, hmov, hi⟩ := hf n (fun m hm => hen m hm (hall m hm) (hnb m hm))
  exact hnb (m + 1) (by omega) (hmv m a hm (hall m hm) (hnb m hm) hmov hi)

/-- `fair_leads` with its three obligations read off one description of the step at `m`: it keeps `A` and is not a step
of `t`, or it establishes `B` -/
theorem step_leads (e : Exec P) {t : Tid} (hf : WeakFair e t) (A B : Nat → Prop) (n : Nat) (hA : A n)
    (hen : ∀ m, n ≤ m → A m → EnabledInt (e.c m) t)
    (hstep : ∀ m, n ≤ m → A m → (A (m + 1) ∧ ∀ a, e.mover m ≠ some (t, a)) ∨ B (m + 1)) :
    ∃ m, n ≤ m ∧ B m :=
  fair_leads e hf A B n hA
    (fun m hm hA _ hnB => (hstep m hm hA).elim And.left (fun h => absurd h hnB))
    (fun m hm hA _ => hen m hm hA)
    (fun m a hm hA _ hmv _ => (hstep m hm hA).elim (fun h => absurd hmv (h.2 a)) id)

theorem leads_trans {A B : Nat → Prop} {n : Nat} (h1 : ∃ m, n ≤ m ∧ A m)
    (h2 : ∀ m, n ≤ m → A m → ∃ m', m ≤ m' ∧ B m') : ∃ m, n ≤ m ∧ B m := by
  obtain ⟨m, hm, hA⟩ := h1
  obtain ⟨m', hm', hB⟩ := h2 m hm hA
  exact ⟨m', Nat.le_trans hm hm', hB⟩

/-- leads-to over a measure: if from every position in `A` one gets to `B` or back into `A` lower down, one gets to `B` -/
theorem leads_wf (A B : Nat → Prop) (μ : Nat → Nat)
    (h : ∀ m, A m → ∃ m', m ≤ m' ∧ (B m' ∨ (A m' ∧ μ m' < μ m))) : ∀ m, A m → ∃ m', m ≤ m' ∧ B m' := by
  have key : ∀ k m, μ m < k → A m → ∃ m', m ≤ m' ∧ B m' := by
    intro k
    induction k with
    | zero => intro m hk; omega
    | succ k ih =>
      intro m hk hA
      exact leads_trans (h m hA) (fun m1 _ h1 => h1.elim (fun hB => ⟨m1, Nat.le_refl _, hB⟩)
        (fun ⟨hA1, hlt⟩ => ih m1 (by omega) hA1))
  exact fun m hA => key _ m (Nat.lt_succ_self _) hA

/-- leads-to for thread `t` over a measure `μ`.  While `A`: `t` has an enabled internal action, or else `B` or a lower
position in `A` is reached anyway; a step of another thread keeps `A` without raising `μ`, or establishes `B`; a step
of `t` establishes `B` or keeps `A` and lowers `μ`. -/
theorem measure_leads (e : Exec P) {t : Tid} (hf : WeakFair e t) (A B : Nat → Prop) (μ : Nat → Nat)
    (hen : ∀ m, A m → EnabledInt (e.c m) t ∨ ∃ m', m ≤ m' ∧ (B m' ∨ (A m' ∧ μ m' < μ m)))
    (hoth : ∀ m, A m → (e.c (m + 1)).l t = (e.c m).l t → (A (m + 1) ∧ μ (m + 1) ≤ μ m) ∨ B (m + 1))
    (hown : ∀ m a g' l', A m → Trans P (e.c m).g ((e.c m).l t) a g' l' → (e.c (m + 1)).g = g' →
      (e.c (m + 1)).l t = l' → B (m + 1) ∨ (A (m + 1) ∧ μ (m + 1) < μ m)) :
    ∀ m, A m → ∃ m', m ≤ m' ∧ B m' := by
  refine leads_wf A B μ (fun m hA => Classical.byContradiction fun hno => hno ?_)
  -- until `t` moves, `A` holds and `μ` has not grown; were `t` not enabled, `hen` would contradict `hno`
  have low : ∀ {i m'}, μ i ≤ μ m → B m' ∨ (A m' ∧ μ m' < μ i) → B m' ∨ (A m' ∧ μ m' < μ m) :=
    fun hμ h => h.imp id (fun ⟨h1, h2⟩ => ⟨h1, Nat.lt_of_lt_of_le h2 hμ⟩)
  refine step_leads e hf (fun i => A i ∧ μ i ≤ μ m) _ m ⟨hA, Nat.le_refl _⟩
    (fun i hi ⟨hAi, hμ⟩ => (hen i hAi).elim id (fun ⟨m', hm', h⟩ => absurd ⟨m', Nat.le_trans hi hm', low hμ h⟩ hno))
    (fun i _ ⟨hAi, hμ⟩ => ?_)
  rcases e.cases i t with ⟨hsame, hnm, _⟩ | ⟨a, g', l', _, htr, hg, _, hl'⟩
  · exact (hoth i hAi hsame).elim (fun ⟨h1, h2⟩ => Or.inl ⟨⟨h1, Nat.le_trans h2 hμ⟩, hnm⟩)
      (fun h => Or.inr (Or.inl h))
  · exact Or.inr (low hμ (hown i a g' l' hAi htr hg hl'))

/-- leads-to from a program counter at which `t` is always enabled -/
theorem pc_leads (e : Exec P) {t : Tid} (hf : WeakFair e t) (n : Nat) (l0 : L) (B : Nat → Prop)
    (hl : (e.c n).l t = l0)
    (hen : ∀ m, n ≤ m → (e.c m).l t = l0 → EnabledInt (e.c m) t)
    (hmv : ∀ m a g' l', n ≤ m → (e.c m).l t = l0 → Trans P (e.c m).g l0 a g' l' → (e.c (m + 1)).g = g' →
      (e.c (m + 1)).l t = l' → B (m + 1)) :
    ∃ m, n ≤ m ∧ B m :=
  measure_leads e hf (fun m => n ≤ m ∧ (e.c m).l t = l0) B (fun _ => 0) (fun m h => Or.inl (hen m h.1 h.2))
    (fun m h hsame => Or.inl ⟨⟨by omega, by rw [hsame]; exact h.2⟩, Nat.le_refl _⟩)
    (fun m a g' l' h htr hg hl' => Or.inl (hmv m a g' l' h.1 h.2 (h.2 ▸ htr) hg hl')) n ⟨Nat.le_refl _, hl⟩

/-- waiting at `l0` for a condition: if the only move from `l0` leads to `l1`, and staying at `l0` for ever would make
`t` enabled from some position on, then (fairness of `t`) `t` reaches `l1` -/
theorem wait_leads (e : Exec P) {t : Tid} (hf : WeakFair e t) (n : Nat) (l0 l1 : L) (hl : (e.c n).l t = l0)
    (hmv : ∀ m a g' l', (e.c m).l t = l0 → Trans P (e.c m).g l0 a g' l' → l' = l1)
    (hev : (∀ m, n ≤ m → (e.c m).l t = l0) → ∃ M, n ≤ M ∧ ∀ m, M ≤ m → EnabledInt (e.c m) t) :
    ∃ m, n ≤ m ∧ (e.c m).l t = l1 := by
  apply Classical.byContradiction
  intro hno
  -- `t` never leaves `l0`, so it is enabled from some position on
  have H : ∀ m, n ≤ m → (e.c m).l t = l0 := stable_from hl (fun m hm h => by
    rcases e.cases m t with ⟨hsame, _, _⟩ | ⟨a, g', l', _, htr, _, _, hl'⟩
    · rw [hsame]; exact h
    · rw [h] at htr
      exact absurd ⟨m + 1, by omega, by rw [hl']; exact hmv m a g' l' h htr⟩ hno)
  obtain ⟨M, hM, hen⟩ := hev H
  obtain ⟨m, hm, h⟩ := pc_leads e hf M l0 (fun m => (e.c m).l t = l1) (H M hM) (fun m hm _ => hen m hm)
    (fun m a g' l' _ hA htr _ hl' => by rw [hl']; exact hmv m a g' l' hA htr)
  exact hno ⟨m, by omega, h⟩

/-- leads-to for a call: from position `n` on thread `t` runs through the program counters in `p`.  At each of them it is
enabled, or it waits there and the wait is known to end (further on, or at `goal`).  Every step of its own reaches
`goal` or stays in `p` with a smaller measure (a step to `panicked` is excluded by the invariant). -/
theorem straight_leads (e : Exec P) {t : Tid} (hf : WeakFair e t) (p : L → Bool) (goal : L → Prop) (μ : L → Nat) (n : Nat)
    (hen : ∀ m, n ≤ m → p ((e.c m).l t) = true → EnabledInt (e.c m) t ∨
      ∃ m', m ≤ m' ∧ (goal ((e.c m').l t) ∨ (p ((e.c m').l t) = true ∧ μ ((e.c m').l t) < μ ((e.c m).l t))))
    (hdec : ∀ {g l a g' l'}, p l = true → Trans P g l a g' l' → l' ≠ .panicked →
      goal l' ∨ (p l' = true ∧ μ l' < μ l))
    (m : Nat) (hm : n ≤ m) (hp : p ((e.c m).l t) = true) : ∃ m', m ≤ m' ∧ goal ((e.c m').l t) :=
  measure_leads e hf (fun m => n ≤ m ∧ p ((e.c m).l t) = true) (fun m => goal ((e.c m).l t)) (fun m => μ ((e.c m).l t))
    (fun m ⟨hm, hp⟩ => (hen m hm hp).imp id (fun ⟨m', hm', h⟩ =>
      ⟨m', hm', h.imp id (fun ⟨h1, h2⟩ => ⟨⟨Nat.le_trans hm hm', h1⟩, h2⟩)⟩))
    (fun m ⟨hm, hp⟩ hsame =>
      Or.inl ⟨⟨Nat.le_succ_of_le hm, by rw [hsame]; exact hp⟩, by rw [hsame]; exact Nat.le_refl _⟩)
    (fun m a g' l' ⟨hm, hp⟩ htr _ hl' => by
      rw [hl']
      exact (hdec hp htr (by rw [← hl']; exact (e.pinv (m + 1)).lock.nopanic t)).elim Or.inl
        (fun h => Or.inr ⟨⟨Nat.le_succ_of_le hm, h.1⟩, h.2⟩)) m ⟨hm, hp⟩

/-! ## What a step never undoes, along an execution -/

theorem Exec.g_mono (e : Exec P) (R : G → G → Prop) (hrefl : ∀ g, R g g) (htrans : ∀ {a b c}, R a b → R b c → R a c)
    (hstep : ∀ {g l a g' l'}, Trans P g l a g' l' → R g g') {n m : Nat} (hnm : n ≤ m) : R (e.c n).g (e.c m).g := by
  refine stable_from (Q := fun m => R (e.c n).g (e.c m).g) (hrefl _) (fun m _ ih => ?_) m hnm
  rcases e.trans m with hc | ⟨t, a, g', l', _, htr, hg, _⟩
  · rw [hc]; exact ih
  · rw [hg]; exact htrans ih (hstep htr)

theorem Exec.mono (e : Exec P) {n m : Nat} (hnm : n ≤ m) : StepMono (e.c n).g (e.c m).g :=
  e.g_mono StepMono StepMono.refl StepMono.trans Trans.mono hnm

theorem Exec.taskMono (e : Exec P) {n m : Nat} (hnm : n ≤ m) : TaskMono (e.c n).g (e.c m).g :=
  e.g_mono TaskMono TaskMono.refl TaskMono.trans TaskMono.step hnm

theorem trans_released {g g' : G} {l l' : L} {a : Act} (h : Trans P g l a g' l') (u : Nat)
    (hr : (g.task u).released = true) : (g'.task u).released = true :=
  h.mono.released u hr

def atExec (u : Nat) (l : L) : Prop := l = .wexec u ∨ l = .eexec u
def atSend (u : Nat) (l : L) : Prop := l = .wsend u ∨ l = .esend u
/-- at the head of the worker loop -/
def atHome (l : L) : Prop := l = .w0 ∨ ∃ dl, l = .e0 dl

theorem atExec_role {u : Nat} {l : L} (h : atExec u l) : role l = some (.run, u) := by
  rcases h with h | h <;> rw [h] <;> rfl
theorem run_role_cases {u : Nat} {l : L} (h : role l = some (.run, u)) : atExec u l ∨ atSend u l := by
  rcases role_run h with h | h | h | h
  · exact Or.inl (Or.inl h)
  · exact Or.inr (Or.inl h)
  · exact Or.inl (Or.inr h)
  · exact Or.inr (Or.inr h)

/-- (E1 + fairness of `t`) a worker inside the executor of `u` reaches its send; it stays a worker of the same kind -/
theorem exec_to_send (e : Exec P) (hE1 : EnvReleases e) {t : Tid} (hf : WeakFair e t) (n u : Nat)
    (hl : atExec u ((e.c n).l t)) :
    ∃ m, n ≤ m ∧ atSend u ((e.c m).l t) ∧ fixedLive ((e.c m).l t) = fixedLive ((e.c n).l t) := by
  -- the gate opens and stays open; the worker waits for nothing else
  obtain ⟨m1, hm1, hrel⟩ := hE1 n u (((e.pinv n).task.ok u).run t (atExec_role hl)).2.1
  have hrel : ∀ m, m1 ≤ m → ((e.c m).g.task u).released = true := fun m hm => (e.mono hm).released u hrel
  rcases hl with h | h
  · obtain ⟨m, hm, h1⟩ := wait_leads e hf n (.wexec u) (.wsend u) h (fun _ _ _ _ _ htr => by cases htr; rfl)
      (fun H => ⟨m1, hm1, fun m hm => enabled_of_trans (H m (by omega)) (Trans.wexec _ u (hrel m hm)) rfl⟩)
    exact ⟨m, hm, Or.inl h1, by rw [h1, h]; rfl⟩
  · obtain ⟨m, hm, h1⟩ := wait_leads e hf n (.eexec u) (.esend u) h (fun _ _ _ _ _ htr => by cases htr; rfl)
      (fun H => ⟨m1, hm1, fun m hm => enabled_of_trans (H m (by omega)) (Trans.eexec _ u (hrel m hm)) rfl⟩)
    exact ⟨m, hm, Or.inr h1, by rw [h1, h]; rfl⟩

/-- (fairness of `t`) a worker at its send delivers the value and is back at the head of its loop -/
theorem send_to_home (e : Exec P) {t : Tid} (hf : WeakFair e t) (n u : Nat) (hl : atSend u ((e.c n).l t)) :
    ∃ m, n ≤ m ∧ ((e.c m).g.task u).results = [.val] ∧ atHome ((e.c m).l t) ∧
      fixedLive ((e.c m).l t) = fixedLive ((e.c n).l t) := by
  have hok : ∀ m l0, (e.c m).l t = l0 → role l0 = some (.run, u) →
      u < (e.c m).g.tasks.length ∧ ((e.c m).g.task u).results = [] := fun m l0 h hr =>
    ⟨((e.pinv m).task.ok u).len (Or.inr ⟨t, _, by rw [h]; exact hr⟩),
     (((e.pinv m).task.ok u).run t (by rw [h]; exact hr)).2.2⟩
  rcases hl with h | h
  · exact pc_leads e hf n (.wsend u) _ h
      (fun m _ hA => enabled_of_trans hA (Trans.wsend _ u (hok m _ hA rfl).2) rfl)
      (fun m a g' l' _ hA htr hg hl' => by
        cases htr
        rw [hl', hg, h]
        exact ⟨send_results_self _ _ _ (hok m _ hA rfl).1, Or.inl rfl, rfl⟩)
  · exact pc_leads e hf n (.esend u) _ h
      (fun m _ hA => enabled_of_trans hA (Trans.esend _ u (hok m _ hA rfl).2) rfl)
      (fun m a g' l' _ hA htr hg hl' => by
        cases htr
        rw [hl', hg, h]
        exact ⟨send_results_self _ _ _ (hok m _ hA rfl).1, Or.inr ⟨_, rfl⟩, rfl⟩)

/-- (E1 + fairness of `t`) a worker that holds task `u` delivers its value and returns to the head of its loop -/
theorem run_to_home (e : Exec P) (hE1 : EnvReleases e) {t : Tid} (hf : WeakFair e t) (n u : Nat)
    (hr : role ((e.c n).l t) = some (.run, u)) :
    ∃ m, n ≤ m ∧ ((e.c m).g.task u).results = [.val] ∧ atHome ((e.c m).l t) ∧
      fixedLive ((e.c m).l t) = fixedLive ((e.c n).l t) := by
  rcases run_role_cases hr with h | h
  · obtain ⟨m1, hm1, hs, hk1⟩ := exec_to_send e hE1 hf n u h
    obtain ⟨m, hm, h1, h2, h3⟩ := send_to_home e hf m1 u hs
    exact ⟨m, by omega, h1, h2, h3.trans hk1⟩
  · exact send_to_home e hf n u h

/-- (fairness of `t`) `Stop` answers the task it is draining -/
theorem drain_to_answer (e : Exec P) {t : Tid} (hf : WeakFair e t) (n u : Nat) (hl : (e.c n).l t = .sp5s u) :
    ∃ m, n ≤ m ∧ ((e.c m).g.task u).results = [.errPool] ∧ (e.c m).l t = .sp5 :=
  pc_leads e hf n (.sp5s u) _ hl
    (fun m _ hA => enabled_of_trans hA
      (Trans.sp5s _ u (((e.pinv m).task.ok u).drain t (by rw [hA]; rfl)).2.2.1) rfl)
    (fun m a g' l' _ hA htr hg hl' => by
      cases htr
      rw [hl', hg]
      exact ⟨send_results_self _ _ _ (((e.pinv m).task.ok u).len (Or.inr ⟨t, .drain, by rw [hA]; rfl⟩)), rfl⟩)

/-! ## A queued task is taken -/

/-- the program counters from which a thread may send on the task queue -/
def sender : L → Bool
  | .dsel _ | .push _ | .tsel _ => true
  | _ => false

/-- the queue changes in two ways only: a sender puts a task into the open, empty queue; a worker or the draining
`Stop` takes the head and holds it -/
theorem trans_queue {g g' : G} {l l' : L} {a : Act} (h : Trans P g l a g' l') :
    g'.q = g.q ∨ (g.q = [] ∧ g.closed = false ∧ sender l = true) ∨
      ∃ u, g.q = u :: g'.q ∧ (role l' = some (.run, u) ∨ l' = .sp5s u) := by
  induction h with
  | dselEnq _ hc hq | pushEnq _ hc hq | tselEnq _ hc hq => exact Or.inr (Or.inl ⟨hq, hc, rfl⟩)
  | w0take _ _ hq | e0take _ _ _ hq => exact Or.inr (Or.inr ⟨_, hq, Or.inl rfl⟩)
  | sp5take _ _ hq => exact Or.inr (Or.inr ⟨_, hq, Or.inr rfl⟩)
  | _ => exact Or.inl rfl

theorem trans_q_le {g g' : G} {l l' : L} {a : Act} (h : Trans P g l a g' l') (hc : g.closed = true) :
    g'.q.length ≤ g.q.length := by
  rcases trans_queue h with h | ⟨_, hc', _⟩ | ⟨u, h, _⟩
  · rw [h]; exact Nat.le_refl _
  · rw [hc] at hc'; cases hc'
  · rw [h]; exact Nat.le_succ _

/-- task `u` has left the queue and is with a worker, being drained by `Stop`, or already has a result -/
def Taken (c : Config (M P)) (u : Nat) : Prop :=
  u ∉ c.g.q ∧ ((∃ t, role (c.l t) = some (.run, u)) ∨ (∃ t, c.l t = .sp5s u) ∨ (c.g.task u).results ≠ [])

theorem Exec.q_next (e : Exec P) (m u : Nat) (hq : u ∈ (e.c m).g.q) :
    u ∈ (e.c (m + 1)).g.q ∨ Taken (e.c (m + 1)) u := by
  rcases e.trans m with hc | ⟨t, a, g', l', _, htr, hg, hl⟩
  · left; rw [hc]; exact hq
  · rcases trans_queue htr with h | ⟨h, _⟩ | ⟨v, h, hv⟩
    · left; rw [hg, h]; exact hq
    · rw [h] at hq; cases hq
    · -- the queue holds one task: the head that is taken is `u`, and nothing is left
      have hnil := q_singleton (e.pinv m).task.qlen h
      rw [h, hnil, List.mem_singleton] at hq
      subst hq
      refine Or.inr ⟨by rw [hg, hnil]; exact List.not_mem_nil, ?_⟩
      rcases hv with hv | hv
      · exact Or.inl ⟨t, by rw [hl]; exact hv⟩
      · exact Or.inr (Or.inl ⟨t, by rw [hl]; exact hv⟩)

theorem Exec.queued_until (e : Exec P) (u : Nat) {n m : Nat} (hnm : n ≤ m) (hq : u ∈ (e.c n).g.q) :
    u ∈ (e.c m).g.q ∨ ∃ k, n ≤ k ∧ k ≤ m ∧ Taken (e.c k) u :=
  holds_unless (fun m => u ∈ (e.c m).g.q) (fun m => Taken (e.c m) u) n hq
    (fun m _ hA hnB => (e.q_next m u hA).elim id (fun h => absurd h hnB)) m hnm

/-- fixed workers exist or are about to start -/
def HasFixed (c : Config (M P)) : Prop := (∃ t, fixedLive (c.l t) = true) ∨ 0 < c.g.spawnFixed

theorem moved_to (e : Exec P) {m : Nat} {t : Tid} {a : Act} (hmv : e.mover m = some (t, a)) (p : L → Prop)
    (h : ∀ g l g' l', Trans P g l a g' l' → p l') : p ((e.c (m + 1)).l t) := by
  rcases e.cases m t with ⟨_, hnm, _⟩ | ⟨a', g', l', hmv', htr, _, _, hl'⟩
  · exact absurd hmv (hnm _)
  · cases hmv.symm.trans hmv'
    rw [hl']; exact h _ _ _ _ htr

theorem fixedLive_cases {l : L} (h : fixedLive l = true) : l = .w0 ∨ ∃ v, role l = some (.run, v) := by
  cases l with
  | w0 => exact Or.inl rfl
  | wexec v | wsend v => exact Or.inr ⟨v, rfl⟩
  | _ => exact absurd h Bool.false_ne_true

/-- (fairness, E1, E2) if fixed workers exist, some thread is eventually at the head of the fixed-worker loop -/
theorem fixed_to_w0 (e : Exec P) (hfair : Fair e) (hE1 : EnvReleases e) (hE2 : EnvStarts e) (n : Nat)
    (hW : HasFixed (e.c n)) : ∃ m t, n ≤ m ∧ (e.c m).l t = .w0 := by
  rcases hW with ⟨tw, htw⟩ | hsp
  · rcases fixedLive_cases htw with hl | ⟨v, hl⟩
    · exact ⟨n, tw, Nat.le_refl _, hl⟩
    · obtain ⟨m, hm, _, hhome, hk⟩ := run_to_home e hE1 (hfair tw) n v hl
      rw [htw] at hk
      rcases hhome with h | ⟨dl, h⟩
      · exact ⟨m, tw, hm, h⟩
      · rw [h] at hk; cases hk
  · obtain ⟨m, t, hm, hmv⟩ := hE2.1 n hsp
    exact ⟨m + 1, t, by omega, moved_to e hmv (· = .w0) (fun _ _ _ _ htr => by cases htr; rfl)⟩

/-- (fairness, E1, E2) a queued task is eventually taken out of the queue, provided fixed workers exist -/
theorem queued_taken (e : Exec P) (hfair : Fair e) (hE1 : EnvReleases e) (hE2 : EnvStarts e) (n u : Nat)
    (hq : u ∈ (e.c n).g.q) (hW : HasFixed (e.c n)) : ∃ m, n ≤ m ∧ Taken (e.c m) u := by
  obtain ⟨m1, t1, hm1, hl1⟩ := fixed_to_w0 e hfair hE1 hE2 n hW
  rcases e.queued_until u hm1 hq with hQ | ⟨k, hk1, _, hB⟩
  · -- the worker at `w0` is enabled while the task is queued, and its step takes it
    obtain ⟨m, hm, hB⟩ := measure_leads e (hfair t1) (fun m => (e.c m).l t1 = .w0 ∧ u ∈ (e.c m).g.q)
      (fun m => Taken (e.c m) u) (fun _ => 0)
      (fun m ⟨hA, hq⟩ => by
        obtain ⟨v, rest, hv⟩ := List.exists_cons_of_ne_nil (List.ne_nil_of_mem hq)
        exact Or.inl (enabled_of_trans hA (Trans.w0take _ v rest hv) rfl))
      (fun m ⟨hA, hq⟩ hsame => (e.q_next m u hq).imp (fun h => ⟨⟨by rw [hsame]; exact hA, h⟩, Nat.le_refl _⟩) id)
      (fun m a g' l' ⟨hA, hq⟩ htr hg _ => Or.inl ((e.q_next m u hq).elim (fun h => by
        -- the step took the only queued task
        rw [hA] at htr
        cases htr with
        | w0take v rest hv =>
          rw [hg] at h
          have h : u ∈ rest := h
          rw [q_singleton (e.pinv m).task.qlen hv] at h
          cases h
        | w0done hv _ => rw [hv] at hq; cases hq) id)) m1 ⟨hl1, hQ⟩
    exact ⟨m, by omega, hB⟩
  · exact ⟨k, hk1, hB⟩

/-! ## An accepted task gets its result -/

/-- (fairness, E1) a task held by a worker or by the draining `Stop`, or already answered, has exactly one result
eventually -/
theorem held_to_result (e : Exec P) (hfair : Fair e) (hE1 : EnvReleases e) (m u : Nat)
    (h : (∃ t, role ((e.c m).l t) = some (.run, u)) ∨ (∃ t, (e.c m).l t = .sp5s u) ∨
      ((e.c m).g.task u).results ≠ []) :
    ∃ k, m ≤ k ∧ ((e.c k).g.task u).results.length = 1 := by
  rcases h with ⟨t, ht⟩ | ⟨t, ht⟩ | h
  · obtain ⟨k, hk, hres, _⟩ := run_to_home e hE1 (hfair t) m u ht
    exact ⟨k, hk, by rw [hres]; rfl⟩
  · obtain ⟨k, hk, hres, _⟩ := drain_to_answer e (hfair t) m u ht
    exact ⟨k, hk, by rw [hres]; rfl⟩
  · exact ⟨m, Nat.le_refl _, results_length_one (e.pinv m) h⟩

theorem isSt1_eq {l : L} (h : isSt1 l = true) : l = .st1 := by
  cases l with
  | st1 => rfl
  | _ => exact absurd h Bool.false_ne_true

/-- (fairness) the `Start` that won the CAS spawns the fixed workers: a pool in state 1 has fixed workers (running or
about to run) now or soon -/
theorem started_has_fixed (e : Exec P) (hfair : Fair e) (hpos : 0 < P.nworker) (n : Nat)
    (h1 : (e.c n).g.state = 1) : ∃ m, n ≤ m ∧ HasFixed (e.c m) := by
  have hx := e.xinv n
  have hcl : (e.c n).g.closed = false :=
    Bool.eq_false_iff.2 fun hc => by have := hx.pinv.lock.closed_state hc; omega
  by_cases hst : ∀ t, isSt1 ((e.c n).l t) = false
  · obtain ⟨f, hf, hsum⟩ := hx.full hcl h1 hst
    refine ⟨n, Nat.le_refl _, ?_⟩
    by_cases hf0 : f = 0
    · exact Or.inr (by omega)
    · exact Or.inl (Counts.exists_of_ne_zero hf hf0)
  · obtain ⟨t0, ht0⟩ := Classical.not_forall.1 hst
    have ht0 := isSt1_eq (eq_true_of_ne_false ht0)
    exact pc_leads e (hfair t0) n .st1 _ ht0 (fun m _ hA => enabled_of_trans hA (Trans.st1 _) rfl)
      (fun m a g' l' _ _ htr hg _ => by
        cases htr
        refine Or.inr ?_
        rw [hg]
        show 0 < (e.c m).g.spawnFixed + P.nworker
        omega)

/-- (fairness, E1, E2) an accepted task gets exactly one result, provided fixed workers exist -/
theorem accepted_result_of_fixed (e : Exec P) (hfair : Fair e) (hE1 : EnvReleases e) (hE2 : EnvStarts e) (n u : Nat)
    (he : ((e.c n).g.task u).enq = true) (hW : HasFixed (e.c n)) :
    ∃ m, n ≤ m ∧ ((e.c m).g.task u).results.length = 1 := by
  rcases ((e.pinv n).task.ok u).located he with hq | h | ⟨t, ht⟩ | h
  · exact leads_trans (queued_taken e hfair hE1 hE2 n u hq hW) (fun m _ hT => held_to_result e hfair hE1 m u hT.2)
  · exact held_to_result e hfair hE1 n u (Or.inl h)
  · exact held_to_result e hfair hE1 n u (Or.inr (Or.inl ⟨t, role_drain ht⟩))
  · exact held_to_result e hfair hE1 n u (Or.inr (Or.inr h))

/-- while a `Stop` caller waits for the readers to leave, the writer-pending flag is up -/
def PendInv (c : Config (M P)) : Prop := ∀ t, c.l t = .sp3b → c.g.wpending = true

/-- the writer-pending flag is up after a step exactly if the step arrives at `sp3b`, or the flag was up and the step
does not leave `sp3b` -/
theorem trans_wpending {g g' : G} {l l' : L} {a : Act} (h : Trans P g l a g' l') :
    g'.wpending = (isSp3b l' || (!isSp3b l && g.wpending)) := by
  induction h <;> rfl

theorem pend_reach (P : Params) : ∀ c, Reach (M P) c → PendInv c := by
  intro c hr
  induction hr with
  | init => intro t h; cases h
  | @step c t' a g' l' obs hprev hstep ih =>
    have hp := pinv_reach P c hprev
    intro t ht
    show g'.wpending = true
    rw [trans_wpending (step_trans (t := t') hstep)]
    by_cases htt : t = t'
    · subst htt
      rw [show (⟨g', upd c.l t l'⟩ : Config (M P)).l t = l' from upd_same _ _ _] at ht
      rw [ht]; rfl
    · rw [show (⟨g', upd c.l t' l'⟩ : Config (M P)).l t = c.l t from upd_other _ _ _ _ htt] at ht
      -- the mover is not the (only) stopper
      have h3 : isSp3b (c.l t') = false :=
        Bool.eq_false_iff.2 fun h => htt (hp.lock.stop_uniq t t' (by rw [ht]; rfl) (stopper_of_isSp3b h))
      rw [h3, ih t ht]; exact Bool.or_true _

theorem Exec.pend (e : Exec P) (n : Nat) : PendInv (e.c n) := pend_reach P _ (e.reach n)

theorem isInt_of_not_idle {g g' : G} {l l' : L} {a : Act} (h : Trans P g l a g' l') (hl : l ≠ .idle) :
    isInt a = true := by
  induction h with
  | callDo | callTry | callStart | callStop | beFixed | beExp | cancelTask | cancelParent | advance | finish =>
    exact absurd rfl hl
  | _ => rfl

theorem enabled_of_not_blocked' {c : Config (M P)} (hp : PInv P c) (t : Tid) (h : blockedAt c.g (c.l t) = false)
    (hl : c.l t ≠ .idle) : EnabledInt c t := by
  obtain ⟨a, g', l', obs, _, hs⟩ := enabled_of_not_blocked hp t h
  exact ⟨a, g', l', obs, isInt_of_not_idle (step_trans (t := t) hs) hl, hs⟩

/-! ### Readers leave while a writer is pending -/

theorem trans_readers_le {g g' : G} {l l' : L} {a : Act} (h : Trans P g l a g' l') (hw : g.wpending = true) :
    g'.readers ≤ g.readers := by
  induction h with
  | d1 _ _ hw' | t1 _ _ hw' | st0 _ hw' => rw [hw] at hw'; cases hw'
  | d9 | t9 | st2 => exact Nat.sub_le _ _
  | _ => exact Nat.le_refl _

/-- a step of a reader: its weight decreases, and it keeps the read lock or gives it back -/
theorem trans_reader {g g' : G} {l l' : L} {a : Act} (h : Trans P g l a g' l') (hr : holdsR l = true)
    (hc : g.closed = false) :
    rank P l' < rank P l ∧ g'.readers ≤ g.readers ∧ (holdsR l' = true ∨ g'.readers = g.readers - 1) := by
  induction h with
  | d2stop | d2push | d2sel | d3 | dselEnq | dselFull | dresSpawn | dresUndo | dspawn | dundo | pushPool | pushTask
  | pushEnq | t2stop | t2sel | t3locked | tselDefault | tselPool | tselTask | tselEnq =>
    exact ⟨Nat.le_of_ble_eq_true rfl, Nat.le_refl _, Or.inl rfl⟩
  | st0win | st0lose | st1 => exact ⟨by simp only [rank]; omega, Nat.le_refl _, Or.inl rfl⟩
  | d9 | t9 | st2 => exact ⟨Nat.le_of_ble_eq_true rfl, Nat.sub_le _ _, Or.inr rfl⟩
  | dselPanic _ hc' | pushPanic _ hc' | tselPanic _ hc' => rw [hc] at hc'; cases hc'
  | _ => exact absurd hr Bool.false_ne_true

/-- while `Stop` waits at `sp3b`, a reader eventually gives the read lock back (the count drops): it is enabled
because the context is cancelled, its steps lower its `rank`, and the pending writer holds new readers back -/
theorem reader_leaves (e : Exec P) (hfair : Fair e) {t : Tid} {n : Nat} (H : ∀ m, n ≤ m → (e.c m).l t = .sp3b)
    (k : Nat) (r : Tid) :
    ∀ m, (n ≤ m ∧ holdsR ((e.c m).l r) = true ∧ (e.c m).g.readers ≤ k + 1) →
      ∃ m', m ≤ m' ∧ (e.c m').g.readers ≤ k :=
  measure_leads e (hfair r) _ _ (fun m => rank P ((e.c m).l r))
    (fun m ⟨hm, hr, _⟩ => Or.inl (enabled_of_not_blocked' (e.pinv m) r (reader_not_blocked hr
      (ctxDone_of_stopper (e.xinv m) (t0 := t) (by rw [H m hm]; rfl) (by rw [H m hm]; rfl)))
      (fun h => by rw [h] at hr; cases hr)))
    (fun m ⟨hm, hr, hk⟩ hsame => by
      refine Or.inl ⟨⟨by omega, by rw [hsame]; exact hr, ?_⟩, by rw [hsame]; exact Nat.le_refl _⟩
      rcases e.trans m with hc | ⟨t', a, g', l', _, htr, hg, _⟩
      · rw [hc]; exact hk
      · rw [hg]; exact Nat.le_trans (trans_readers_le htr (e.pend m t (H m hm))) hk)
    (fun m a g' l' ⟨hm, hr, hk⟩ htr hg hl' => by
      obtain ⟨h1, h2, h3⟩ := trans_reader htr hr ((e.pinv m).lock.preclose t (by rw [H m hm]; rfl))
      have hpos := (e.pinv m).lock.readers.pos r hr
      rw [hl', hg]
      rcases h3 with h3 | h3
      · exact Or.inr ⟨⟨by omega, h3, by omega⟩, h1⟩
      · exact Or.inl (by omega))

theorem readers_zero (e : Exec P) (hfair : Fair e) {t : Tid} {n : Nat} (H : ∀ m, n ≤ m → (e.c m).l t = .sp3b) :
    ∀ m, n ≤ m → ∃ m', m ≤ m' ∧ (e.c m').g.readers = 0 := by
  refine leads_wf (fun m => n ≤ m) _ (fun m => (e.c m).g.readers) (fun m hm => ?_)
  by_cases h0 : (e.c m).g.readers = 0
  · exact ⟨m, Nat.le_refl _, Or.inl h0⟩
  · obtain ⟨r, hr⟩ := Counts.exists_of_ne_zero (e.pinv m).lock.readers h0
    obtain ⟨m1, hm1, h1⟩ := reader_leaves e hfair H ((e.c m).g.readers - 1) r m ⟨hm, hr, by omega⟩
    exact ⟨m1, hm1, Or.inr ⟨by omega, by omega⟩⟩

theorem readers_drain (e : Exec P) (hfair : Fair e) {t : Tid} {n : Nat} (H : ∀ m, n ≤ m → (e.c m).l t = .sp3b) :
    ∀ k m, n ≤ m → (e.c m).g.readers ≤ k → ∃ m', m ≤ m' ∧ (e.c m').g.readers = 0 :=
  fun _ m hm _ => readers_zero e hfair H m hm

/-- (fairness of all threads) `Stop` gets the write lock: the readers drain, because the context was cancelled before
the lock was requested and new readers are held back by the pending writer -/
theorem sp3b_to_sp3c (e : Exec P) (hfair : Fair e) (t : Tid) (n : Nat) (hl : (e.c n).l t = .sp3b) :
    ∃ m, n ≤ m ∧ (e.c m).l t = .sp3c := by
  refine wait_leads e (hfair t) n .sp3b .sp3c hl (fun m a g' l' _ htr => by cases htr; rfl) (fun H => ?_)
  obtain ⟨M, hM, h0⟩ := readers_zero e hfair H n (Nat.le_refl _)
  have hall : ∀ m, M ≤ m → (e.c m).g.readers = 0 := by
    refine stable_from h0 (fun m hm ih => ?_)
    rcases e.trans m with hc | ⟨t', a, g', l', _, htr, hg, _⟩
    · rw [hc]; exact ih
    · have := trans_readers_le htr (e.pend m t (H m (by omega)))
      rw [hg]; omega
  exact ⟨M, hM, fun m hm => enabled_of_trans (H m (by omega)) (Trans.sp3b _ (hall m hm)) rfl⟩

/-! ### Workers exit once the queue is closed -/

/-- a worker (fixed or expanded) that has not yet called `wg.Done` -/
def live (l : L) : Bool := fixedLive l || expPre l

/-- weight of a worker: its own remaining steps plus one loop iteration per queued task -/
def wrank (P : Params) (g : G) (l : L) : Nat := rank P l + 3 * g.q.length

theorem trans_wg_le {g g' : G} {l l' : L} {a : Act} (h : Trans P g l a g' l') (hi : inner l = false) :
    g'.wg ≤ g.wg := by
  induction h with
  | dspawn | st1 => cases hi
  | w0done | eexit => exact Int.sub_le_self _ (by decide)
  | _ => exact Int.le_refl _

/-- a step of a live worker: its weight decreases, and it stays a live worker or calls `wg.Done` -/
theorem trans_worker {g g' : G} {l l' : L} {a : Act} (h : Trans P g l a g' l') (hl : live l = true) :
    wrank P g' l' < wrank P g l ∧ g'.wg ≤ g.wg ∧ (live l' = true ∨ g'.wg = g.wg - 1) := by
  induction h with
  | w0take _ _ hq | e0take _ _ _ hq =>
    exact ⟨by simp only [wrank, rank, runTask_q, hq, List.length_cons]; omega, Int.le_refl _, Or.inl rfl⟩
  | wexec | wsend | e0closed | e0timer | eexec | esend =>
    exact ⟨Nat.add_lt_add_right (Nat.le_of_ble_eq_true rfl) _, Int.le_refl _, Or.inl rfl⟩
  | w0done | eexit => exact ⟨Nat.add_lt_add_right (Nat.le_of_ble_eq_true rfl) _, Int.sub_le_self _ (by decide), Or.inr rfl⟩
  | _ => exact absurd hl Bool.false_ne_true

theorem live_not_blocked {g : G} {l : L} (hl : live l = true) (hc : g.closed = true) (hne : ∀ v, ¬ atExec v l) :
    blockedAt g l = false := by
  cases l with
  | w0 | e0 => simp only [blockedAt, hc, Bool.not_true, Bool.and_false, Bool.false_and]
  | wexec v => exact absurd (Or.inl rfl) (hne v)
  | eexec v => exact absurd (Or.inr rfl) (hne v)
  | wsend | esend | eexit => rfl
  | _ => exact absurd hl Bool.false_ne_true

theorem exec_send_rank {v : Nat} {l l' : L} (h : atExec v l) (h' : atSend v l') (hk : fixedLive l' = fixedLive l) :
    rank P l' + 1 = rank P l ∧ live l' = true := by
  rcases h with h | h <;> rcases h' with h' | h' <;> subst h <;> subst h' <;> first | exact ⟨rfl, rfl⟩ | cases hk

/-- while `Stop` waits at `sp4` (queue closed), `wg` and the queue length never grow -/
theorem sp4_mono (e : Exec P) {t : Tid} {n : Nat} (H : ∀ m, n ≤ m → (e.c m).l t = .sp4) {m m' : Nat} (hm : n ≤ m)
    (hmm : m ≤ m') : (e.c m').g.wg ≤ (e.c m).g.wg ∧ (e.c m').g.q.length ≤ (e.c m).g.q.length := by
  refine stable_from (Q := fun i => (e.c i).g.wg ≤ (e.c m).g.wg ∧ (e.c i).g.q.length ≤ (e.c m).g.q.length)
    ⟨Int.le_refl _, Nat.le_refl _⟩ (fun i hi ih => ?_) m' hmm
  have hp := e.pinv i
  have hc : (e.c i).g.closed = true := hp.lock.postclose t (by rw [H _ (by omega)]; rfl)
  rcases e.trans i with hc' | ⟨t', a, g', l', _, htr, hg, _⟩
  · rw [hc']; exact ih
  · have hin : inner ((e.c i).l t') = false :=
      Bool.eq_false_iff.2 fun hh => Bool.false_ne_true ((hp.lock.inner_open t' hh).symm.trans hc)
    rw [hg]
    exact ⟨Int.le_trans (trans_wg_le htr hin) ih.1, Nat.le_trans (trans_q_le htr hc) ih.2⟩

/-- while `Stop` waits at `sp4`, a live worker eventually calls `wg.Done` (the count drops) -/
theorem worker_done (e : Exec P) (hfair : Fair e) (hE1 : EnvReleases e) {t : Tid} {n : Nat}
    (H : ∀ m, n ≤ m → (e.c m).l t = .sp4) (k : Nat) (r : Tid) :
    ∀ m, (n ≤ m ∧ (e.c m).g.wg ≤ (k : Int) + 1 ∧ live ((e.c m).l r) = true) →
      ∃ m', m ≤ m' ∧ (e.c m').g.wg ≤ (k : Int) := by
  refine measure_leads e (hfair r) _ _ (fun m => wrank P (e.c m).g ((e.c m).l r)) (fun m ⟨hm, hk, hr⟩ => ?_)
    (fun m ⟨hm, hk, hr⟩ hsame => ?_) (fun m a g' l' ⟨hm, hk, hr⟩ htr hg hl' => ?_)
  · by_cases hex : ∃ v, atExec v ((e.c m).l r)
    · -- inside an executor the worker waits for its gate; afterwards it is one step further
      obtain ⟨v, hv⟩ := hex
      obtain ⟨m1, hm1, hs, hk1⟩ := exec_to_send e hE1 (hfair r) m v hv
      obtain ⟨h1, h2⟩ := exec_send_rank (P := P) hv hs hk1
      obtain ⟨h3, h4⟩ := sp4_mono e H hm hm1
      exact Or.inr ⟨m1, hm1, Or.inr ⟨⟨by omega, Int.le_trans h3 hk, h2⟩, by unfold wrank; omega⟩⟩
    · exact Or.inl (enabled_of_not_blocked' (e.pinv m) r (live_not_blocked hr
        ((e.pinv m).lock.postclose t (by rw [H m hm]; rfl)) (fun v hv => hex ⟨v, hv⟩))
        (fun h => by rw [h] at hr; cases hr))
  · -- while `Stop` waits nothing grows
    obtain ⟨h3, h4⟩ := sp4_mono e H hm (Nat.le_add_right m 1)
    exact Or.inl ⟨⟨by omega, Int.le_trans h3 hk, by rw [hsame]; exact hr⟩, by rw [hsame]; unfold wrank; omega⟩
  · obtain ⟨h1, h2, h5⟩ := trans_worker htr hr
    rw [hl', hg]
    rcases h5 with h5 | h5
    · exact Or.inr ⟨⟨by omega, by omega, h5⟩, h1⟩
    · exact Or.inl (by omega)

theorem worker_exits (e : Exec P) (hfair : Fair e) (hE1 : EnvReleases e) {t : Tid} {n : Nat}
    (H : ∀ m, n ≤ m → (e.c m).l t = .sp4) (k : Nat) :
    ∀ j r m, n ≤ m → (e.c m).g.wg ≤ (k : Int) + 1 → live ((e.c m).l r) = true →
      wrank P (e.c m).g ((e.c m).l r) ≤ j → ∃ m', m ≤ m' ∧ (e.c m').g.wg ≤ (k : Int) :=
  fun _ r m hm hk hr _ => worker_done e hfair hE1 H k r m ⟨hm, hk, hr⟩

/-- while `Stop` waits at `sp4` the wait group drains: it counts the live workers and the goroutines still to start -/
theorem wg_zero (e : Exec P) (hfair : Fair e) (hE1 : EnvReleases e) (hE2 : EnvStarts e) {t : Tid} {n : Nat}
    (H : ∀ m, n ≤ m → (e.c m).l t = .sp4) : ∀ m, n ≤ m → ∃ m', m ≤ m' ∧ (e.c m').g.wg ≤ 0 := by
  refine leads_wf (fun m => n ≤ m) _ (fun m => (e.c m).g.wg.toNat) (fun m hm => ?_)
  have hexit : ∀ r m0, m ≤ m0 → live ((e.c m0).l r) = true →
      ∃ m', m ≤ m' ∧ ((e.c m').g.wg ≤ 0 ∨ (n ≤ m' ∧ (e.c m').g.wg.toNat < (e.c m).g.wg.toNat)) :=
      fun r m0 hm0 hr => by
    have h0 := (sp4_mono e H hm hm0).1
    by_cases hz : (e.c m).g.wg ≤ 0
    · exact ⟨m, Nat.le_refl _, Or.inl hz⟩
    · obtain ⟨m', hm', h'⟩ := worker_done e hfair hE1 H ((e.c m).g.wg.toNat - 1) r m0 ⟨by omega, by omega, hr⟩
      exact ⟨m', by omega, Or.inr ⟨by omega, by omega⟩⟩
  obtain ⟨f, x, hf, hx, hwg⟩ := (e.pinv m).count.wg
  by_cases hf0 : f = 0
  · by_cases hx0 : x = 0
    · by_cases hsf : 0 < (e.c m).g.spawnFixed
      · obtain ⟨m1, r, hm1, hmv⟩ := hE2.1 m hsf
        exact hexit r (m1 + 1) (by omega)
          (moved_to e hmv (live · = true) (fun _ _ _ _ htr => by cases htr; rfl))
      · by_cases hse : 0 < (e.c m).g.spawnExp
        · obtain ⟨m1, r, hm1, hmv⟩ := hE2.2 m hse
          exact hexit r (m1 + 1) (by omega)
            (moved_to e hmv (live · = true) (fun _ _ _ _ htr => by cases htr; rfl))
        · exact ⟨m, Nat.le_refl _, Or.inl (by rw [hwg]; omega)⟩
    · obtain ⟨r, hr⟩ := Counts.exists_of_ne_zero hx hx0
      exact hexit r m (Nat.le_refl _) (by unfold live; rw [hr]; exact Bool.or_true _)
  · obtain ⟨r, hr⟩ := Counts.exists_of_ne_zero hf hf0
    exact hexit r m (Nat.le_refl _) (by unfold live; rw [hr]; rfl)

theorem wg_drain (e : Exec P) (hfair : Fair e) (hE1 : EnvReleases e) (hE2 : EnvStarts e) {t : Tid} {n : Nat}
    (H : ∀ m, n ≤ m → (e.c m).l t = .sp4) :
    ∀ (k : Nat) m, n ≤ m → (e.c m).g.wg ≤ (k : Int) → ∃ m', m ≤ m' ∧ (e.c m').g.wg ≤ 0 :=
  fun _ m hm _ => wg_zero e hfair hE1 hE2 H m hm

/-- (fairness of all threads, E1, E2) `wg.Wait()` in `Stop` returns: every worker finishes its task, finds the queue
closed and exits -/
theorem sp4_to_sp5 (e : Exec P) (hfair : Fair e) (hE1 : EnvReleases e) (hE2 : EnvStarts e) (t : Tid) (n : Nat)
    (hl : (e.c n).l t = .sp4) : ∃ m, n ≤ m ∧ (e.c m).l t = .sp5 := by
  refine wait_leads e (hfair t) n .sp4 .sp5 hl (fun m a g' l' _ htr => by cases htr; rfl) (fun H => ?_)
  have hnn : ∀ m, 0 ≤ (e.c m).g.wg := by
    intro m
    obtain ⟨f, x, _, _, hwg⟩ := (e.pinv m).count.wg
    rw [hwg]; omega
  obtain ⟨M, hM, h0⟩ := wg_zero e hfair hE1 hE2 H n (Nat.le_refl _)
  refine ⟨M, hM, fun m hm => ?_⟩
  have h1 := (sp4_mono e H hM hm).1
  have h2 := hnn m
  exact enabled_of_trans (H m (by omega)) (Trans.sp4 _ (by omega)) rfl

/-- (fairness of `t`) the drain loop of `Stop` ends: the queue is closed, so it only shrinks, and every iteration takes
a task out -/
theorem sp5_to_idle (e : Exec P) {t : Tid} (hf : WeakFair e t) (n : Nat)
    (hl : (e.c n).l t = .sp5 ∨ ∃ u, (e.c n).l t = .sp5s u) : ∃ m, n ≤ m ∧ (e.c m).l t = .idle := by
  refine measure_leads e hf (fun m => (e.c m).l t = .sp5 ∨ ∃ u, (e.c m).l t = .sp5s u) _
    (fun m => wrank P (e.c m).g ((e.c m).l t)) (fun m hA => Or.inl ?_)
    (fun m hA hsame => Or.inl ⟨by rw [hsame]; exact hA, ?_⟩)
    (fun m a g' l' hA htr hg hl' => ?_) n hl
  · rcases hA with h | ⟨u, h⟩
    · cases hq : (e.c m).g.q with
      | nil => exact enabled_of_trans h (Trans.sp5done _ hq) rfl
      | cons u rest => exact enabled_of_trans h (Trans.sp5take _ u rest hq) rfl
    · exact enabled_of_trans h (Trans.sp5s _ u (((e.pinv m).task.ok u).drain t (by rw [h]; rfl)).2.2.1) rfl
  · have hc : (e.c m).g.closed = true :=
      (e.pinv m).lock.postclose t (by rcases hA with h | ⟨u, h⟩ <;> rw [h] <;> rfl)
    rw [hsame]
    rcases e.trans m with hc' | ⟨t', a, g', l', _, htr, hg, _⟩
    · rw [hc']; exact Nat.le_refl _
    · have := trans_q_le htr hc
      rw [hg]; unfold wrank; omega
  · rw [hl', hg]
    rcases hA with h | ⟨u, h⟩ <;> rw [h] at htr ⊢
    · cases htr with
      | sp5take u rest hq =>
        exact Or.inr ⟨Or.inr ⟨u, rfl⟩, by simp only [wrank, rank, hq, List.length_cons]; omega⟩
      | sp5done => exact Or.inl rfl
    · cases htr
      exact Or.inr ⟨Or.inl rfl, Nat.add_lt_add_right (Nat.le_of_ble_eq_true rfl) _⟩

def inStop : L → Bool
  | .sp0 | .sp1 | .sp2 | .sp3a | .sp3b | .sp3c | .sp3d | .sp4 | .sp5 | .sp5s _ => true
  | _ => false

/-- a step inside `Stop` returns, enters the drain loop, or gets one stage further -/
theorem stop_dec {g g' : G} {l l' : L} {a : Act} (hp : inStop l = true) (h : Trans P g l a g' l') (hn : l' ≠ .panicked) :
    (l' = .idle ∨ l' = .sp5 ∨ ∃ u, l' = .sp5s u) ∨ (inStop l' = true ∧ rank P l' < rank P l) := by
  induction h with
  | sp0win | sp0lose | sp1win | sp2 | sp3a | sp3b | sp3c | sp3d => exact Or.inr ⟨rfl, Nat.le_of_ble_eq_true rfl⟩
  | sp1lose | sp5done => exact Or.inl (Or.inl rfl)
  | sp4 | sp5s => exact Or.inl (Or.inr (Or.inl rfl))
  | sp5take => exact Or.inl (Or.inr (Or.inr ⟨_, rfl⟩))
  | sp3cPanic => exact absurd rfl hn
  | _ => exact absurd hp Bool.false_ne_true

/-- (fairness of all threads, E1, E2) a `Stop` call returns -/
theorem stop_returns_fair (e : Exec P) (hfair : Fair e) (hE1 : EnvReleases e) (hE2 : EnvStarts e) (t : Tid) (n : Nat)
    (hin : inStop ((e.c n).l t) = true) : ∃ m, n ≤ m ∧ (e.c m).l t = .idle := by
  -- straight-line code with two waits up to the drain loop, which is `sp5_to_idle`
  refine leads_trans (straight_leads e (hfair t) inStop (fun l => l = .idle ∨ l = .sp5 ∨ ∃ u, l = .sp5s u) (rank P) n
    (fun m _ hp => ?_) stop_dec n (Nat.le_refl _) hin)
    (fun m _ h => h.elim (fun h => ⟨m, Nat.le_refl _, h⟩) (sp5_to_idle e (hfair t) m))
  have hpi := e.pinv m
  generalize hl : (e.c m).l t = l0 at hp ⊢
  cases l0 with
  | sp0 | sp1 | sp2 | sp3c | sp3d => exact Or.inl (enabled_of_not_blocked' hpi t (by rw [hl]; rfl) (by rw [hl]; nofun))
  | sp3a =>
    -- the stopper is alone in `Stop`: nobody holds or awaits the write lock
    have hst : stopper ((e.c m).l t) = true := by rw [hl]; rfl
    exact Or.inl (enabled_of_trans hl (Trans.sp3a _
      (writer_false hpi (no_other_stopper hpi hst stopper_of_hasW (by rw [hl]; rfl)))
      (wpending_false hpi (no_other_stopper hpi hst stopper_of_isSp3b (by rw [hl]; rfl)))) rfl)
  | sp3b =>
    obtain ⟨m', hm', h⟩ := sp3b_to_sp3c e hfair t m hl
    exact Or.inr ⟨m', hm', by rw [h]; exact Or.inr ⟨rfl, Nat.le_of_ble_eq_true rfl⟩⟩
  | sp4 =>
    obtain ⟨m', hm', h⟩ := sp4_to_sp5 e hfair hE1 hE2 t m hl
    exact Or.inr ⟨m', hm', by rw [h]; exact Or.inl (Or.inr (Or.inl rfl))⟩
  | sp5 => exact Or.inr ⟨m, Nat.le_refl _, by rw [hl]; exact Or.inl (Or.inr (Or.inl rfl))⟩
  | sp5s u => exact Or.inr ⟨m, Nat.le_refl _, by rw [hl]; exact Or.inl (Or.inr (Or.inr ⟨u, rfl⟩))⟩
  | _ => exact absurd hp Bool.false_ne_true

/-! ## (E2) from the spawn counters -/

/-- only the start of a spawned goroutine lowers a spawn counter -/
theorem trans_spawn {g g' : G} {l l' : L} {a : Act} (h : Trans P g l a g' l') :
    (a = .beFixed ∨ g.spawnFixed ≤ g'.spawnFixed) ∧ (a = .beExp ∨ g.spawnExp ≤ g'.spawnExp) := by
  induction h with
  | beFixed => exact ⟨Or.inl rfl, Or.inr (Nat.le_refl _)⟩
  | beExp => exact ⟨Or.inr (Nat.le_refl _), Or.inl rfl⟩
  | st1 => exact ⟨Or.inr (Nat.le_add_right _ _), Or.inr (Nat.le_refl _)⟩
  | dspawn => exact ⟨Or.inr (Nat.le_refl _), Or.inr (Nat.le_add_right _ _)⟩
  | _ => exact ⟨Or.inr (Nat.le_refl _), Or.inr (Nat.le_refl _)⟩

theorem Exec.lowered (e : Exec P) (f : G → Nat) (a0 : Act)
    (hf : ∀ {g l a g' l'}, Trans P g l a g' l' → a = a0 ∨ f g ≤ f g') {n m : Nat} (hnm : n ≤ m)
    (hn : 0 < f (e.c n).g) (hm : f (e.c m).g = 0) : ∃ k t, n ≤ k ∧ e.mover k = some (t, a0) := by
  apply Classical.byContradiction
  intro hno
  -- otherwise the counter never goes down
  have := stable_from (Q := fun i => f (e.c n).g ≤ f (e.c i).g) (Nat.le_refl _) (fun i hi ih => by
    rcases e.trans i with hc | ⟨t, a, g', l', hmv, htr, hg, _⟩
    · rw [hc]; exact ih
    · rcases hf htr with ha | hle
      · exact absurd ⟨i, t, hi, by rw [hmv, ha]⟩ hno
      · rw [hg]; exact Nat.le_trans ih hle) m hnm
  omega

/-- (E2) holds when no spawned goroutine stays pending for ever -/
theorem starts_of_drained (e : Exec P)
    (h : ∀ n, ∃ m, n ≤ m ∧ (e.c m).g.spawnFixed = 0 ∧ (e.c m).g.spawnExp = 0) : EnvStarts e := by
  refine ⟨fun n hn => ?_, fun n hn => ?_⟩ <;> obtain ⟨m, hm, h1, h2⟩ := h n
  · obtain ⟨k, t, hk, hmv⟩ := e.lowered (·.spawnFixed) .beFixed (fun htr => (trans_spawn htr).1) hm hn h1
    exact ⟨k, t, hk, hmv⟩
  · obtain ⟨k, t, hk, hmv⟩ := e.lowered (·.spawnExp) .beExp (fun htr => (trans_spawn htr).2) hm hn h2
    exact ⟨k, t, hk, hmv⟩

/-! ## Executions from a finite schedule (for non-vacuity witnesses) -/

/-- the configuration after the first `n` entries of the schedule `s` (disabled entries are skipped) -/
def schedCfg (P : Params) (s : List (Tid × (M P).Act)) (n : Nat) : Config (M P) :=
  (run (M P) (Config.init (M P)) (s.take n)).1

def schedMover (P : Params) (s : List (Tid × (M P).Act)) (n : Nat) : Option (Tid × Act) :=
  match s[n]? with
  | none => none
  | some (t, a) =>
    if (step P t (schedCfg P s n).g ((schedCfg P s n).l t) a).isSome then some (t, a) else none

theorem schedCfg_ge (P : Params) (s : List (Tid × (M P).Act)) {n : Nat} (h : s.length ≤ n) :
    schedCfg P s n = schedCfg P s s.length := by
  simp [schedCfg, List.take_of_length_le h]

theorem schedCfg_add (P : Params) (s : List (Tid × (M P).Act)) (a k : Nat) :
    schedCfg P s (a + k) = (run (M P) (schedCfg P s a) ((s.drop a).take k)).1 := by
  unfold schedCfg
  rw [List.take_add, run_append]

theorem schedMover_ge (P : Params) (s : List (Tid × (M P).Act)) {n : Nat} (h : s.length ≤ n) : schedMover P s n = none := by
  simp [schedMover, List.getElem?_eq_none h]

/-- run the schedule `s` from the initial configuration, then stutter for ever -/
def Exec.ofSchedule (P : Params) (s : List (Tid × (M P).Act)) : Exec P where
  c := schedCfg P s
  mover := schedMover P s
  init := by
    have : schedCfg P s 0 = Config.init (M P) := by simp [schedCfg, run]
    rw [this]; exact Reach.init
  next := by
    intro n
    cases hn : s[n]? with
    | none =>
      left
      have hlen : s.length ≤ n := by
        rcases Nat.lt_or_ge n s.length with h | h
        · rw [List.getElem?_eq_getElem h] at hn; cases hn
        · exact h
      refine ⟨by simp [schedMover, hn], ?_⟩
      rw [schedCfg_ge P s hlen, schedCfg_ge P s (Nat.le_succ_of_le hlen)]
    | some ta =>
      obtain ⟨t, a⟩ := ta
      have htake : s.take (n + 1) = s.take n ++ [(t, a)] := by
        rw [List.take_add_one, hn]; rfl
      have hcfg : schedCfg P s (n + 1) = (run (M P) (schedCfg P s n) [(t, a)]).1 := by
        unfold schedCfg
        rw [htake, run_append]
      cases hs : step P t (schedCfg P s n).g ((schedCfg P s n).l t) a with
      | none =>
        left
        refine ⟨by simp [schedMover, hn, hs], ?_⟩
        rw [hcfg]
        show (run (M P) (schedCfg P s n) [(t, a)]).1 = _
        have hs' : (M P).step t (schedCfg P s n).g ((schedCfg P s n).l t) a = none := hs
        simp only [run, hs']
      | some r =>
        obtain ⟨g', l', obs⟩ := r
        right
        refine ⟨t, a, g', l', obs, by simp [schedMover, hn, hs], hs, ?_⟩
        rw [hcfg]
        have hs' : (M P).step t (schedCfg P s n).g ((schedCfg P s n).l t) a = some (g', l', obs) := hs
        simp only [run, hs']

theorem ofSchedule_final (P : Params) (s : List (Tid × (M P).Act)) (Q : Config (M P) → Prop)
    (h : Q (schedCfg P s s.length)) : ∀ m, s.length ≤ m → Q ((Exec.ofSchedule P s).c m) := fun m hm => by
  rw [show (Exec.ofSchedule P s).c m = schedCfg P s s.length from schedCfg_ge P s hm]; exact h

theorem ofSchedule_fair (P : Params) (s : List (Tid × (M P).Act))
    (hb : ∀ t, blockedAt (schedCfg P s s.length).g ((schedCfg P s s.length).l t) = true) :
    Fair (Exec.ofSchedule P s) := fun t n hen =>
  absurd (hen _ (Nat.le_max_left n s.length)) (ofSchedule_final P s (¬ EnabledInt · t) (fun ⟨a, g', l', obs, ha, hs⟩ => by
    have hs' : step P t (schedCfg P s s.length).g ((schedCfg P s s.length).l t) a = some (g', l', obs) := hs
    rw [blocked_stuck (P := P) hb t a (by cases a <;> simp [isInt] at ha <;> rfl)] at hs'
    cases hs') _ (Nat.le_max_right _ _))

/-- E1 for a schedule execution: every task that exists at the end has been released at the end -/
theorem ofSchedule_releases (P : Params) (s : List (Tid × (M P).Act))
    (hrel : ∀ u, u < (schedCfg P s s.length).g.tasks.length → ((schedCfg P s s.length).g.task u).released = true) :
    EnvReleases (Exec.ofSchedule P s) := by
  intro n u hx
  refine ⟨max n s.length, Nat.le_max_left _ _, ?_⟩
  have hc : (Exec.ofSchedule P s).c (max n s.length) = schedCfg P s s.length :=
    schedCfg_ge P s (Nat.le_max_right _ _)
  have hmono := ((Exec.ofSchedule P s).taskMono (Nat.le_max_left n s.length)).exec u
  rw [hc] at hmono ⊢
  apply hrel
  apply Classical.byContradiction
  intro hlt
  have hd : (schedCfg P s s.length).g.task u = { ctx := .never } := task_default (by omega)
  rw [hd] at hmono
  simp at hmono
  omega

theorem ofSchedule_support (P : Params) (s : List (Tid × (M P).Act)) (N : Nat)
    (hN : s.all (fun p => decide (p.1 < N)) = true) (n : Nat) : Support N ((Exec.ofSchedule P s).c n).l :=
  run_support (M P) (s.take n) N _ (fun _ _ => rfl)
    (List.all_eq_true.2 (fun p hp => List.all_eq_true.1 hN p (List.mem_of_mem_take hp)))

/-- configuration `c`, all of whose threads from `N` on are idle, is quiet: no thread has an internal step, every
existing task has been released, and no spawned goroutine is pending -/
def Quiet (N : Nat) (c : Config (M P)) : Prop :=
  (∀ t, t < N → blockedAt c.g (c.l t) = true) ∧ (∀ u, u < c.g.tasks.length → (c.g.task u).released = true) ∧
    c.g.spawnFixed = 0 ∧ c.g.spawnExp = 0

instance (N : Nat) (c : Config (M P)) : Decidable (Quiet N c) := by unfold Quiet; infer_instance

/-- a schedule over the threads below `N` that ends quiet yields (stuttering for ever after) an execution that is
weakly fair for every thread and satisfies (E1) and (E2) -/
theorem ofSchedule_env (P : Params) (s : List (Tid × (M P).Act)) (N : Nat)
    (hN : s.all (fun p => decide (p.1 < N)) = true) (h : Quiet N (schedCfg P s s.length)) :
    Fair (Exec.ofSchedule P s) ∧ EnvReleases (Exec.ofSchedule P s) ∧ EnvStarts (Exec.ofSchedule P s) := by
  obtain ⟨hb, hrel, hsf, hse⟩ := h
  have hsup : Support N (schedCfg P s s.length).l := ofSchedule_support P s N hN s.length
  refine ⟨ofSchedule_fair P s ?_, ofSchedule_releases P s hrel, starts_of_drained _ (fun n => ?_)⟩
  · exact forall_threads hsup (fun l => blockedAt (schedCfg P s s.length).g l = true)
      (by simp only [blockedAt, hsf, hse, decide_true, Bool.and_self]) hb
  · exact ⟨max n s.length, Nat.le_max_left _ _, ofSchedule_final P s (fun c => c.g.spawnFixed = 0 ∧ c.g.spawnExp = 0)
      ⟨hsf, hse⟩ _ (Nat.le_max_right _ _)⟩

end Garr.Pool.Fair
