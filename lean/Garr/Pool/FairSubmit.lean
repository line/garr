import Garr.Pool.Fair
/-!
# Worker-pool model: liveness of the submitting calls (`TryDo`, `Do`, `Start`) under weak fairness

* `rlock_free` – from some position on nobody holds or awaits the write side of `submitLock` (only the winning `Stop`
  ever does, it returns, and no second `Stop` wins a CAS): `RLock` in `Do` / `Start` eventually succeeds.
* every call is `straight_leads` over its program counters: `try_returns` (`TryDo` never blocks; fairness of the caller
  alone), `start_returns` and `do_returns_of_push` (the waits are the `RLock` and the blocking send), hence
  `do_returns_cancelled` and `do_returns_solo` (back-pressure ends when nobody else competes for the queue slot).
-/
namespace Garr.Pool.Fair
open Garr.Conc Garr.Pool Garr.Pool.Progress

variable {P : Params}

def inTry (u : Nat) : L → Bool
  | .t1 v | .t2 v | .t3 v _ | .tsel v | .t9 v _ => v == u
  | _ => false

theorem try_dec {u : Nat} {g g' : G} {l l' : L} {a : Act} (hp : inTry u l = true) (h : Trans P g l a g' l')
    (hn : l' ≠ .panicked) : l' = .idle ∨ (inTry u l' = true ∧ rank P l' < rank P l) := by
  induction h with
  | t1fail | t1 | t2stop | t2sel | t3locked | tselDefault | tselPool | tselTask | tselEnq =>
    exact Or.inr ⟨hp, Nat.le_of_ble_eq_true rfl⟩
  | t3free | t9 => exact Or.inl rfl
  | tselPanic => exact absurd rfl hn
  | _ => exact absurd hp Bool.false_ne_true

/-- (fairness of `t` alone) a `TryDo` call returns -/
theorem try_returns (e : Exec P) {t : Tid} (hf : WeakFair e t) (n u : Nat) (h : inTry u ((e.c n).l t) = true) :
    ∃ m, n ≤ m ∧ (e.c m).l t = .idle := by
  refine straight_leads e hf (inTry u) (· = .idle) (rank P) n (fun m _ hp => Or.inl ?_) try_dec n (Nat.le_refl _) h
  generalize hl : (e.c m).l t = l0 at hp
  cases l0 with
  | t1 | t2 | t3 | tsel | t9 => exact enabled_of_not_blocked' (e.pinv m) t (by rw [hl]; rfl) (by rw [hl]; nofun)
  | _ => exact absurd hp Bool.false_ne_true

/-! ## The write side of `submitLock` is eventually free for ever -/

open Garr.Props.Pool (stopReturned)

/-- only the two CASes lead into the winner's part of `Stop`, and on a stopped pool both fail -/
theorem trans_stopper_new {g g' : G} {l l' : L} {a : Act} (h : Trans P g l a g' l') (h2 : g.state = 2)
    (hl : stopper l = false) : stopper l' = false := by
  induction h with
  | sp0win h0 | sp1win h0 => rw [h2] at h0; cases h0
  | sp2 | sp3a | sp3b | sp3c | sp3d | sp4 | sp5take | sp5s => exact absurd hl.symm Bool.false_ne_true
  | _ => rfl

theorem stopReturned_mono (e : Exec P) {n m : Nat} (hnm : n ≤ m) (h : stopReturned (e.c n)) : stopReturned (e.c m) := by
  refine stable_from (Q := fun m => stopReturned (e.c m)) h (fun m _ h => ⟨?_, fun t' => ?_⟩) m hnm
  · rcases e.trans m with hc | ⟨t, a, g', l', _, htr, hg, _⟩
    · rw [hc]; exact h.1
    · rw [hg]; exact htr.state2 h.1
  · rcases e.cases m t' with ⟨hsame, _, _⟩ | ⟨a, g', l', _, htr, _, _, hl'⟩
    · rw [hsame]; exact h.2 t'
    · rw [hl']; exact trans_stopper_new htr h.1 (h.2 t')

theorem inStop_of_stopper {l : L} (h : stopper l = true) : inStop l = true := by
  cases l with
  | sp2 | sp3a | sp3b | sp3c | sp3d | sp4 | sp5 | sp5s => rfl
  | _ => exact absurd h Bool.false_ne_true

theorem trans_stopper_next {g g' : G} {l l' : L} {a : Act} (h : Trans P g l a g' l') (hl : stopper l = true)
    (hn : l' ≠ .panicked) : stopper l' = true ∨ l' = .idle := by
  induction h with
  | sp2 | sp3a | sp3b | sp3c | sp3d | sp4 | sp5take | sp5s => exact Or.inl rfl
  | sp5done => exact Or.inr rfl
  | sp3cPanic => exact absurd rfl hn
  | _ => exact absurd hl Bool.false_ne_true

/-- (fairness, E1, E2) once a `Stop` caller has won its CAS, it eventually has returned -/
theorem stopper_gone (e : Exec P) (hfair : Fair e) (hE1 : EnvReleases e) (hE2 : EnvStarts e) (n : Nat) (t : Tid)
    (ht : stopper ((e.c n).l t) = true) : ∃ m, n ≤ m ∧ stopReturned (e.c m) := by
  obtain ⟨m1, hm1, hidle⟩ := stop_returns_fair e hfair hE1 hE2 t n (inStop_of_stopper ht)
  rcases holds_unless (fun m => stopper ((e.c m).l t) = true) (fun m => stopReturned (e.c m)) n ht
    (fun m _ hA hnB => by
      rcases e.cases m t with ⟨hsame, _, _⟩ | ⟨a, g', l', _, htr, hg, hl, hl'⟩
      · rw [hsame]; exact hA
      · have hnp : l' ≠ .panicked := by rw [← hl']; exact (e.pinv (m + 1)).lock.nopanic t
        rcases trans_stopper_next htr hA hnp with h | h
        · rw [hl']; exact h
        · -- the stopper returns: it was the only one
          exfalso
          apply hnB
          have hp := e.pinv m
          refine ⟨by rw [hg]; exact htr.state2 (hp.lock.stop_state t hA), fun t' => ?_⟩
          rw [hl]
          rcases upd_eq_or (e.c m).l t l' t' with ⟨_, ea⟩ | ⟨hne, ea⟩
          · rw [ea, h]; rfl
          · rw [ea]
            exact Bool.eq_false_iff.2 fun hh => hne (hp.lock.stop_uniq t' t hh hA)) m1 hm1 with h | ⟨k, hk, _, h⟩
  · rw [hidle] at h; cases h
  · exact ⟨k, hk, h⟩

/-- (fairness, E1, E2) from some position on nobody holds or awaits the write lock -/
theorem rlock_free (e : Exec P) (hfair : Fair e) (hE1 : EnvReleases e) (hE2 : EnvStarts e) (n : Nat) :
    ∃ M, n ≤ M ∧ ∀ m, M ≤ m → (e.c m).g.writer = false ∧ (e.c m).g.wpending = false := by
  by_cases h : ∃ m0 t, n ≤ m0 ∧ stopper ((e.c m0).l t) = true
  · obtain ⟨m0, t, hm0, ht⟩ := h
    obtain ⟨M, hM, hns⟩ := stopper_gone e hfair hE1 hE2 m0 t ht
    exact ⟨M, by omega, fun m hm => free_of_no_stopper (e.pinv m) (stopReturned_mono e hm hns).2⟩
  · exact ⟨n, Nat.le_refl _, fun m hm => free_of_no_stopper (e.pinv m)
      (fun t => Bool.eq_false_iff.2 fun hs => h ⟨m, t, hm, hs⟩)⟩

def inStart : L → Bool
  | .st0 | .st0c | .st1 | .st2 => true
  | _ => false

theorem start_dec {g g' : G} {l l' : L} {a : Act} (hp : inStart l = true) (h : Trans P g l a g' l')
    (_hn : l' ≠ .panicked) : l' = .idle ∨ (inStart l' = true ∧ rank P l' < rank P l) := by
  induction h with
  | st0 | st0win | st0lose | st1 => exact Or.inr ⟨rfl, by simp only [rank]; omega⟩
  | st2 => exact Or.inl rfl
  | _ => exact absurd hp Bool.false_ne_true

/-- (fairness, E1, E2) a `Start` call returns; only its `RLock` can wait, for a `Stop` holding or awaiting the write lock -/
theorem start_returns (e : Exec P) (hfair : Fair e) (hE1 : EnvReleases e) (hE2 : EnvStarts e) (t : Tid) (n : Nat)
    (h : inStart ((e.c n).l t) = true) : ∃ m, n ≤ m ∧ (e.c m).l t = .idle := by
  refine straight_leads e (hfair t) inStart (· = .idle) (rank P) n (fun m _ hp => ?_) start_dec n (Nat.le_refl _) h
  generalize hl : (e.c m).l t = l0 at hp ⊢
  cases l0 with
  | st0 =>
    obtain ⟨m', hm', h⟩ := wait_leads e (hfair t) m .st0 .st0c hl (fun _ _ _ _ _ htr => by cases htr; rfl) (fun H => by
      obtain ⟨M, hM, hfree⟩ := rlock_free e hfair hE1 hE2 m
      exact ⟨M, hM, fun i hi => enabled_of_trans (H i (by omega)) (Trans.st0 _ (hfree i hi).1 (hfree i hi).2) rfl⟩)
    exact Or.inr ⟨m', hm', by rw [h]; exact Or.inr ⟨rfl, by simp only [rank]; omega⟩⟩
  | st0c | st1 | st2 => exact Or.inl (enabled_of_not_blocked' (e.pinv m) t (by rw [hl]; rfl) (by rw [hl]; nofun))
  | _ => exact absurd hp Bool.false_ne_true

/-- the pool context or the context of task `u` is done -/
def Cancelled (c : Config (M P)) (u : Nat) : Prop := c.g.ctxDone = true ∨ taskCtxDone c.g u = true

theorem Cancelled.mono (e : Exec P) (u : Nat) {n m : Nat} (hnm : n ≤ m) (h : Cancelled (e.c n) u) :
    Cancelled (e.c m) u :=
  h.imp (e.mono hnm).ctxDone ((e.mono hnm).taskCtxDone u)

/-- inside `Do(u)`, from the `RLock` to the `RUnlock` -/
def inDoCall (u : Nat) : L → Bool
  | .d1 v | .d2 v | .d3 v | .dsel v | .dres v | .dspawn v | .dundo v | .push v | .d9 v => v == u
  | _ => false

theorem do_dec {u : Nat} {g g' : G} {l l' : L} {a : Act} (hp : inDoCall u l = true) (h : Trans P g l a g' l')
    (hn : l' ≠ .panicked) : l' = .idle ∨ (inDoCall u l' = true ∧ rank P l' < rank P l) := by
  induction h with
  | d1 | d2stop | d2push | d2sel | d3 | dselEnq | dselFull | dresSpawn | dresUndo | dspawn | dundo | pushPool
  | pushTask | pushEnq => exact Or.inr ⟨hp, Nat.le_of_ble_eq_true rfl⟩
  | d9 => exact Or.inl rfl
  | dselPanic | pushPanic => exact absurd rfl hn
  | _ => exact absurd hp Bool.false_ne_true

/-- (fairness, E1, E2) a `Do` call returns, provided its blocking send is always left eventually: the other wait is the
`RLock`, which succeeds once the write lock is free for ever -/
theorem do_returns_of_push (e : Exec P) (hfair : Fair e) (hE1 : EnvReleases e) (hE2 : EnvStarts e) (t : Tid) (n u : Nat)
    (Hpush : ∀ m, n ≤ m → (e.c m).l t = .push u → ∃ m', m ≤ m' ∧ (e.c m').l t = .d9 u)
    (h : inDoCall u ((e.c n).l t) = true) : ∃ m, n ≤ m ∧ (e.c m).l t = .idle := by
  refine straight_leads e (hfair t) (inDoCall u) (· = .idle) (rank P) n (fun m hm hp => ?_) do_dec n (Nat.le_refl _) h
  generalize hl : (e.c m).l t = l0 at hp ⊢
  cases l0 with
  | d1 v =>
    cases eq_of_beq hp
    obtain ⟨m', hm', h⟩ := wait_leads e (hfair t) m (.d1 u) (.d2 u) hl (fun _ _ _ _ _ htr => by cases htr; rfl) (fun H => by
      obtain ⟨M, hM, hfree⟩ := rlock_free e hfair hE1 hE2 m
      exact ⟨M, hM, fun i hi => enabled_of_trans (H i (by omega)) (Trans.d1 _ u (hfree i hi).1 (hfree i hi).2) rfl⟩)
    exact Or.inr ⟨m', hm', by rw [h]; exact Or.inr ⟨hp, Nat.le_of_ble_eq_true rfl⟩⟩
  | push v =>
    cases eq_of_beq hp
    obtain ⟨m', hm', h⟩ := Hpush m hm hl
    exact Or.inr ⟨m', hm', by rw [h]; exact Or.inr ⟨hp, Nat.le_of_ble_eq_true rfl⟩⟩
  | d2 | d3 | dsel | dres | dspawn | dundo | d9 =>
    exact Or.inl (enabled_of_not_blocked' (e.pinv m) t (by rw [hl]; rfl) (by rw [hl]; nofun))
  | _ => exact absurd hp Bool.false_ne_true

theorem push_only_d9 (e : Exec P) {t : Tid} {u : Nat} (m : Nat) (a : Act) (g' : G) (l' : L)
    (hl : (e.c m).l t = .push u) (htr : Trans P (e.c m).g (.push u) a g' l') : l' = .d9 u := by
  have hc := (e.pinv m).lock.inner_open t (by rw [hl]; rfl)
  cases htr with
  | pushPanic _ hc' => rw [hc] at hc'; cases hc'
  | _ => rfl

theorem push_enabled_cancelled {c : Config (M P)} (hp : PInv P c) {t : Tid} {u : Nat} (hl : c.l t = .push u)
    (hc : Cancelled c u) : EnabledInt c t := by
  have hr := ((hp.task.ok u).pre t (by rw [hl]; rfl)).2.2
  rcases hc with h | h
  · exact enabled_of_trans hl (Trans.pushPool _ u h hr) rfl
  · exact enabled_of_trans hl (Trans.pushTask _ u h hr) rfl

/-- (fairness of `t`) a blocked submission is released once the pool's or the task's context is done -/
theorem push_cancelled (e : Exec P) {t : Tid} (hf : WeakFair e t) (n u : Nat) (hl : (e.c n).l t = .push u)
    (hc : Cancelled (e.c n) u) : ∃ m, n ≤ m ∧ (e.c m).l t = .d9 u :=
  pc_leads e hf n (.push u) (fun m => (e.c m).l t = .d9 u) hl
    (fun m hm hA => push_enabled_cancelled (e.pinv m) hA (Cancelled.mono e u hm hc))
    (fun m a g' l' _ hA htr _ hl' => by rw [hl']; exact push_only_d9 e m a g' l' hA htr)

/-- (fairness, E1, E2) a `Do` call returns once the pool's or the task's context is done -/
theorem do_returns_cancelled (e : Exec P) (hfair : Fair e) (hE1 : EnvReleases e) (hE2 : EnvStarts e) (t : Tid) (n u : Nat)
    (h : inDoCall u ((e.c n).l t) = true) (hc : Cancelled (e.c n) u) : ∃ m, n ≤ m ∧ (e.c m).l t = .idle :=
  do_returns_of_push e hfair hE1 hE2 t n u
    (fun m hm hl => push_cancelled e (hfair t) m u hl (Cancelled.mono e u hm hc)) h

/-! ## `Do`: the back-pressure ends when nobody else competes for the queue slot -/

/-- while thread `t` waits, uncancelled, in the send of `Do(u)`, no `Stop` wins its CAS: the winner would cancel the pool
context, or, having returned, would have closed the queue under a thread that is past its not-stopped check -/
theorem push_not_stopped (e : Exec P) (hfair : Fair e) (hE1 : EnvReleases e) (hE2 : EnvStarts e) {t : Tid} {n u : Nat}
    (H : ∀ m, n ≤ m → (e.c m).l t = .push u) (hnc : ∀ m, n ≤ m → ¬ Cancelled (e.c m) u) (m : Nat) (hm : n ≤ m) :
    (e.c m).g.state ≠ 2 := by
  intro h2
  have hx := e.xinv m
  by_cases hsp : ∀ t', isSp2 ((e.c m).l t') = false
  · exact hnc m hm (Or.inl (hx.ctx h2 hsp))
  · obtain ⟨t', ht'⟩ := Classical.not_forall.1 hsp
    obtain ⟨m2, hm2, hns⟩ := stopper_gone e hfair hE1 hE2 m t' (stopper_of_isSp2 (eq_true_of_ne_false ht'))
    have := ((e.pinv m2).stop hns.1 hns.2).2
    rw [(e.pinv m2).lock.inner_open t (by rw [H m2 (by omega)]; rfl)] at this
    cases this

/-- (fairness, E1, E2) thread `t` blocked in the send of `Do(u)` on a pool that `Start` has been called on
(`state ≠ 0`, `NumberWorker > 0`) leaves the send, provided no other thread is at a program counter from which it can
send on the task queue: the queued task is taken by a worker (or `Stop` / a cancellation intervenes), the slot stays
free, and `t`'s send is enabled for ever after. -/
theorem push_solo (e : Exec P) (hfair : Fair e) (hE1 : EnvReleases e) (hE2 : EnvStarts e) (hpos : 0 < P.nworker)
    (t : Tid) (n u : Nat) (hl : (e.c n).l t = .push u) (hs : (e.c n).g.state ≠ 0)
    (hsolo : ∀ m t', n ≤ m → t' ≠ t → sender ((e.c m).l t') = false) :
    ∃ m, n ≤ m ∧ (e.c m).l t = .d9 u := by
  refine wait_leads e (hfair t) n (.push u) (.d9 u) hl (fun m a g' l' h htr => push_only_d9 e m a g' l' h htr)
    (fun H => ?_)
  by_cases hcan : ∃ m1, n ≤ m1 ∧ Cancelled (e.c m1) u
  · obtain ⟨m1, hm1, hc⟩ := hcan
    exact ⟨m1, hm1, fun m hm => push_enabled_cancelled (e.pinv m) (H m (by omega)) (Cancelled.mono e u hm hc)⟩
  · have hnc : ∀ m, n ≤ m → ¬ Cancelled (e.c m) u := fun m hm h => hcan ⟨m, hm, h⟩
    have hs1 : (e.c n).g.state = 1 := by
      have := (e.pinv n).sp1.1
      have := push_not_stopped e hfair hE1 hE2 H hnc n (Nat.le_refl _)
      omega
    obtain ⟨m1, hm1, hW⟩ := started_has_fixed e hfair hpos n hs1
    -- nobody refills the queue: it keeps its content or is emptied
    have hq : ∀ m0, n ≤ m0 → ∀ m, m0 ≤ m → (e.c m).g.q = (e.c m0).g.q ∨ (e.c m).g.q = [] := fun m0 hm0 =>
      stable_from (Or.inl rfl) (fun m hm ih => by
        rcases e.cases m t with ⟨_, _, hc | ⟨t', a, g', l', hne, htr, hg, _⟩⟩ | ⟨a, g', l', _, htr, _, _, hl'⟩
        · rw [hc]; exact ih
        · rcases trans_queue htr with h | ⟨_, _, h⟩ | ⟨v, h, _⟩
          · rw [hg, h]; exact ih
          · rw [hsolo m t' (by omega) hne] at h; cases h
          · exact Or.inr (by rw [hg]; exact q_singleton (e.pinv m).task.qlen h)
        · -- `t` itself does not move
          have h1 := H m (by omega)
          rw [h1] at htr
          have h2 := H (m + 1) (by omega)
          rw [hl', push_only_d9 e m a g' l' h1 htr] at h2
          cases h2)
    have hempty : ∀ m0, n ≤ m0 → (e.c m0).g.q = [] → ∃ M, n ≤ M ∧ ∀ m, M ≤ m → EnabledInt (e.c m) t :=
      fun m0 hm0 h0 => ⟨m0, hm0, fun m hm => enabled_of_trans (H m (by omega))
        (Trans.pushEnq _ u ((e.pinv m).lock.inner_open t (by rw [H m (by omega)]; rfl))
          ((hq m0 hm0 m hm).elim (fun h => h.trans h0) id)) rfl⟩
    cases hq1 : (e.c m1).g.q with
    | nil => exact hempty m1 hm1 hq1
    | cons v rest =>
      obtain ⟨m2, hm2, hnot, _⟩ := queued_taken e hfair hE1 hE2 m1 v (by rw [hq1]; exact List.mem_cons_self) hW
      refine hempty m2 (by omega) ((hq m1 hm1 m2 hm2).elim (fun h => ?_) id)
      rw [h, hq1] at hnot
      exact absurd List.mem_cons_self hnot

/-- (fairness, E1, E2) a `Do` call on a pool that `Start` has been called on returns, provided that from some position
`N` on no other thread is at a program counter from which it can send on the task queue -/
theorem do_returns_solo (e : Exec P) (hfair : Fair e) (hE1 : EnvReleases e) (hE2 : EnvStarts e) (hpos : 0 < P.nworker)
    (t : Tid) (n u N : Nat) (h : inDoCall u ((e.c n).l t) = true) (hs : (e.c n).g.state ≠ 0)
    (hsolo : ∀ m t', N ≤ m → t' ≠ t → sender ((e.c m).l t') = false) :
    ∃ m, n ≤ m ∧ (e.c m).l t = .idle := by
  rcases holds_unless (fun m => inDoCall u ((e.c m).l t) = true) (fun m => (e.c m).l t = .idle) n h
    (fun m _ hA hnB => by
      rcases e.cases m t with ⟨hsame, _, _⟩ | ⟨a, g', l', _, htr, _, _, hl'⟩
      · rw [hsame]; exact hA
      · have hnp : l' ≠ .panicked := by rw [← hl']; exact (e.pinv (m + 1)).lock.nopanic t
        rcases do_dec hA htr hnp with h | ⟨h, _⟩
        · exact absurd (by rw [hl']; exact h) hnB
        · rw [hl']; exact h) (max n N) (Nat.le_max_left _ _) with hA | ⟨k, hk, _, hB⟩
  · obtain ⟨m, hm, hidle⟩ := do_returns_of_push e hfair hE1 hE2 t (max n N) u
      (fun m hm hl => push_solo e hfair hE1 hE2 hpos t m u hl
        (by have := (e.mono (Nat.le_trans (Nat.le_max_left n N) hm)).state; omega)
        (fun m' t' hm' hne => hsolo m' t' (Nat.le_trans (Nat.le_max_right n N) (Nat.le_trans hm hm')) hne)) hA
    exact ⟨m, Nat.le_trans (Nat.le_max_left _ _) hm, hidle⟩
  · exact ⟨k, hk, hB⟩

end Garr.Pool.Fair
