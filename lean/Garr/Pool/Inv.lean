import Garr.Pool.Tasks
import Garr.Pool.Mono
/-!
# Invariants of the worker-pool model

`PInv` = lock / state-machine discipline (`LockInv`, `WInv`, `Sp1Inv`, file `Lock.lean`), counter meaning (`CountInv`), task
ownership and exactly-once bookkeeping (`TaskInv`, file `Tasks.lean`), and what holds once the `Stop` caller is past
`wg.Wait()` (`WaitInv`) or has returned (`StopInv`).  `pinv_reach` lifts it to every reachable configuration.
After it: `Steps` (reachability between two configurations), what a step never undoes in the task table (`TaskMono`),
and a task that was refused stays refused (`Refused`).

`Start` holds the read side of `submitLock` from before its CAS until after `wg.Add` + spawning (commit eaca25b), so
the `Stop` caller cannot take the write lock — and hence cannot reach `wg.Wait()` — while a `Start` is between its CAS
and its `wg.Add`: a thread at `st1` sees the queue open (`inner`), exactly like a submitter past `stopped()`.
For the code before that fix see `Garr/Pool/OldStartRace.lean`.
-/
namespace Garr.Pool
open Garr.Conc

/-- once the winning `Stop` caller has returned, the queue is closed and empty -/
def StopInv (g : G) (ls : Tid → L) : Prop :=
  g.state = 2 → (∀ t, stopper (ls t) = false) → g.q = [] ∧ g.closed = true

theorem StopInv.step {P : Params} {g g' : G} {ls : Tid → L} {t : Tid} {l : L} {a : Act} {l' : L}
    (hlock : LockInv g ls) (hinv : StopInv g ls) (hl : ls t = l) (h : Trans P g l a g' l') :
    StopInv g' (upd ls t l') := by
  induction h
  case sp0win | sp1win => exact absent_preserve hl hinv (hC := fun _ => Or.inr rfl)
  case st0win => exact absent_preserve hl hinv (hC := nofun)
  case sp5done hq => exact absent_preserve hl hinv (hexit := fun _ => Or.inr ⟨hq, hlock.postclose t (hl ▸ rfl)⟩)
  case sp3cPanic hc => exact absurd (hlock.preclose t (hl ▸ rfl)) (by rw [hc]; exact nofun)
  -- the queue and `closed` are written by the stopper, by a send on the open queue, by a receive from the non-empty one
  case sp3c | sp5take => exact absent_preserve hl hinv (hQ := fun _ hno _ => nomatch hl ▸ hno t)
  case dselEnq hc _ | pushEnq hc _ | tselEnq hc _ =>
    exact absent_preserve hl hinv (hQ := fun _ _ hq => absurd hq.2 (by rw [hc]; exact nofun))
  case w0take hq | e0take hq => exact absent_preserve hl hinv (hQ := fun _ _ h => nomatch hq ▸ h.1)
  all_goals exact absent_preserve hl hinv

def preWait : L → Bool
  | .sp2 | .sp3a | .sp3b | .sp3c | .sp3d | .sp4 => true
  | _ => false

/-- once the winning `Stop` caller is past `wg.Wait()`, the wait group stays at zero -/
def WaitInv (g : G) (ls : Tid → L) : Prop :=
  g.state = 2 → (∀ t, preWait (ls t) = false) → g.wg = 0

theorem stopper_of_preWait {l : L} (h : preWait l = true) : stopper l = true := by
  unfold preWait at h
  split at h <;> first | rfl | cases h

theorem postClose_of_stopper {l : L} (h : stopper l = true) (h' : preWait l = false) : postClose l = true := by
  unfold stopper at h
  split at h <;> first | rfl | cases h' | cases h

theorem closed_of_pastWait {g : G} {ls : Tid → L} (hlock : LockInv g ls) (hstop : StopInv g ls)
    (hs : g.state = 2) (hno : ∀ t, preWait (ls t) = false) : g.closed = true := by
  by_cases hex : ∃ t, stopper (ls t) = true
  · obtain ⟨t, ht⟩ := hex
    exact hlock.postclose t (postClose_of_stopper ht (hno t))
  · exact (hstop hs fun t => Bool.eq_false_iff.2 fun hh => hex ⟨t, hh⟩).2

theorem WaitInv.step {P : Params} {g g' : G} {ls : Tid → L} {t : Tid} {l : L} {a : Act} {l' : L}
    (hlock : LockInv g ls) (hstop : StopInv g ls) (hcount : CountInv P g ls)
    (hinv : WaitInv g ls) (hl : ls t = l) (h : Trans P g l a g' l') : WaitInv g' (upd ls t l') := by
  have hcl := closed_of_pastWait hlock hstop
  obtain ⟨f, e, hf, he, hwg⟩ := hcount.wg
  induction h
  case sp0win | sp1win => exact absent_preserve hl hinv (hC := fun _ => Or.inr rfl)
  case st0win => exact absent_preserve hl hinv (hC := nofun)
  case sp4 hw => exact absent_preserve hl hinv (hexit := fun _ => Or.inr hw)
  case sp3cPanic hc => exact absurd (hlock.preclose t (hl ▸ rfl)) (by rw [hc]; exact nofun)
  -- `wg.Add` happens under the read lock, before the queue is closed
  case dspawn | st1 =>
    refine absent_preserve hl hinv (hQ := fun hs hno _ => ?_)
    have := hlock.inner_open t (hl ▸ rfl)
    rw [hcl hs hno] at this; cases this
  -- `wg.Done` is called by a worker that `wg` still counts
  case w0done =>
    refine absent_preserve hl hinv (hQ := fun _ _ h0 => ?_)
    have := hf.pos t (hl ▸ rfl)
    omega
  case eexit =>
    refine absent_preserve hl hinv (hQ := fun _ _ h0 => ?_)
    have := he.pos t (hl ▸ rfl)
    omega
  all_goals exact absent_preserve hl hinv

structure PInv (P : Params) (c : Config (M P)) : Prop where
  lock : LockInv c.g c.l
  count : CountInv P c.g c.l
  task : TaskInv c.g c.l
  stop : StopInv c.g c.l
  wlock : WInv c.g c.l
  wait : WaitInv c.g c.l
  sp1 : Sp1Inv c.g c.l

theorem pinv_init (P : Params) : PInv P (Config.init (M P)) := by
  constructor
  case lock =>
    refine ⟨?_, ?_, ?_, ?_, ?_, ?_, ?_, Counts.init _ rfl, ?_, rfl, ?_⟩ <;>
      simp [Config.init, M, stopper, preClose, postClose, hasW, inner, holdsR]
  case count =>
    exact ⟨⟨0, 0, Counts.init _ rfl, Counts.init _ rfl, rfl⟩,
      ⟨0, 0, 0, 0, Counts.init _ rfl, Counts.init _ rfl, Counts.init _ rfl, Counts.init _ rfl, rfl, Nat.zero_le _⟩,
      ⟨0, 0, Counts.init _ rfl, Counts.init _ rfl, Or.inl ⟨rfl, Nat.zero_le _⟩, fun _ => rfl⟩⟩
  case task =>
    refine ⟨Nat.zero_le 1, fun u => ?_⟩
    have ht : (Config.init (M P)).g.task u = { ctx := .never } := task_default (Nat.zero_le u)
    have hr : ∀ t, role ((Config.init (M P)).l t) = none := fun t => rfl
    have hq : (Config.init (M P)).g.q = [] := rfl
    constructor <;> simp [ht, hr, hq]
  case stop => exact nofun
  case wlock => exact ⟨nofun, nofun⟩
  case wait => exact nofun
  case sp1 => exact ⟨Nat.zero_le 2, fun _ => nofun⟩

theorem pinv_step {P : Params} (c : Config (M P)) (t : Tid) (a : Act) (g' : G) (l' : L) (obs : List Obs)
    (hinv : PInv P c) (h : (M P).step t c.g (c.l t) a = some (g', l', obs)) : PInv P ⟨g', upd c.l t l'⟩ := by
  have ht : Trans P c.g (c.l t) a g' l' := step_trans (t := t) h
  exact ⟨hinv.lock.step rfl ht, hinv.count.step rfl ht, hinv.task.step rfl ht, hinv.stop.step hinv.lock rfl ht,
    hinv.wlock.step hinv.lock rfl ht, hinv.wait.step hinv.lock hinv.stop hinv.count rfl ht, hinv.sp1.step rfl ht⟩

theorem pinv_reach (P : Params) : ∀ c, Reach (M P) c → PInv P c :=
  inv_of_reach (M P) (PInv P) (pinv_init P) (fun c t a g' l' obs hinv h => pinv_step c t a g' l' obs hinv h)

theorem results_length_one {P : Params} {c : Config (M P)} (hp : PInv P c) {u : Nat} (h : (c.g.task u).results ≠ []) :
    (c.g.task u).results.length = 1 := by
  rcases (hp.task.ok u).res with h1 | ⟨h1, _⟩ | ⟨r, _, h1, _⟩
  · exact absurd h1 h
  · rw [h1]; rfl
  · rw [h1]; rfl

/-- `c'` is reachable from `c` -/
inductive Steps (M : Machine) : Config M → Config M → Prop
  | refl (c : Config M) : Steps M c c
  | step {c c' : Config M} {t a g' l' obs} : Steps M c c' → M.step t c'.g (c'.l t) a = some (g', l', obs) →
      Steps M c ⟨g', upd c'.l t l'⟩

theorem Steps.reach {M : Machine} {c c' : Config M} (h : Reach M c) (hs : Steps M c c') : Reach M c' := by
  induction hs with
  | refl => exact h
  | step _ hstep ih => exact Reach.step ih hstep

theorem send_exec (g : G) (u v : Nat) (r : Res) : ((g.send u r).task v).exec = (g.task v).exec :=
  setTask_frame Task.exec (by rfl) v
theorem enqueue_exec (g : G) (u v : Nat) : ((enqueue g u).task v).exec = (g.task v).exec :=
  setTask_frame Task.exec (by rfl) v
theorem newTask_exec (g : G) (c : CtxKind) (v : Nat) : ((newTask g c).task v).exec = (g.task v).exec :=
  newTask_frame Task.exec (by rfl) v

structure TaskMono (g g' : G) : Prop where
  len : g.tasks.length ≤ g'.tasks.length
  results : ∀ u r, r ∈ (g.task u).results → r ∈ (g'.task u).results
  exec : ∀ u, (g.task u).exec ≤ (g'.task u).exec
  enq : ∀ u, (g.task u).enq = true → (g'.task u).enq = true

theorem TaskMono.of_same {g g' : G} (h : SameTasks g g') : TaskMono g g' :=
  ⟨by rw [h.len]; exact Nat.le_refl _, fun u r hr => by rw [h.results]; exact hr,
   fun u => by rw [h.exec]; exact Nat.le_refl _, fun u he => by rw [h.enq]; exact he⟩

theorem TaskMono.of_set {g g' : G} (u : Nat) (x : Task) (ht : g'.tasks = g.tasks.set u x)
    (hr : ∀ r ∈ (g.task u).results, r ∈ x.results) (hx : (g.task u).exec ≤ x.exec)
    (he : (g.task u).enq = true → x.enq = true) : TaskMono g g' := by
  refine ⟨by rw [ht, List.length_set]; exact Nat.le_refl _, fun v r h => ?_, fun v => ?_, fun v h => ?_⟩
  all_goals
    rw [task_of_set ht]; split
    · rename_i hh; obtain ⟨rfl, _⟩ := hh; first | exact hr r h | exact hx | exact he h
    · first | exact h | exact Nat.le_refl _

theorem TaskMono.newTask (g : G) (c : CtxKind) : TaskMono g (newTask g c) :=
  ⟨by simp, fun u r hr => by rw [newTask_frame Task.results (by rfl)]; exact hr,
   fun u => by rw [newTask_exec]; exact Nat.le_refl _, fun u he => by rw [newTask_frame Task.enq (by rfl)]; exact he⟩

theorem TaskMono.step {P : Params} {g g' : G} {l : L} {a : Act} {l' : L} (h : Trans P g l a g' l') : TaskMono g g' := by
  cases h.taskEff with
  | send _ _ _ _ _ h0 => exact .of_set _ _ rfl (fun _ h => by rw [h0] at h; cases h) (Nat.le_refl _) id
  | enqueue => exact .of_set _ _ rfl (fun _ h => h) (Nat.le_refl _) (fun _ => rfl)
  | run => exact .of_set _ _ rfl (fun _ h => h) (Nat.le_succ _) id
  | callDo | callTry => exact .newTask _ _
  | cancel | finish => exact .of_set _ _ rfl (fun _ h => h) (Nat.le_refl _) id
  | same _ _ h => exact .of_same (.of_tasks h)

theorem TaskMono.refl (g : G) : TaskMono g g := TaskMono.of_same (SameTasks.of_tasks rfl)

theorem TaskMono.trans {a b c : G} (h1 : TaskMono a b) (h2 : TaskMono b c) : TaskMono a c :=
  ⟨Nat.le_trans h1.len h2.len, fun u r hr => h2.results u r (h1.results u r hr),
   fun u => Nat.le_trans (h1.exec u) (h2.exec u), fun u he => h2.enq u (h1.enq u he)⟩

theorem TaskMono.steps {P : Params} {c c' : Config (M P)} (h : Steps (M P) c c') : TaskMono c.g c'.g := by
  induction h with
  | refl => exact TaskMono.refl _
  | @step c' t a g' l' obs _ hstep ih => exact ih.trans (TaskMono.step (step_trans (t := t) hstep))

/-- task `u` exists, was never put into the queue, and no submitter is still working on it -/
def Refused (g : G) (ls : Tid → L) (u : Nat) : Prop :=
  u < g.tasks.length ∧ (g.task u).enq = false ∧ ∀ t, role (ls t) ≠ some (.pre, u)

theorem Refused.step {P : Params} {g g' : G} {ls : Tid → L} {t : Tid} {l : L} {a : Act} {l' : L} {u : Nat}
    (hr : Refused g ls u) (hl : ls t = l) (h : Trans P g l a g' l') : Refused g' (upd ls t l') u := by
  subst hl
  refine ⟨Nat.lt_of_lt_of_le hr.1 (TaskMono.step h).len, ?_, fun b => ?_⟩
  · rw [← hr.2.1]
    cases h.taskEff with
    | send => exact setTask_frame Task.enq (by rfl) _
    | enqueue _ u0 hrole =>
      -- only the submitter of `u0` enqueues it, and `u` has none
      have hne : u ≠ u0 := fun e => hr.2.2 t (e ▸ hrole)
      rw [enqueue_task, if_neg (fun h => hne h.1)]
    | run => exact setTask_frame Task.enq (by rfl) _
    | callDo | callTry => exact newTask_frame Task.enq (by rfl) _
    | cancel => exact (SameTasks.cancel _ _).enq _
    | finish => exact (SameTasks.finish _ _).enq _
    | same _ _ h => exact (SameTasks.of_tasks h).enq _
  · rcases upd_eq_or ls t l' b with ⟨_, eb⟩ | ⟨_, eb⟩ <;> rw [eb]
    · exact fun h' => hr.2.2 t ((h.pre_role h').resolve_right (Nat.ne_of_lt hr.1))
    · exact hr.2.2 b

theorem Refused.steps {P : Params} {c c' : Config (M P)} {u : Nat} (hr : Refused c.g c.l u)
    (h : Steps (M P) c c') : Refused c'.g c'.l u := by
  induction h with
  | refl => exact hr
  | @step c' t a g' l' obs _ hstep ih => exact ih.step rfl (step_trans (t := t) hstep)

theorem Refused.exec {g : G} {ls : Tid → L} {u : Nat} (hr : Refused g ls u) (hinv : TaskInv g ls) :
    (g.task u).exec = 0 := by
  have h1 := (hinv.ok u).exec_le
  have h2 := (hinv.ok u).exec_one
  cases hx : (g.task u).exec with
  | zero => rfl
  | succ n =>
    have : (g.task u).exec = 1 := by omega
    have := (h2 this).1
    rw [hr.2.1] at this; cases this

end Garr.Pool

namespace Garr.Props.Pool
open Garr.Conc Garr.Pool

variable {P : Params}

/-- the `Stop` caller that won the state CAS has returned: the premise of `StopInv`, under the name the property
statements use -/
def stopReturned (c : Config (M P)) : Prop := c.g.state = 2 ∧ ∀ t, stopper (c.l t) = false

end Garr.Props.Pool
