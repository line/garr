import Garr.Pool.Count
/-!
# Worker-pool model: lock / state-machine invariant and counter invariant

The classes of program counters the invariants speak of; `LockInv` (the read/write lock, the state word, the closed
flag) with a toolkit for showing that a step preserves an invariant over classes (`stays`, `pcg_preserve`,
`exists_preserve`, `absent_preserve`, `LockInv.frame_at`); `WInv` (who holds or awaits the write lock); `Sp1Inv`
(the state word never returns to 0); `CountInv` (`wg`, `expanded` and the fixed workers, by conservation laws).
-/
namespace Garr.Pool
open Garr.Conc

/-- between a successful `RLock`/`TryRLock` and the `RUnlock` (`Do`, `TryDo`, and `Start`) -/
def holdsR : L → Bool
  | .d2 _ | .d3 _ | .dsel _ | .dres _ | .dspawn _ | .dundo _ | .push _ | .d9 _
  | .t2 _ | .t3 _ true | .tsel _ | .t9 _ _
  | .st0c | .st1 | .st2 => true
  | _ => false

/-- holding the read lock and past a check that the pool is not stopped: `Do`/`TryDo` past `stopped()` (they may still
send on the task queue), `Start` past its successful CAS 0→1 (it still has to `wg.Add` and spawn) -/
def inner : L → Bool
  | .dsel _ | .dres _ | .dspawn _ | .dundo _ | .push _ | .tsel _ | .st1 => true
  | _ => false

/-- the `Stop` caller that won the state CAS, until it returns -/
def stopper : L → Bool
  | .sp2 | .sp3a | .sp3b | .sp3c | .sp3d | .sp4 | .sp5 | .sp5s _ => true
  | _ => false

/-- the winning `Stop` caller before `close(taskQueue)` -/
def preClose : L → Bool
  | .sp2 | .sp3a | .sp3b | .sp3c => true
  | _ => false

/-- the winning `Stop` caller after `close(taskQueue)` -/
def postClose : L → Bool
  | .sp3d | .sp4 | .sp5 | .sp5s _ => true
  | _ => false

/-- holding the write lock -/
def hasW : L → Bool
  | .sp3c | .sp3d => true
  | _ => false

/-- a fixed worker that has not yet called `wg.Done` -/
def fixedLive : L → Bool
  | .w0 | .wexec _ | .wsend _ => true
  | _ => false

/-- an expanded worker that has not yet called `wg.Done` -/
def expPre : L → Bool
  | .e0 _ | .eexec _ | .esend _ | .eexit => true
  | _ => false

def isEexit2 : L → Bool | .eexit2 => true | _ => false
def isDspawn : L → Bool | .dspawn _ => true | _ => false
def isDundo : L → Bool | .dundo _ => true | _ => false
def isSt1 : L → Bool | .st1 => true | _ => false

structure LockInv (g : G) (ls : Tid → L) : Prop where
  stop_uniq : ∀ t t', stopper (ls t) = true → stopper (ls t') = true → t = t'
  stop_state : ∀ t, stopper (ls t) = true → g.state = 2
  closed_state : g.closed = true → g.state = 2
  preclose : ∀ t, preClose (ls t) = true → g.closed = false
  postclose : ∀ t, postClose (ls t) = true → g.closed = true
  hasw : ∀ t, hasW (ls t) = true → g.writer = true
  inner_open : ∀ t, inner (ls t) = true → g.closed = false
  readers : Counts holdsR ls g.readers
  writer_excl : g.writer = true → ∀ t, holdsR (ls t) = false
  panics : g.panics = 0
  nopanic : ∀ t, ls t ≠ .panicked

/-- a step that neither takes/releases the write lock nor closes the queue -/
structure LockFrame (g g' : G) (ls : Tid → L) (t : Tid) (l' : L) : Prop where
  state : g.state = 2 → g'.state = 2
  closed : g'.closed = g.closed
  writer : g'.writer = g.writer ∨ stopper (ls t) = true
  wexcl : g'.writer = true → g.writer = true ∨ g.readers = 0
  readers : g'.readers = g.readers + (holdsR l').toNat - (holdsR (ls t)).toNat
  panics : g'.panics = g.panics
  stopper : stopper l' = true → stopper (ls t) = true ∨ ((∀ t', stopper (ls t') = false) ∧ g'.state = 2)
  preClose : preClose l' = true → preClose (ls t) = true ∨ g.closed = false
  postClose : postClose l' = true → postClose (ls t) = true
  hasW : hasW l' = true → g'.writer = true
  inner : inner l' = true → inner (ls t) = true ∨ g.closed = false
  holdsR : holdsR l' = true → g'.writer = false ∨ holdsR (ls t) = true
  nopanic : l' ≠ .panicked

theorem stopper_of_hasW {l : L} (h : hasW l = true) : stopper l = true := by
  unfold hasW at h
  split at h <;> first | rfl | cases h

theorem stopper_of_preClose {l : L} (h : preClose l = true) : stopper l = true := by
  unfold preClose at h
  split at h <;> first | rfl | cases h

theorem holdsR_of_inner {l : L} (h : inner l = true) : holdsR l = true := by
  unfold inner at h
  split at h <;> first | rfl | cases h

theorem none_of_sub {p q : L → Bool} {ls : Tid → L} (hsub : ∀ {l}, p l = true → q l = true)
    (hq : ∀ t, q (ls t) = false) (t : Tid) : p (ls t) = false :=
  Bool.eq_false_iff.2 fun h => absurd (hsub h) (by rw [hq t]; exact Bool.false_ne_true)

/-! ## Proving that a step preserves an invariant

A step proof splits on the constructor of `Trans`.  Most constructors neither write the fields an invariant speaks of
nor move the acting thread into or out of the classes it mentions.  The preservation lemmas below take one argument
per obligation, each with a default that proves it in exactly that case (`rfl`, `id`, `stays rfl`); a step proof names
the few constructors that matter, gives their real obligations, and closes the rest with the lemma alone. -/

/-- `l'` is in the class `p` only if `l` was: closed by `rfl` for concrete program counters -/
theorem stays {p : L → Bool} {l l' : L} {Q : Prop} (h : (p l' && !p l) = false) (h' : p l' = true) : p l = true ∨ Q := by
  cases hp : p l
  · rw [h', hp] at h; cases h
  · exact Or.inl rfl

/-- invariants of the form "every thread in class `p` sees `Q`": a program counter tells something about `g` -/
theorem pcg_preserve {p : L → Bool} {Q Q' : Prop} {ls : Tid → L} {t : Tid} {l l' : L} (hl : ls t = l)
    (h : ∀ a, p (ls a) = true → Q) (hQ : Q → Q' := by exact id)
    (hnew : p l' = true → p l = true ∨ Q' := by exact stays rfl) :
    ∀ a, p (upd ls t l' a) = true → Q' := by
  subst hl
  intro a ha
  rcases upd_eq_or ls t l' a with ⟨_, ea⟩ | ⟨_, ea⟩ <;> rw [ea] at ha
  · rcases hnew ha with h1 | h1
    · exact hQ (h t h1)
    · exact h1
  · exact hQ (h a ha)

/-- invariants of the form "a flag is set only while some thread is in class `p`" -/
theorem exists_preserve {p : L → Bool} {b b' : Bool} {ls : Tid → L} {t : Tid} {l l' : L} (hl : ls t = l)
    (h : b = true → ∃ a, p (ls a) = true)
    (hflag : b' = true → b = true ∨ p l' = true := by exact Or.inl)
    (hkeep : p l = true → p l' = true ∨ b' = false := by exact stays rfl) :
    b' = true → ∃ a, p (upd ls t l' a) = true := by
  subst hl
  intro hb'
  rcases hflag hb' with hb | hp
  · obtain ⟨a, ha⟩ := h hb
    by_cases hat : a = t
    · subst hat
      rcases hkeep ha with h1 | h1
      · exact ⟨a, by rw [upd_same]; exact h1⟩
      · rw [hb'] at h1; cases h1
    · exact ⟨a, by rw [upd_other _ _ _ _ hat]; exact ha⟩
  · exact ⟨t, by rw [upd_same]; exact hp⟩

/-- invariants of the form "once `C` holds and no thread is in class `p`, `Q` holds" -/
theorem absent_preserve {p : L → Bool} {C C' Q Q' : Prop} {ls : Tid → L} {t : Tid} {l l' : L} (hl : ls t = l)
    (h : C → (∀ a, p (ls a) = false) → Q)
    (hC : C' → C ∨ p l' = true := by exact Or.inl)
    (hexit : p l = true → p l' = true ∨ Q' := by exact stays rfl)
    (hQ : C → (∀ a, p (ls a) = false) → Q → Q' := by exact fun _ _ h => h) :
    C' → (∀ a, p (upd ls t l' a) = false) → Q' := by
  subst hl
  intro hC' hno
  have hl' : p l' = false := by have := hno t; rwa [upd_same] at this
  have hc : C := (hC hC').resolve_right (by rw [hl']; exact nofun)
  cases hold : p (ls t) with
  | true => exact (hexit hold).resolve_left (by rw [hl']; exact nofun)
  | false =>
    have hall : ∀ a, p (ls a) = false := by
      intro a
      by_cases ha : a = t
      · rw [ha]; exact hold
      · have := hno a; rwa [upd_other _ _ _ _ ha] at this
    exact hQ hc hall (h hc hall)

/-- `LockInv` in that form, one argument per clause.  `closed` allows the closing step of the thread that holds the write
lock. -/
theorem LockInv.frame_at {g g' : G} {ls : Tid → L} {t : Tid} {l l' : L} (hinv : LockInv g ls) (hl : ls t = l)
    (state : g.state = 2 → g'.state = 2 := by exact id)
    (closed : g'.closed = g.closed ∨ (hasW l = true ∧ g'.closed = true ∧ preClose l' = false ∧ inner l' = false) := by
      exact Or.inl rfl)
    (writer : g'.writer = g.writer ∨ stopper l = true := by exact Or.inl rfl)
    (wexcl : g'.writer = true → g.writer = true ∨ g.readers = 0 := by exact Or.inl)
    (readers : g'.readers = g.readers + (holdsR l').toNat - (holdsR l).toNat := by rfl)
    (panics : g'.panics = g.panics := by rfl)
    (stopper : stopper l' = true → stopper l = true ∨ ((∀ t', stopper (ls t') = false) ∧ g'.state = 2) := by
      exact stays rfl)
    (preClose : preClose l' = true → preClose l = true ∨ g.closed = false := by exact stays rfl)
    (postClose : postClose l' = true → postClose l = true ∨ g'.closed = true := by exact stays rfl)
    (hasW : hasW l' = true → g'.writer = true := by exact nofun)
    (inner : inner l' = true → inner l = true ∨ g.closed = false := by exact stays rfl)
    (holdsR : holdsR l' = true → g'.writer = false ∨ holdsR l = true := by exact fun h => (stays rfl h).symm)
    (nopanic : l' ≠ .panicked := by exact nofun) : LockInv g' (upd ls t l') := by
  subst hl
  -- at the closing step the acting thread is the stopper and no thread holds the read lock
  have fc : g'.closed = g.closed ∨ (g'.closed = true ∧ Garr.Pool.stopper (ls t) = true ∧
      Garr.Pool.preClose l' = false ∧ Garr.Pool.inner l' = false ∧ ∀ b, Garr.Pool.holdsR (ls b) = false) :=
    closed.imp id fun ⟨hw, hc, hp, hi⟩ => ⟨hc, stopper_of_hasW hw, hp, hi, hinv.writer_excl (hinv.hasw t hw)⟩
  have hmono : g.closed = true → g'.closed = true := by
    rcases fc with fc | ⟨hc, _⟩
    · rw [fc]; exact id
    · exact fun _ => hc
  constructor
  case stop_uniq =>
    intro a b ha hb
    rcases upd_eq_or ls t l' a with ⟨xa, ea⟩ | ⟨na, ea⟩ <;> rcases upd_eq_or ls t l' b with ⟨xb, eb⟩ | ⟨nb, eb⟩ <;>
      rw [ea] at ha <;> rw [eb] at hb
    · exact xa.trans xb.symm
    · rcases stopper ha with h | ⟨h, _⟩
      · exact xa.trans (hinv.stop_uniq _ _ h hb)
      · rw [h b] at hb; cases hb
    · rcases stopper hb with h | ⟨h, _⟩
      · exact (hinv.stop_uniq _ _ ha h).trans xb.symm
      · rw [h a] at ha; cases ha
    · exact hinv.stop_uniq _ _ ha hb
  case stop_state => exact pcg_preserve rfl hinv.stop_state state fun h => (stopper h).imp id And.right
  case closed_state =>
    rcases fc with fc | ⟨_, hst, _⟩
    · rw [fc]; exact fun h => state (hinv.closed_state h)
    · exact fun _ => state (hinv.stop_state t hst)
  case preclose =>
    intro a ha
    rcases upd_eq_or ls t l' a with ⟨_, ea⟩ | ⟨na, ea⟩ <;> rw [ea] at ha
    · rcases fc with fc | ⟨_, _, hp, _⟩
      · rw [fc]; exact (preClose ha).elim (hinv.preclose t) id
      · rw [hp] at ha; cases ha
    · rcases fc with fc | ⟨_, hst, _⟩
      · rw [fc]; exact hinv.preclose _ ha
      · exact absurd (hinv.stop_uniq _ _ (stopper_of_preClose ha) hst) na
  case postclose => exact pcg_preserve rfl hinv.postclose hmono postClose
  case hasw =>
    intro a ha
    rcases upd_eq_or ls t l' a with ⟨_, ea⟩ | ⟨na, ea⟩ <;> rw [ea] at ha
    · exact hasW ha
    · rcases writer with h | h
      · rw [h]; exact hinv.hasw _ ha
      · exact absurd (hinv.stop_uniq _ _ (stopper_of_hasW ha) h) na
  case inner_open =>
    intro a ha
    rcases upd_eq_or ls t l' a with ⟨_, ea⟩ | ⟨na, ea⟩ <;> rw [ea] at ha
    · rcases fc with fc | ⟨_, _, _, hi, _⟩
      · rw [fc]; exact (inner ha).elim (hinv.inner_open t) id
      · rw [hi] at ha; cases ha
    · rcases fc with fc | ⟨_, _, _, _, hno⟩
      · rw [fc]; exact hinv.inner_open _ ha
      · have := holdsR_of_inner ha; rw [hno a] at this; cases this
  case readers => rw [readers]; exact hinv.readers.upd t l'
  case writer_excl =>
    intro hw a
    have hold : ∀ b, Garr.Pool.holdsR (ls b) = false := by
      rcases wexcl hw with h | h
      · exact hinv.writer_excl h
      · have h8 := hinv.readers; rw [h] at h8; exact h8.zero
    rcases upd_eq_or ls t l' a with ⟨_, ea⟩ | ⟨na, ea⟩ <;> rw [ea]
    · refine Bool.eq_false_iff.2 fun hh => ?_
      rcases holdsR hh with h | h
      · rw [hw] at h; cases h
      · rw [hold t] at h; cases h
    · exact hold _
  case panics => rw [panics]; exact hinv.panics
  case nopanic =>
    intro a
    rcases upd_eq_or ls t l' a with ⟨_, ea⟩ | ⟨na, ea⟩ <;> rw [ea]
    · exact nopanic
    · exact hinv.nopanic _

theorem LockInv.frame {g g' : G} {ls : Tid → L} {t : Tid} {l' : L} (hinv : LockInv g ls)
    (hf : LockFrame g g' ls t l') : LockInv g' (upd ls t l') :=
  hinv.frame_at rfl hf.state (Or.inl hf.closed) hf.writer hf.wexcl hf.readers hf.panics hf.stopper hf.preClose
    (fun h => Or.inl (hf.postClose h)) hf.hasW hf.inner hf.holdsR hf.nopanic

def entersNone (l l' : L) : Bool :=
  !(stopper l' && !stopper l) && !(preClose l' && !preClose l) && !(postClose l' && !postClose l) && !hasW l' &&
    !(inner l' && !inner l) && !(holdsR l' && !holdsR l) && l' != .panicked

theorem LockInv.frame_quiet {g g' : G} {ls : Tid → L} {t : Tid} {l l' : L} (hinv : LockInv g ls) (hl : ls t = l)
    (state : g'.state = g.state) (closed : g'.closed = g.closed) (writer : g'.writer = g.writer)
    (readers : g'.readers = g.readers + (holdsR l').toNat - (holdsR l).toNat) (panics : g'.panics = g.panics)
    (hc : entersNone l l' = true) : LockInv g' (upd ls t l') := by
  simp only [entersNone, Bool.and_eq_true, Bool.not_eq_true', bne_iff_ne] at hc
  obtain ⟨⟨⟨⟨⟨⟨c1, c2⟩, c3⟩, c4⟩, c5⟩, c6⟩, c7⟩ := hc
  exact hinv.frame_at hl (fun h => state ▸ h) (Or.inl closed) (Or.inl writer) (fun h => Or.inl (writer ▸ h)) readers panics
    (stays c1) (stays c2) (stays c3) (fun h => by rw [h] at c4; cases c4) (stays c5) (fun h => (stays c6 h).symm) c7

theorem LockInv.step {P : Params} {g g' : G} {ls : Tid → L} {t : Tid} {l : L} {a : Act} {l' : L}
    (hinv : LockInv g ls) (hl : ls t = l) (h : Trans P g l a g' l') : LockInv g' (upd ls t l') := by
  have hcl : g.state ≠ 2 → g.closed = false := fun h => Bool.eq_false_iff.2 fun hc => h (hinv.closed_state hc)
  have hns : g.state ≠ 2 → ∀ t', stopper (ls t') = false := fun h t' =>
    Bool.eq_false_iff.2 fun hc => h (hinv.stop_state t' hc)
  induction h
  case d1 hw _ | t1 hw _ | st0 hw _ => exact hinv.frame_at hl (holdsR := fun _ => Or.inl hw)
  case d2push hs _ | d2sel hs _ | t2sel hs => exact hinv.frame_at hl (inner := fun _ => Or.inr (hcl hs))
  case st0win hs =>
    have h2 : g.state ≠ 2 := by omega
    exact hinv.frame_at hl (state := fun h => absurd h h2) (inner := fun _ => Or.inr (hcl h2))
  case sp0win hs | sp1win hs =>
    have h2 : g.state ≠ 2 := by omega
    exact hinv.frame_at hl (state := fun _ => rfl) (stopper := fun _ => Or.inr ⟨hns h2, rfl⟩)
      (preClose := fun _ => Or.inr (hcl h2))
  case sp3b hr => exact hinv.frame_at hl (writer := Or.inr rfl) (wexcl := fun _ => Or.inr hr) (hasW := fun _ => rfl)
  case sp3c =>
    exact hinv.frame_at hl (closed := Or.inr ⟨rfl, rfl, rfl, rfl⟩) (postClose := fun _ => Or.inr rfl)
      (hasW := fun _ => hinv.hasw t (hl ▸ rfl))
  case sp3d => exact hinv.frame_at hl (writer := Or.inr rfl) (wexcl := nofun)
  case dselPanic hc | pushPanic hc | tselPanic hc =>
    exact absurd (hinv.inner_open t (hl ▸ rfl)) (by rw [hc]; exact nofun)
  case sp3cPanic hc => exact absurd (hinv.preclose t (hl ▸ rfl)) (by rw [hc]; exact nofun)
  all_goals exact hinv.frame_quiet hl rfl rfl rfl rfl rfl rfl

/-! ## The write side of the lock is only held / awaited by the `Stop` caller -/

def isSp3b : L → Bool | .sp3b => true | _ => false

theorem stopper_of_isSp3b {l : L} (h : isSp3b l = true) : stopper l = true := by
  unfold isSp3b at h
  split at h <;> first | rfl | cases h

structure WInv (g : G) (ls : Tid → L) : Prop where
  writer : g.writer = true → ∃ t, hasW (ls t) = true
  wpending : g.wpending = true → ∃ t, isSp3b (ls t) = true

theorem WInv.step {P : Params} {g g' : G} {ls : Tid → L} {t : Tid} {l : L} {a : Act} {l' : L}
    (hlock : LockInv g ls) (hinv : WInv g ls) (hl : ls t = l) (h : Trans P g l a g' l') : WInv g' (upd ls t l') := by
  induction h
  case sp3a => exact ⟨exists_preserve hl hinv.writer, exists_preserve hl hinv.wpending (hflag := fun _ => Or.inr rfl)⟩
  case sp3b =>
    exact ⟨exists_preserve hl hinv.writer (hflag := fun _ => Or.inr rfl),
      exists_preserve hl hinv.wpending (hflag := nofun) (hkeep := fun _ => Or.inr rfl)⟩
  case sp3cPanic hc => exact absurd (hlock.preclose t (hl ▸ rfl)) (by rw [hc]; exact nofun)
  case sp3d =>
    exact ⟨exists_preserve hl hinv.writer (hflag := nofun) (hkeep := fun _ => Or.inr rfl),
      exists_preserve hl hinv.wpending⟩
  all_goals exact ⟨exists_preserve hl hinv.writer, exists_preserve hl hinv.wpending⟩

/-! ## The state word only moves 0 → 1 → 2: a `Stop` caller whose CAS 0→2 failed knows `state ≠ 0` for ever -/

def isSp1 : L → Bool | .sp1 => true | _ => false

def Sp1Inv (g : G) (ls : Tid → L) : Prop := g.state ≤ 2 ∧ ∀ t, isSp1 (ls t) = true → g.state ≠ 0

theorem Sp1Inv.step {P : Params} {g g' : G} {ls : Tid → L} {t : Tid} {l : L} {a : Act} {l' : L}
    (hinv : Sp1Inv g ls) (hl : ls t = l) (h : Trans P g l a g' l') : Sp1Inv g' (upd ls t l') := by
  induction h
  case sp0lose hs => exact ⟨hinv.1, pcg_preserve hl hinv.2 (hnew := fun _ => Or.inr hs)⟩
  case st0win => exact ⟨Nat.le_succ 1, pcg_preserve hl hinv.2 (hQ := fun _ => Nat.succ_ne_zero 0)⟩
  case sp0win | sp1win => exact ⟨Nat.le_refl 2, pcg_preserve hl hinv.2 (hQ := fun _ => Nat.succ_ne_zero 1)⟩
  all_goals exact ⟨hinv.1, pcg_preserve hl hinv.2⟩

structure CountInv (P : Params) (g : G) (ls : Tid → L) : Prop where
  wg : ∃ f e, Counts fixedLive ls f ∧ Counts expPre ls e ∧ g.wg = ((f + e + g.spawnFixed + g.spawnExp : Nat) : Int)
  exp : ∃ e x s d, Counts expPre ls e ∧ Counts isEexit2 ls x ∧ Counts isDspawn ls s ∧ Counts isDundo ls d ∧
      g.expanded = ((e + x + s + d + g.spawnExp : Nat) : Int) ∧ e + x + s + g.spawnExp ≤ P.limit
  -- `k` counts the `Start` callers between their CAS 0→1 and `wg.Add`: at most one, and then no fixed worker exists yet
  fixed : ∃ f k, Counts fixedLive ls f ∧ Counts isSt1 ls k ∧
      ((k = 0 ∧ f + g.spawnFixed ≤ P.nworker) ∨ (k = 1 ∧ f + g.spawnFixed = 0)) ∧
      (g.state = 0 → f + g.spawnFixed + k = 0)

/-! Each counter obeys a conservation law: the counter minus the number of threads (and pending spawns) it stands for
is not changed by any step.  `Counts.upd_eq` turns the laws into the new counts.  In each proof the constructors named
are those that write the counter or move the acting thread between the classes counted; for every other step the two
sides reduce to the same term. -/

theorem Counts.upd_eq {p : L → Bool} {ls : Tid → L} {n : Nat} (h : Counts p ls n) (t : Tid) (l' : L) :
    ∃ n', Counts p (Garr.Conc.upd ls t l') n' ∧ n' + (p (ls t)).toNat = n + (p l').toNat := by
  refine ⟨_, h.upd t l', ?_⟩
  cases hp : p (ls t)
  · simp
  · have := h.pos t hp
    simp only [Bool.toNat_true]; omega

variable {P : Params} {g g' : G} {l l' : L} {a : Act}

theorem Trans.wg_law (h : Trans P g l a g' l') :
    g'.wg + ((g.spawnFixed + g.spawnExp + (fixedLive l).toNat + (expPre l).toNat : Nat) : Int) =
    g.wg + ((g'.spawnFixed + g'.spawnExp + (fixedLive l').toNat + (expPre l').toNat : Nat) : Int) := by
  induction h
  case beFixed | beExp | dspawn | w0done | eexit | st1 =>
    dsimp only [fixedLive, expPre, Bool.toNat_false, Bool.toNat_true] <;> omega
  all_goals rfl

theorem Trans.expanded_law (h : Trans P g l a g' l') :
    g'.expanded + ((g.spawnExp + (expPre l).toNat + (isEexit2 l).toNat + (isDspawn l).toNat + (isDundo l).toNat : Nat) : Int) =
    g.expanded + ((g'.spawnExp + (expPre l').toNat + (isEexit2 l').toNat + (isDspawn l').toNat + (isDundo l').toNat : Nat) : Int) := by
  induction h
  case beExp | dresSpawn | dresUndo | dspawn | dundo | eexit | eexit2 =>
    dsimp only [expPre, isEexit2, isDspawn, isDundo, Bool.toNat_false, Bool.toNat_true] <;> omega
  all_goals rfl

/-- the number of expanded workers (spawned, reserved, or running) only grows at `dres`, below the limit -/
theorem Trans.expanded_bound (h : Trans P g l a g' l') :
    g'.spawnExp + (expPre l').toNat + (isEexit2 l').toNat + (isDspawn l').toNat ≤
        g.spawnExp + (expPre l).toNat + (isEexit2 l).toNat + (isDspawn l).toNat ∨
      (g'.spawnExp + (expPre l').toNat + (isEexit2 l').toNat + (isDspawn l').toNat =
        g.spawnExp + (expPre l).toNat + (isEexit2 l).toNat + (isDspawn l).toNat + 1 ∧ g.expanded + 1 ≤ (P.limit : Int)) := by
  induction h
  case beExp | dresSpawn | dspawn | eexit | eexit2 =>
    dsimp only [expPre, isEexit2, isDspawn, Bool.toNat_false, Bool.toNat_true] <;> omega
  all_goals exact Or.inl (Nat.le_refl _)

/-- fixed workers: `Start` at `st1` adds `nworker` of them, the CAS 0→1 leads to `st1`, no other step adds one or
leaves state 0 without passing `st1` or stopping -/
theorem Trans.fixed_law (h : Trans P g l a g' l') :
    ((isSt1 l).toNat = 1 ∧ (isSt1 l').toNat = 0 ∧ g'.state = g.state ∧
      g'.spawnFixed + (fixedLive l').toNat = g.spawnFixed + (fixedLive l).toNat + P.nworker) ∨
    ((isSt1 l).toNat = 0 ∧ (isSt1 l').toNat = 1 ∧ g.state = 0 ∧ g'.state = 1 ∧
      g'.spawnFixed + (fixedLive l').toNat = g.spawnFixed + (fixedLive l).toNat) ∨
    ((isSt1 l).toNat = 0 ∧ (isSt1 l').toNat = 0 ∧ (g'.state = g.state ∨ g'.state = 2) ∧
      g'.spawnFixed + (fixedLive l').toNat ≤ g.spawnFixed + (fixedLive l).toNat) := by
  induction h
  case beFixed | st0win | st1 | sp0win | sp1win | w0done =>
    dsimp only [isSt1, fixedLive, Bool.toNat_false, Bool.toNat_true] <;> omega
  all_goals exact Or.inr (Or.inr ⟨rfl, rfl, Or.inl rfl, Nat.le_refl _⟩)

variable {ls : Tid → L} {t : Tid}

theorem CountInv.step (hinv : CountInv P g ls) (hl : ls t = l) (h : Trans P g l a g' l') :
    CountInv P g' (upd ls t l') := by
  subst hl
  refine ⟨?_, ?_, ?_⟩
  · obtain ⟨f, e, hf, he, hwg⟩ := hinv.wg
    obtain ⟨f', hf', _⟩ := hf.upd_eq t l'
    obtain ⟨e', he', _⟩ := he.upd_eq t l'
    have := h.wg_law
    exact ⟨f', e', hf', he', by omega⟩
  · obtain ⟨e, x, s, d, he, hx, hs, hd, hexp, hlim⟩ := hinv.exp
    obtain ⟨e', he', _⟩ := he.upd_eq t l'
    obtain ⟨x', hx', _⟩ := hx.upd_eq t l'
    obtain ⟨s', hs', _⟩ := hs.upd_eq t l'
    obtain ⟨d', hd', _⟩ := hd.upd_eq t l'
    have := h.expanded_law
    refine ⟨e', x', s', d', he', hx', hs', hd', by omega, ?_⟩
    rcases h.expanded_bound with h2 | ⟨h2, h3⟩ <;> omega
  · obtain ⟨f, k, hf, hk, hfix, hst⟩ := hinv.fixed
    obtain ⟨f', hf', _⟩ := hf.upd_eq t l'
    obtain ⟨k', hk', _⟩ := hk.upd_eq t l'
    refine ⟨f', k', hf', hk', ?_⟩
    rcases h.fixed_law with h1 | h1 | h1
    · exact ⟨Or.inl (by omega), by omega⟩
    · exact ⟨Or.inr (by omega), by omega⟩
    · rcases hfix with h2 | h2
      · exact ⟨Or.inl (by omega), by omega⟩
      · exact ⟨Or.inr (by omega), by omega⟩

end Garr.Pool
