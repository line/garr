import Garr.Pool.Count
/-!
# Worker-pool model: what no step undoes

`StepMono g g'` collects the parts of the shared state that only move one way: the state word never goes down and never
leaves 2, a done pool context stays done, a closed queue stays closed, virtual time does not run backwards, tasks are
only added, an existing task keeps its context kind, and a cancelled / released task stays so.  `Trans.mono` is the one case analysis; everything else is read off it.
-/
namespace Garr.Pool
open Garr.Conc

structure StepMono (g g' : G) : Prop where
  state : g.state ≤ g'.state
  state2 : g.state = 2 → g'.state = 2
  ctxDone : g.ctxDone = true → g'.ctxDone = true
  closed : g.closed = true → g'.closed = true
  now : g.now ≤ g'.now
  len : g.tasks.length ≤ g'.tasks.length
  ctx : ∀ u, u < g.tasks.length → (g'.task u).ctx = (g.task u).ctx
  tdone : ∀ u, (g.task u).tdone = true → (g'.task u).tdone = true
  released : ∀ u, (g.task u).released = true → (g'.task u).released = true

namespace StepMono

theorem of_tasks {g g' : G} (ht : g'.tasks = g.tasks) (hs : g'.state = g.state ∨ (g.state < g'.state ∧ g'.state ≤ 2))
    (hc : g.ctxDone = true → g'.ctxDone = true) (hcl : g.closed = true → g'.closed = true) (hn : g.now ≤ g'.now) :
    StepMono g g' := by
  have : ∀ v, g'.task v = g.task v := fun v => by simp only [G.task, ht]
  exact ⟨by omega, fun h => by omega, hc, hcl, hn, by rw [ht]; exact Nat.le_refl _, fun u _ => by rw [this],
    fun u h => by rw [this]; exact h, fun u h => by rw [this]; exact h⟩

theorem refl (g : G) : StepMono g g := of_tasks rfl (Or.inl rfl) id id (Nat.le_refl _)

theorem trans {a b c : G} (h1 : StepMono a b) (h2 : StepMono b c) : StepMono a c :=
  ⟨Nat.le_trans h1.state h2.state, fun h => h2.state2 (h1.state2 h), fun h => h2.ctxDone (h1.ctxDone h),
   fun h => h2.closed (h1.closed h), Nat.le_trans h1.now h2.now, Nat.le_trans h1.len h2.len,
   fun u hu => (h2.ctx u (Nat.lt_of_lt_of_le hu h1.len)).trans (h1.ctx u hu),
   fun u h => h2.tdone u (h1.tdone u h), fun u h => h2.released u (h1.released u h)⟩

theorem of_set {g g' : G} (u : Nat) (x : Task) (ht : g'.tasks = g.tasks.set u x) (hs : g'.state = g.state)
    (hc : g'.ctxDone = g.ctxDone) (hcl : g'.closed = g.closed) (hn : g'.now = g.now) (hx : x.ctx = (g.task u).ctx)
    (hd : (g.task u).tdone = true → x.tdone = true) (hr : (g.task u).released = true → x.released = true) :
    StepMono g g' := by
  have hv := task_of_set ht
  refine ⟨by rw [hs]; exact Nat.le_refl _, fun h => by rw [hs]; exact h, fun h => by rw [hc]; exact h,
    fun h => by rw [hcl]; exact h, by rw [hn]; exact Nat.le_refl _,
    by rw [ht, List.length_set]; exact Nat.le_refl _, fun v _ => ?_, fun v h => ?_, fun v h => ?_⟩
  all_goals
    rw [hv]; split
    · rename_i hh; obtain ⟨rfl, _⟩ := hh; first | exact hx | exact hd h | exact hr h
    · first | rfl | exact h

theorem newTask (g : G) (c : CtxKind) : StepMono g (newTask g c) := by
  have hd : g.task g.tasks.length = { ctx := .never } := task_default (Nat.le_refl _)
  refine ⟨Nat.le_refl _, id, id, id, Nat.le_refl _, by rw [newTask_length]; exact Nat.le_succ _, fun v hv => ?_, fun v h => ?_,
    fun v h => ?_⟩
  all_goals rw [newTask_task]; split
  · omega
  · rfl
  · rename_i hh; rw [hh, hd] at h; cases h
  · exact h
  · rename_i hh; rw [hh, hd] at h; cases h
  · exact h

theorem taskCtxDone {g g' : G} (h : StepMono g g') (u : Nat) (hd : taskCtxDone g u = true) :
    taskCtxDone g' u = true := by
  unfold Garr.Pool.taskCtxDone at hd ⊢
  rcases Nat.lt_or_ge u g.tasks.length with hu | hu
  · rw [h.ctx u hu]
    cases hk : (g.task u).ctx <;> rw [hk] at hd
    · exact h.ctxDone hd
    · exact h.tdone u hd
    · cases hd
  · rw [task_default hu] at hd; cases hd

end StepMono

/-- the one case analysis: most steps touch neither the task table nor the scalar fields `state`, `ctxDone`, `closed`, `now`; the CASes of `Start` and
`Stop` raise the state word, `cancel()` sets the pool context, `close` closes the queue, the environment advances time;
a call allocates a task; the rest writes one field of one task. -/
theorem Trans.mono {P : Params} {g g' : G} {l l' : L} {a : Act} (h : Trans P g l a g' l') : StepMono g g' := by
  -- `induction`, not `cases`: `Trans` is not recursive, and with all its indices variables the recursor applies as it
  -- stands, whereas `cases` solves index equations for every constructor
  induction h with
  | callDo | callTry => exact .newTask _ _
  | cancelTask => exact .of_set _ _ rfl rfl rfl rfl rfl rfl (fun _ => rfl) id
  | finish => exact .of_set _ _ rfl rfl rfl rfl rfl rfl id (fun _ => rfl)
  | d3 | pushPool | pushTask | t3locked | t3free | tselPool | tselTask | wsend | esend | sp5s
  | dselEnq | pushEnq | tselEnq | w0take | e0take => exact .of_set _ _ rfl rfl rfl rfl rfl rfl id id
  | st0win h0 | sp0win h0 => exact .of_tasks rfl (Or.inr ⟨by rw [h0]; exact Nat.le_of_ble_eq_true rfl, Nat.le_of_ble_eq_true rfl⟩) id id (Nat.le_refl _)
  | sp1win h1 => exact .of_tasks rfl (Or.inr ⟨by rw [h1]; exact Nat.le_of_ble_eq_true rfl, Nat.le_of_ble_eq_true rfl⟩) id id (Nat.le_refl _)
  | cancelParent | sp2 => exact .of_tasks rfl (Or.inl rfl) (fun _ => rfl) id (Nat.le_refl _)
  | sp3c => exact .of_tasks rfl (Or.inl rfl) id (fun _ => rfl) (Nat.le_refl _)
  | advance => exact .of_tasks rfl (Or.inl rfl) id id (Nat.le_add_right _ _)
  | _ => exact .of_tasks rfl (Or.inl rfl) id id (Nat.le_refl _)

theorem Trans.state2 {P : Params} {g g' : G} {l l' : L} {a : Act} (h : Trans P g l a g' l') (h2 : g.state = 2) :
    g'.state = 2 :=
  h.mono.state2 h2

end Garr.Pool
