import Garr.Conc
/-!
# FINDINGS (C08): `Stop` racing with `Start` in the code before commits eaca25b and 7805de8

Before `eaca25b` (`fix: Start racing with Stop misused the WaitGroup`) `Start` was
`if CAS(&state, 0, 1) { wg.Add(n); for … { go worker() } }` without any lock.  A `Stop` running between the CAS and the
`wg.Add` wins its CAS 1→2, cancels, closes the queue and passes `wg.Wait()` with the counter at 0; the workers are
spawned afterwards, and one of them may receive a task that was accepted before the pool was started (`Do` on a pool
created with `DisableAutoStart`) from the closed, non-empty queue while `Stop` is on its way out.  So `Stop` returns while
a task is still being executed, its waiter has no result yet, and `wg ≠ 0`: `stop_drains` (C08) is false of that code.
The Go race detector reports the same interleaving as `wg.Add` concurrent with `wg.Wait`.

This file contains a copy of the pool model for the code before the two fixes (the differences to
`Garr/Pool/Model.lean`: the two-step, lock-free `Start` — `st0` = CAS 0→1, `st1` = `wg.Add(n)` + spawn — and the order
of `Stop`'s two CASes, 1→2 first) and the `decide`-checked schedules `start_stop_race_witness` and, for the second
defect (commit 7805de8, `Stop` returning without stopping), `stop_noop_witness`.
-/
namespace Garr.Pool.Old
open Garr.Conc

structure Params where
  nworker : Nat
  limit : Nat          -- ExpandableLimit (normalised, ≥ 0)
  lifetime : Nat       -- ExpandedLifetime in virtual-time units (> 0)
deriving Repr, DecidableEq

/-- which context a task carries -/
inductive CtxKind | pool | own | never    -- nil / p.ctx ; its own cancellable context ; context.Background()
deriving Repr, DecidableEq, Hashable

inductive Res | val | errPool | errTask   -- what was sent on the task's result channel
deriving Repr, DecidableEq, Hashable

structure Task where
  ctx : CtxKind
  tdone : Bool := false      -- the task's own context is cancelled
  exec : Nat := 0            -- ghost: executor invocations
  released : Bool := false   -- the environment has released the task's gate: its executor returns as soon as it runs
  results : List Res := []   -- everything ever sent on the result channel (capacity 1: a 2nd send blocks)
  enq : Bool := false        -- ghost: the task was put into the queue
deriving Repr, DecidableEq, Hashable

structure G where
  state : Nat := 0                -- 0 not started, 1 started, 2 stopped
  ctxDone : Bool := false         -- pool context done
  q : List Nat := []              -- task queue buffer (capacity 1), oldest first
  closed : Bool := false
  expanded : Int := 0
  wg : Int := 0
  spawnFixed : Nat := 0           -- `go p.worker()` issued, goroutine not yet running
  spawnExp : Nat := 0
  readers : Nat := 0              -- submitLock
  writer : Bool := false
  wpending : Bool := false
  tasks : List Task := []
  now : Nat := 0
  panics : Nat := 0               -- ghost: number of goroutines that panicked
deriving Repr, DecidableEq, Hashable

inductive L
  | idle
  -- Do(u): RLock, load state, [refuse], [select-default, reserve, spawn/undo], push, RUnlock
  | d1 (u : Nat) | d2 (u : Nat) | d3 (u : Nat) | dsel (u : Nat) | dres (u : Nat) | dspawn (u : Nat) | dundo (u : Nat)
  | push (u : Nat) | d9 (u : Nat)
  -- TryDo(u): TryRLock, load state, [refuse], select-with-default, RUnlock
  | t1 (u : Nat) | t2 (u : Nat) | t3 (u : Nat) (locked : Bool) | tsel (u : Nat) | t9 (u : Nat) (r : Bool)
  -- fixed worker
  | w0 | wexec (u : Nat) | wsend (u : Nat) | wdone
  -- expanded worker (timer deadline)
  | e0 (dl : Nat) | eexec (u : Nat) | esend (u : Nat) | eexit | eexit2
  -- Start / Stop
  | st0 | st1
  | sp0 | sp1 | sp2 | sp3a | sp3b | sp3c | sp3d | sp4 | sp5 | sp5s (u : Nat)
  | exited
  | panicked
deriving DecidableEq, Repr, Hashable

inductive Act
  | callDo (ctx : CtxKind) | callTry (ctx : CtxKind) | callStart | callStop
  | beFixed | beExp                      -- a spawned goroutine starts running
  | tau | choose (k : Nat)               -- internal step / select choice
  | finish (u : Nat)                     -- environment: the gate of task u is released (its executor may return)
  | cancelTask (u : Nat) | cancelParent
  | advance (d : Nat)                    -- environment: virtual time passes
deriving Repr, DecidableEq

inductive Obs
  | retDo (u : Nat) | retTry (u : Nat) (b : Bool) | retStop | retStart
  | execStart (u : Nat)                  -- the executor of u was invoked
deriving Repr, DecidableEq

def G.task (g : G) (u : Nat) : Task := (g.tasks[u]?).getD { ctx := .never }
def G.setTask (g : G) (u : Nat) (t : Task) : G := { g with tasks := g.tasks.set u t }

def taskCtxDone (g : G) (u : Nat) : Bool :=
  match (g.task u).ctx with
  | .pool => g.ctxDone
  | .own => (g.task u).tdone
  | .never => false

def newTask (g : G) (c : CtxKind) : G := { g with tasks := g.tasks ++ [{ ctx := c }] }

/-- send on the task's result channel (capacity 1); `none` = would block -/
def sendRes (g : G) (u : Nat) (r : Res) : Option G :=
  let t := g.task u
  if t.results.length < 1 then some (g.setTask u { t with results := t.results ++ [r] }) else none

def enqueue (g : G) (u : Nat) : G := (g.setTask u { g.task u with enq := true }) |> fun g' => { g' with q := g'.q ++ [u] }

def runTask (g : G) (u : Nat) (rest : List Nat) : G :=
  let t := g.task u
  { (g.setTask u { t with exec := t.exec + 1 }) with q := rest }

/-- the three communicating cases shared by `push` and `TryDo`; `none` = that case is not ready.
`some (g', true)` = the case panics. -/
def selCase (g : G) (u : Nat) (k : Nat) : Option (G × Bool) :=
  match k with
  | 0 => if g.ctxDone then (sendRes g u .errPool).map (·, false) else none
  | 1 => if taskCtxDone g u then (sendRes g u .errTask).map (·, false) else none
  | 2 => if g.closed then some ({ g with panics := g.panics + 1 }, true)          -- send on closed channel
         else if g.q.length < 1 then some (enqueue g u, false) else none
  | _ => none

def step (P : Params) (_t : Tid) (g : G) : L → Act → Option (G × L × List Obs)
  | .idle, .callDo c => some (newTask g c, .d1 g.tasks.length, [])
  | .idle, .callTry c => some (newTask g c, .t1 g.tasks.length, [])
  | .idle, .callStart => some (g, .st0, [])
  | .idle, .callStop => some (g, .sp0, [])
  | .idle, .beFixed => if 0 < g.spawnFixed then some ({ g with spawnFixed := g.spawnFixed - 1 }, .w0, []) else none
  | .idle, .beExp => if 0 < g.spawnExp then some ({ g with spawnExp := g.spawnExp - 1 }, .e0 (g.now + P.lifetime), []) else none
  | .idle, .cancelTask u => some (g.setTask u { g.task u with tdone := true }, .idle, [])
  | .idle, .cancelParent => some ({ g with ctxDone := true }, .idle, [])
  | .idle, .advance d => some ({ g with now := g.now + d }, .idle, [])
  | .idle, .finish u => if (g.task u).released then none else some (g.setTask u { g.task u with released := true }, .idle, [])
  -- Do
  | .d1 u, .tau => if g.writer || g.wpending then none else some ({ g with readers := g.readers + 1 }, .d2 u, [])
  | .d2 u, .tau =>
      if g.state = 2 then some (g, .d3 u, [])
      else if P.limit = 0 then some (g, .push u, []) else some (g, .dsel u, [])
  | .d3 u, .tau => (sendRes g u .errPool).map (·, .d9 u, [])
  | .dsel u, .tau =>                                   -- select { case queue <- t: default: }
      if g.closed then some ({ g with panics := g.panics + 1 }, .panicked, [])
      else if g.q.length < 1 then some (enqueue g u, .d9 u, [])
      else some (g, .dres u, [])
  | .dres u, .tau =>
      let g' := { g with expanded := g.expanded + 1 }
      if g'.expanded ≤ (P.limit : Int) then some (g', .dspawn u, []) else some (g', .dundo u, [])
  | .dspawn u, .tau => some ({ g with wg := g.wg + 1, spawnExp := g.spawnExp + 1 }, .push u, [])
  | .dundo u, .tau => some ({ g with expanded := g.expanded - 1 }, .push u, [])
  | .push u, .choose k =>
      match selCase g u k with
      | some (g', true) => some (g', .panicked, [])
      | some (g', false) => some (g', .d9 u, [])
      | none => none
  | .d9 u, .tau => some ({ g with readers := g.readers - 1 }, .idle, [.retDo u])
  -- TryDo
  | .t1 u, .tau =>
      if g.writer || g.wpending then some (g, .t3 u false, []) else some ({ g with readers := g.readers + 1 }, .t2 u, [])
  | .t2 u, .tau => if g.state = 2 then some (g, .t3 u true, []) else some (g, .tsel u, [])
  | .t3 u locked, .tau =>
      (sendRes g u .errPool).map (fun g' => (g', if locked then .t9 u false else .idle, if locked then [] else [.retTry u false]))
  | .tsel u, .choose k =>
      if k = 3 then
        -- default: only when no communication can proceed
        if (selCase g u 0).isNone && (selCase g u 1).isNone && (selCase g u 2).isNone
        then some (g, .t9 u false, []) else none
      else match selCase g u k with
        | some (g', true) => some (g', .panicked, [])
        | some (g', false) => some (g', .t9 u (k == 2), [])
        | none => none
  | .t9 u r, .tau => some ({ g with readers := g.readers - 1 }, .idle, [.retTry u r])
  -- fixed worker: `for task := range queue { task.Execute() }; wg.Done()`
  | .w0, .tau =>
      match g.q with
      | u :: rest => some (runTask g u rest, .wexec u, [.execStart u])
      | [] => if g.closed then some ({ g with wg := g.wg - 1 }, .wdone, []) else none
  | .wexec u, .tau => if (g.task u).released then some (g, .wsend u, []) else none
  | .wsend u, .tau => (sendRes g u .val).map (·, .w0, [])
  | .wdone, .tau => some (g, .exited, [])
  -- expanded worker
  | .e0 dl, .choose k =>
      if k = 0 then
        match g.q with
        | u :: rest => some (runTask g u rest, .eexec u, [.execStart u])
        | [] => if g.closed then some (g, .eexit, []) else none
      else if k = 1 then (if dl ≤ g.now then some (g, .eexit, []) else none)
      else none
  | .eexec u, .tau => if (g.task u).released then some (g, .esend u, []) else none
  | .esend u, .tau => (sendRes g u .val).map (·, .e0 (g.now + P.lifetime), [])
  | .eexit, .tau => some ({ g with wg := g.wg - 1 }, .eexit2, [])
  | .eexit2, .tau => some ({ g with expanded := g.expanded - 1 }, .exited, [])
  -- Start
  | .st0, .tau =>
      if g.state = 0 then some ({ g with state := 1 }, .st1, []) else some (g, .idle, [.retStart])
  | .st1, .tau => some ({ g with wg := g.wg + P.nworker, spawnFixed := g.spawnFixed + P.nworker }, .idle, [.retStart])
  -- Stop
  | .sp0, .tau => if g.state = 1 then some ({ g with state := 2 }, .sp2, []) else some (g, .sp1, [])
  | .sp1, .tau => if g.state = 0 then some ({ g with state := 2 }, .sp2, []) else some (g, .idle, [.retStop])
  | .sp2, .tau => some ({ g with ctxDone := true }, .sp3a, [])
  | .sp3a, .tau => if g.writer || g.wpending then none else some ({ g with wpending := true }, .sp3b, [])
  | .sp3b, .tau => if g.readers = 0 then some ({ g with wpending := false, writer := true }, .sp3c, []) else none
  | .sp3c, .tau => if g.closed then some ({ g with panics := g.panics + 1 }, .panicked, []) else some ({ g with closed := true }, .sp3d, [])
  | .sp3d, .tau => some ({ g with writer := false }, .sp4, [])
  | .sp4, .tau => if g.wg = 0 then some (g, .sp5, []) else none
  | .sp5, .tau =>
      match g.q with
      | u :: rest => some ({ g with q := rest }, .sp5s u, [])
      | [] => some (g, .idle, [.retStop])           -- the queue is closed here: range ends
  | .sp5s u, .tau => (sendRes g u .errPool).map (·, .sp5, [])
  | _, _ => none

def M (P : Params) : Machine where
  G := G
  L := L
  Act := Act
  Obs := Obs
  init := {}
  idle := .idle
  step := step P

def P10 : Params := { nworker := 1, limit := 0, lifetime := 1 }

def lOf (P : Params) (c : Config (M P)) (t : Tid) : L := c.l t
def gOf (P : Params) (c : Config (M P)) : G := c.g
def logOf (P : Params) (r : Config (M P) × List (Tid × (M P).Obs)) : List (Tid × Obs) := r.2

/-- `Do` on a pool created with `DisableAutoStart`, then `Start` and `Stop` concurrently -/
def raceTrace : List (Tid × Act) :=
  [ (3, .callDo .never), (3, .tau), (3, .tau), (3, .choose 2), (3, .tau),   -- Do(task 0): accepted into the buffer, returns
    (1, .callStart), (1, .tau),                                              -- Start: CAS 0→1 …
    (2, .callStop), (2, .tau), (2, .tau),                                    -- Stop: CAS 1→2, cancel
    (2, .tau), (2, .tau), (2, .tau), (2, .tau),                              -- Stop: Lock (2 steps), close, Unlock
    (2, .tau),                                                               -- Stop: wg.Wait() returns, the counter is 0
    (1, .tau),                                                               -- … Start: wg.Add(1); go worker()
    (4, .beFixed), (4, .tau),                                                -- the worker receives task 0 from the closed, non-empty queue
    (2, .tau) ]                                                              -- Stop: queue empty and closed, the drain loop ends, Stop returns

/-- after `raceTrace`, `Stop` has returned (thread 2 is idle again and has emitted `retStop`), nobody is inside `Start` or
`Stop` any more, but a worker (thread 4) is inside the executor of task 0, the accepted task 0 has no result, and
`wg = 1` -/
theorem start_stop_race_witness :
    let r := run (M P10) (Config.init (M P10)) raceTrace
    (2, Obs.retStop) ∈ logOf P10 r ∧ (gOf P10 r.1).state = 2 ∧
    lOf P10 r.1 1 = .idle ∧ lOf P10 r.1 2 = .idle ∧ lOf P10 r.1 3 = .idle ∧
    lOf P10 r.1 4 = .wexec 0 ∧
    ((gOf P10 r.1).task 0).enq = true ∧ ((gOf P10 r.1).task 0).exec = 1 ∧ ((gOf P10 r.1).task 0).results = [] ∧
    (gOf P10 r.1).wg = 1 ∧ (gOf P10 r.1).q = [] ∧ (gOf P10 r.1).closed = true := by
  decide

/-- the race step itself: after the first 9 events `Stop` has won its CAS 1→2 while `Start` (thread 1) is still
between its CAS and its `wg.Add` -/
theorem start_stop_race_point :
    let c := (run (M P10) (Config.init (M P10)) (raceTrace.take 9)).1
    (gOf P10 c).state = 2 ∧ lOf P10 c 1 = .st1 ∧ lOf P10 c 2 = .sp2 ∧ (gOf P10 c).wg = 0 := by
  decide

/-- … and the execution goes on after `Stop` returned: the executor of task 0 finishes and delivers its value -/
theorem start_stop_race_completes :
    let r := run (M P10) (Config.init (M P10)) (raceTrace ++ [(0, .finish 0), (4, .tau), (4, .tau), (4, .tau), (4, .tau)])
    ((gOf P10 r.1).task 0).results = [.val] ∧ lOf P10 r.1 4 = .exited ∧ (gOf P10 r.1).wg = 0 := by
  decide

/-! ### Second defect of the old code (fixed by commit 7805de8): `Stop` returning without stopping

`Stop` tried `CAS(1→2)` and then `CAS(0→2)`.  A `Start` whose `CAS(0→1)` falls between the two attempts makes both
fail: `Stop` returns having done nothing while the pool keeps running. -/

def noopTrace : List (Tid × Act) :=
  [ (2, .callStop), (2, .tau),            -- Stop: CAS 1→2 fails, the state is 0
    (1, .callStart), (1, .tau),           -- Start: CAS 0→1
    (2, .tau),                            -- Stop: CAS 0→2 fails, the state is 1; Stop returns
    (1, .tau) ]                           -- Start: wg.Add(1); go worker()

/-- after `noopTrace`, `Stop` has returned (`retStop` emitted, thread 2 idle) but the pool is running: state 1, context
not cancelled, queue open, a worker goroutine spawned -/
theorem stop_noop_witness :
    let r := run (M P10) (Config.init (M P10)) noopTrace
    (2, Obs.retStop) ∈ logOf P10 r ∧ lOf P10 r.1 2 = .idle ∧ lOf P10 r.1 1 = .idle ∧
    (gOf P10 r.1).state = 1 ∧ (gOf P10 r.1).ctxDone = false ∧ (gOf P10 r.1).closed = false ∧
    (gOf P10 r.1).spawnFixed = 1 ∧ (gOf P10 r.1).wg = 1 := by
  decide

end Garr.Pool.Old
