import Garr.Pool.FairSubmit
/-!
# Worker-pool model: the starvation execution

`Exec.ofPolicy` builds an infinite execution from a state-dependent scheduler.  `starvePol` is the starvation
scheduler: a competitor keeps submitting, the worker keeps serving, and each time the worker frees the queue slot the
competitor's send fires before the victim's.  The victim's send is enabled at one position per round only.
About the resulting `starveExec` the file shows: the victim stays at its send for ever (`starve_inv`), the rounds recur
(`starve_round`), and the execution is weakly fair and meets (E1), (E2) (`starve_fair`, `starve_releases`,
`starve_starts`).  `do_started_may_starve` in `Garr/Props/PoolLiveSubmit.lean` puts these together.
-/
namespace Garr.Pool.Fair
open Garr.Conc Garr.Pool Garr.Pool.Progress

variable {P : Params}

def polNext (pol : Config (M P) → Tid × Act) (c : Config (M P)) : Config (M P) := (run (M P) c [pol c]).1

def polMover (pol : Config (M P) → Tid × Act) (c : Config (M P)) : Option (Tid × Act) :=
  if (step P (pol c).1 c.g (c.l (pol c).1) (pol c).2).isSome then some (pol c) else none

def polCfg (pol : Config (M P) → Tid × Act) (c0 : Config (M P)) : Nat → Config (M P)
  | 0 => c0
  | n + 1 => polNext pol (polCfg pol c0 n)

/-- the execution in which, at every position, the thread and action chosen by `pol` are scheduled (a stutter if that
step is not enabled) -/
def Exec.ofPolicy (pol : Config (M P) → Tid × Act) (c0 : Config (M P)) (h0 : Reach (M P) c0) : Exec P where
  c := polCfg pol c0
  mover := fun n => polMover pol (polCfg pol c0 n)
  init := h0
  next := by
    intro n
    rw [show polCfg pol c0 (n + 1) = polNext pol (polCfg pol c0 n) from rfl]
    generalize polCfg pol c0 n = c
    rcases hp : pol c with ⟨t, a⟩
    cases hs : step P t c.g (c.l t) a with
    | none =>
      left
      have hs' : (M P).step t c.g (c.l t) a = none := hs
      refine ⟨by simp [polMover, hp, hs], ?_⟩
      simp only [polNext, hp, run, hs']
    | some r =>
      obtain ⟨g', l', obs⟩ := r
      right
      have hs' : (M P).step t c.g (c.l t) a = some (g', l', obs) := hs
      refine ⟨t, a, g', l', obs, by simp [polMover, hp, hs], hs, ?_⟩
      simp only [polNext, hp, run, hs']

theorem pol_of_trans {pol : Config (M P) → Tid × Act} {c : Config (M P)} {t : Tid} {a : Act} {g' : G} {l' : L}
    (hp : pol c = (t, a)) (htr : Trans P c.g (c.l t) a g' l') :
    polNext pol c = ⟨g', upd c.l t l'⟩ ∧ polMover pol c = some (t, a) := by
  obtain ⟨obs, hs⟩ := trans_step t htr
  have hs' : (M P).step t c.g (c.l t) a = some (g', l', obs) := hs
  refine ⟨?_, by simp [polMover, hp, hs]⟩
  simp only [polNext, hp, run, hs']

/-- a task whose executor has been started is released or still inside its executor -/
def RelInv (c : Config (M P)) : Prop :=
  ∀ u, (c.g.task u).exec = 1 → (c.g.task u).released = true ∨ ∃ t, atExec u (c.l t)

theorem setTask_exec (g : G) (u0 u : Nat) (x : Task) (hc : x.exec = (g.task u0).exec) :
    ((g.setTask u0 x).task u).exec = (g.task u).exec := by
  rw [setTask_task]
  by_cases hh : u = u0 ∧ u0 < g.tasks.length
  · rw [if_pos hh, hh.1]; exact hc
  · rw [if_neg hh]

/-- only taking a task out of the queue starts an executor -/
theorem trans_exec_one {g g' : G} {l l' : L} {a : Act} (h : Trans P g l a g' l') (u : Nat)
    (h1 : (g'.task u).exec = 1) : (g.task u).exec = 1 ∨ atExec u l' := by
  induction h with
  | w0take v | e0take _ v =>
    rw [runTask_task] at h1
    split at h1
    · rename_i hh; right; rw [hh.1]; first | exact Or.inl rfl | exact Or.inr rfl
    · exact Or.inl h1
  | callDo | callTry => rw [newTask_exec] at h1; exact Or.inl h1
  | cancelTask => exact Or.inl (((SameTasks.cancel _ _).exec u).symm.trans h1)
  | finish => exact Or.inl (((SameTasks.finish _ _).exec u).symm.trans h1)
  | d3 | pushPool | pushTask | t3locked | t3free | tselPool | tselTask | wsend | esend | sp5s =>
    rw [send_exec] at h1; exact Or.inl h1
  | dselEnq | pushEnq | tselEnq => rw [enqueue_exec] at h1; exact Or.inl h1
  | _ => exact Or.inl h1

theorem trans_atExec {g g' : G} {l l' : L} {a : Act} (h : Trans P g l a g' l') (u : Nat) (hl : atExec u l) :
    (g.task u).released = true := by
  rcases hl with hl | hl <;> subst hl <;> cases h <;> assumption

theorem relinv_reach (P : Params) : ∀ c, Reach (M P) c → RelInv c := by
  refine inv_of_reach (M P) RelInv ?_ ?_
  · intro u h
    simp [Config.init, M, G.task] at h
  · intro c t a g' l' obs ih hs u h1
    have htr : Trans P c.g (c.l t) a g' l' := step_trans (t := t) hs
    have h1' : (g'.task u).exec = 1 := h1
    show (g'.task u).released = true ∨ ∃ t', atExec u (upd c.l t l' t')
    rcases trans_exec_one htr u h1' with h0 | h0
    · rcases ih u h0 with hr | ⟨t0, ht0⟩
      · exact Or.inl (trans_released htr u hr)
      · rcases upd_eq_or c.l t l' t0 with ⟨rfl, _⟩ | ⟨_, ea⟩
        · exact Or.inl (trans_released htr u (trans_atExec htr u ht0))
        · exact Or.inr ⟨t0, (congrArg (atExec u) ea).mpr ht0⟩
    · exact Or.inr ⟨t, (congrArg (atExec u) (upd_same _ _ _)).mpr h0⟩

open Garr.Props.Pool (P10 lOf gOf)

/-- worker = thread 1, competitor = thread 2, victim = thread 3 (blocked in the send of `Do(1)`), thread 0 = harness -/
def starvePol (c : Config (M P10)) : Tid × Act :=
  match c.l 2, c.l 1 with
  | .idle, .w0 => (2, .callDo .never)
  | .d1 _, _ => (2, .tau)
  | .d2 _, _ => (2, .tau)
  | .push _, .w0 => (1, .tau)
  | .push _, _ => (2, .choose 2)
  | .d9 _, _ => (2, .tau)
  | .idle, .wexec v => if (c.g.task v).released then (1, .tau) else (0, .finish v)
  | .idle, .wsend _ => (1, .tau)
  | _, _ => (0, .tau)

/-- the invariant of the starvation execution: the pool runs with its flags frozen, the victim sits at its send, and
only the worker, the competitor and the victim are ever away from `idle` -/
structure StarveInv (c : Config (M P10)) : Prop where
  st : c.g.state = 1
  cl : c.g.closed = false
  wr : c.g.writer = false
  wp : c.g.wpending = false
  cx : c.g.ctxDone = false
  sf : c.g.spawnFixed = 0
  se : c.g.spawnExp = 0
  vic : c.l 3 = .push 1
  vctx : (c.g.task 1).ctx = .never
  oth : ∀ t, t ≠ 1 → t ≠ 2 → t ≠ 3 → c.l t = .idle

/-- the nine phases of a round -/
def PhaseAt (c : Config (M P10)) : Nat → Prop
  | 0 => c.l 1 = .w0 ∧ c.l 2 = .idle ∧ c.g.q ≠ []
  | 1 => c.l 1 = .w0 ∧ (∃ w, c.l 2 = .d1 w) ∧ c.g.q ≠ []
  | 2 => c.l 1 = .w0 ∧ (∃ w, c.l 2 = .d2 w) ∧ c.g.q ≠ []
  | 3 => c.l 1 = .w0 ∧ (∃ w, c.l 2 = .push w) ∧ c.g.q ≠ []
  | 4 => (∃ v, c.l 1 = .wexec v) ∧ (∃ w, c.l 2 = .push w) ∧ c.g.q = []
  | 5 => (∃ v, c.l 1 = .wexec v) ∧ (∃ w, c.l 2 = .d9 w) ∧ c.g.q ≠ []
  | 6 => (∃ v, c.l 1 = .wexec v ∧ (c.g.task v).released = false) ∧ c.l 2 = .idle ∧ c.g.q ≠ []
  | 7 => (∃ v, c.l 1 = .wexec v ∧ (c.g.task v).released = true) ∧ c.l 2 = .idle ∧ c.g.q ≠ []
  | 8 => (∃ v, c.l 1 = .wsend v) ∧ c.l 2 = .idle ∧ c.g.q ≠ []
  | _ => False

abbrev snext (c : Config (M P10)) : Config (M P10) := polNext starvePol c
abbrev smover (c : Config (M P10)) : Option (Tid × Act) := polMover starvePol c

/-- one scheduled step of the round: the scheduler picks `(t, a)` with `t` the worker, the competitor, or the harness
returning to `idle`; the step is enabled and leaves the seven frozen fields alone.  Then the step is the one taken, and
`StarveInv` is kept. -/
theorem StarveInv.move {c : Config (M P10)} (hJ : StarveInv c) (hp : PInv P10 c) {t : Tid} {a : Act} {g' : G} {l' : L}
    {l0 : L} (hpol : starvePol c = (t, a)) (hl0 : c.l t = l0) (htr : Trans P10 c.g l0 a g' l')
    (ht : t = 1 ∨ t = 2 ∨ (t = 0 ∧ l' = .idle))
    (hfr : g'.state = c.g.state ∧ g'.closed = c.g.closed ∧ g'.writer = c.g.writer ∧ g'.wpending = c.g.wpending ∧
      g'.ctxDone = c.g.ctxDone ∧ g'.spawnFixed = c.g.spawnFixed ∧ g'.spawnExp = c.g.spawnExp := by
        exact ⟨rfl, rfl, rfl, rfl, rfl, rfl, rfl⟩) :
    snext c = ⟨g', upd c.l t l'⟩ ∧ smover c = some (t, a) ∧ StarveInv (⟨g', upd c.l t l'⟩ : Config (M P10)) := by
  obtain ⟨h1, h2, h3, h4, h5, h6, h7⟩ := hfr
  subst hl0
  refine ⟨(pol_of_trans hpol htr).1, (pol_of_trans hpol htr).2, ?_⟩
  have hlen : 1 < c.g.tasks.length := (hp.task.ok 1).len (Or.inr ⟨3, .pre, by rw [hJ.vic]; rfl⟩)
  refine ⟨h1.trans hJ.st, h2.trans hJ.cl, h3.trans hJ.wr, h4.trans hJ.wp, h5.trans hJ.cx, h6.trans hJ.sf,
    h7.trans hJ.se, ?_, (htr.mono.ctx 1 hlen).trans hJ.vctx, ?_⟩
  · have h3 : (3 : Nat) ≠ t := by rcases ht with h | h | ⟨h, _⟩ <;> subst h <;> decide
    exact (upd_other _ _ _ _ h3).trans hJ.vic
  · intro t' a1 a2 a3
    rcases upd_eq_or c.l t l' t' with ⟨rfl, ea⟩ | ⟨_, ea⟩
    · rcases ht with h | h | ⟨_, h⟩
      · exact absurd h a1
      · exact absurd h a2
      · exact ea.trans h
    · exact ea.trans (hJ.oth t' a1 a2 a3)

/-- one step of the round: `StarveInv` is kept and the phase advances, or goes from 8 back to 0 by a step of the worker.
(After `rw` with the new configuration `⟨g', upd c.l t l'⟩`, the program counters of threads 1 and 2 and the fields of
`g'` are read off by unfolding.) -/
theorem starve_step {c : Config (M P10)} (hJ : StarveInv c) (hp : PInv P10 c) {k : Nat} (hk : PhaseAt c k) :
    StarveInv (snext c) ∧ ∃ k', PhaseAt (snext c) k' ∧ ((k = 8 ∧ k' = 0 ∧ smover c = some (1, .tau)) ∨ k < k') :=
  match k, hk with
  | 0, ⟨h1, h2, hq⟩ => by
    obtain ⟨hn, _, hJ'⟩ := hJ.move hp (t := 2) (by simp [starvePol, h1, h2]) h2
      (Trans.callDo _ .never) (Or.inr (Or.inl rfl))
    rw [hn]
    exact ⟨hJ', 1, ⟨h1, ⟨_, rfl⟩, hq⟩, Or.inr (by decide)⟩
  | 1, ⟨h1, ⟨w, h2⟩, hq⟩ => by
    obtain ⟨hn, _, hJ'⟩ := hJ.move hp (t := 2) (by simp [starvePol, h1, h2]) h2
      (Trans.d1 _ w hJ.wr hJ.wp) (Or.inr (Or.inl rfl))
    rw [hn]
    exact ⟨hJ', 2, ⟨h1, ⟨_, rfl⟩, hq⟩, Or.inr (by decide)⟩
  | 2, ⟨h1, ⟨w, h2⟩, hq⟩ => by
    obtain ⟨hn, _, hJ'⟩ := hJ.move hp (t := 2) (by simp [starvePol, h1, h2]) h2
      (Trans.d2push _ w (by rw [hJ.st]; decide) rfl) (Or.inr (Or.inl rfl))
    rw [hn]
    exact ⟨hJ', 3, ⟨h1, ⟨_, rfl⟩, hq⟩, Or.inr (by decide)⟩
  | 3, ⟨h1, ⟨w, h2⟩, hq⟩ => by
    obtain ⟨v, rest, hv⟩ := List.exists_cons_of_ne_nil hq
    obtain ⟨hn, _, hJ'⟩ := hJ.move hp (t := 1) (by simp [starvePol, h1, h2]) h1
      (Trans.w0take _ v rest hv) (Or.inl rfl)
    rw [hn]
    exact ⟨hJ', 4, ⟨⟨_, rfl⟩, ⟨w, h2⟩, q_singleton hp.task.qlen hv⟩, Or.inr (by decide)⟩
  | 4, ⟨⟨v, h1⟩, ⟨w, h2⟩, hq⟩ => by
    obtain ⟨hn, _, hJ'⟩ := hJ.move hp (t := 2) (by simp [starvePol, h1, h2]) h2
      (Trans.pushEnq _ w hJ.cl hq) (Or.inr (Or.inl rfl))
    rw [hn]
    exact ⟨hJ', 5, ⟨⟨v, h1⟩, ⟨_, rfl⟩, List.append_ne_nil_of_right_ne_nil _ (List.cons_ne_nil _ _)⟩,
      Or.inr (by decide)⟩
  | 5, ⟨⟨v, h1⟩, ⟨w, h2⟩, hq⟩ => by
    obtain ⟨hn, _, hJ'⟩ := hJ.move hp (t := 2) (by simp [starvePol, h1, h2]) h2
      (Trans.d9 _ w) (Or.inr (Or.inl rfl))
    rw [hn]
    cases hr : (c.g.task v).released with
    | false => exact ⟨hJ', 6, ⟨⟨v, h1, hr⟩, rfl, hq⟩, Or.inr (by decide)⟩
    | true => exact ⟨hJ', 7, ⟨⟨v, h1, hr⟩, rfl, hq⟩, Or.inr (by decide)⟩
  | 6, ⟨⟨v, h1, hr⟩, h2, hq⟩ => by
    have hlen : v < c.g.tasks.length := (hp.task.ok v).len (Or.inr ⟨1, .run, by rw [h1]; rfl⟩)
    obtain ⟨hn, _, hJ'⟩ := hJ.move hp (t := 0) (by simp [starvePol, h1, h2, hr])
      (hJ.oth 0 (by decide) (by decide) (by decide)) (Trans.finish _ v hr) (Or.inr (Or.inr ⟨rfl, rfl⟩))
    have hs : ∀ (g : G) (x : Task), v < g.tasks.length → (g.setTask v x).task v = x := fun g x h => by
      rw [setTask_task, if_pos ⟨rfl, h⟩]
    rw [hn]
    exact ⟨hJ', 7, ⟨⟨v, h1, congrArg Task.released (hs c.g _ hlen)⟩, h2, hq⟩, Or.inr (by decide)⟩
  | 7, ⟨⟨v, h1, hr⟩, h2, hq⟩ => by
    obtain ⟨hn, _, hJ'⟩ := hJ.move hp (t := 1) (by simp [starvePol, h1, h2, hr]) h1
      (Trans.wexec _ v hr) (Or.inl rfl)
    rw [hn]
    exact ⟨hJ', 8, ⟨⟨v, rfl⟩, h2, hq⟩, Or.inr (by decide)⟩
  | 8, ⟨⟨v, h1⟩, h2, hq⟩ => by
    obtain ⟨hn, hm, hJ'⟩ := hJ.move hp (t := 1) (by simp [starvePol, h1, h2]) h1
      (Trans.wsend _ v ((hp.task.ok v).run 1 (by rw [h1]; rfl)).2.2) (Or.inl rfl)
    rw [hn]
    exact ⟨hJ', 0, ⟨rfl, h2, hq⟩, Or.inl ⟨rfl, rfl, hm⟩⟩
  | _ + 9, hk => hk.elim

/-- the set-up: `Start`, the worker, `Do(0)` queued, the victim's `Do(1)` at its send -/
def starveSetup : List (Tid × Act) :=
  [ (0, .callStart), (0, .tau), (0, .tau), (0, .tau), (0, .tau), (1, .beFixed),
    (2, .callDo .never), (2, .tau), (2, .tau), (2, .choose 2), (2, .tau),
    (3, .callDo .never), (3, .tau), (3, .tau) ]

def starveInit : Config (M P10) := schedCfg P10 starveSetup 14

theorem starveInit_reach : Reach (M P10) starveInit := reach_run _ _ Reach.init _

theorem starveInit_inv : StarveInv starveInit := by
  have hsup : Support 4 starveInit.l :=
    run_support (M P10) (starveSetup.take 14) 4 _ (fun _ _ => rfl) (by decide)
  refine ⟨by decide, by decide, by decide, by decide, by decide, by decide, by decide,
    (by decide : lOf P10 starveInit 3 = L.push 1), by decide, ?_⟩
  intro t a b c
  match t, a, b, c with
  | 0, _, _, _ => exact (by decide : lOf P10 starveInit 0 = L.idle)
  | 1, a, _, _ => exact absurd rfl a
  | 2, _, b, _ => exact absurd rfl b
  | 3, _, _, c => exact absurd rfl c
  | t + 4, _, _, _ => exact hsup (t + 4) (Nat.le_add_left 4 t)

theorem starveInit_phase : PhaseAt starveInit 0 :=
  And.intro (by decide : lOf P10 starveInit 1 = L.w0)
    (And.intro (by decide : lOf P10 starveInit 2 = L.idle) (by decide : (gOf P10 starveInit).q ≠ []))

def starveExec : Exec P10 := Exec.ofPolicy starvePol starveInit starveInit_reach

theorem starveExec_succ (n : Nat) : starveExec.c (n + 1) = snext (starveExec.c n) := rfl
theorem starveExec_mover (n : Nat) : starveExec.mover n = smover (starveExec.c n) := rfl

theorem starve_inv : ∀ n, StarveInv (starveExec.c n) ∧ ∃ k, PhaseAt (starveExec.c n) k := by
  intro n
  induction n with
  | zero =>
    -- by the equation of `polCfg`; at position `0` itself `rfl` would evaluate the set-up run
    rw [show starveExec.c = polCfg starvePol starveInit from rfl, polCfg]
    exact ⟨starveInit_inv, 0, starveInit_phase⟩
  | succ n ih =>
    obtain ⟨hJ, k, hk⟩ := ih
    obtain ⟨a, k', b, _⟩ := starve_step hJ (starveExec.pinv n) hk
    rw [starveExec_succ]
    exact ⟨a, k', b⟩

/-- every round comes to its end: the worker delivers and the next round starts -/
theorem starve_recurs : ∀ d n k, PhaseAt (starveExec.c n) k → 9 ≤ k + d →
    ∃ m, n ≤ m ∧ starveExec.mover m = some (1, .tau) ∧ PhaseAt (starveExec.c (m + 1)) 0 := by
  intro d
  induction d with
  | zero =>
    intro n k hk hd
    obtain ⟨j, rfl⟩ : ∃ j, k = j + 9 := ⟨k - 9, by omega⟩
    exact hk.elim
  | succ d ih =>
    intro n k hk hd
    obtain ⟨_, k', b, hor⟩ := starve_step (starve_inv n).1 (starveExec.pinv n) hk
    rcases hor with ⟨_, rfl, hmv⟩ | hlt
    · exact ⟨n, Nat.le_refl _, hmv, b⟩
    · obtain ⟨m, hm, h⟩ := ih (n + 1) k' b (by omega)
      exact ⟨m, by omega, h⟩

theorem starve_round (n : Nat) :
    ∃ m, n ≤ m ∧ starveExec.mover m = some (1, .tau) ∧ PhaseAt (starveExec.c (m + 1)) 0 := by
  obtain ⟨k, hk⟩ := (starve_inv n).2
  exact starve_recurs 9 n k hk (by omega)

theorem starve_phase0 (n : Nat) : ∃ m, n ≤ m ∧ PhaseAt (starveExec.c m) 0 := by
  obtain ⟨m, hm, _, h⟩ := starve_round n
  exact ⟨m + 1, by omega, h⟩

theorem idle_not_enabled {c : Config (M P)} {t : Tid} (h : c.l t = .idle) : ¬ EnabledInt c t := by
  rintro ⟨a, g', l', obs, ha, hs⟩
  have htr := step_trans (t := t) hs
  rw [h] at htr
  cases htr <;> simp [isInt] at ha

theorem victim_disabled {c : Config (M P10)} (hJ : StarveInv c) (hq : c.g.q ≠ []) : ¬ EnabledInt c 3 := by
  rintro ⟨a, g', l', obs, ha, hs⟩
  have htr := step_trans (t := 3) hs
  rw [hJ.vic] at htr
  have h1 := hJ.cx
  have h2 := hJ.cl
  have h3 : taskCtxDone c.g 1 = false := by unfold taskCtxDone; rw [hJ.vctx]
  cases htr <;> simp_all

theorem weakFair_of_disabled (e : Exec P) (t : Tid) (h : ∀ n, ∃ m, n ≤ m ∧ ¬ EnabledInt (e.c m) t) : WeakFair e t := by
  intro n hen
  obtain ⟨m, hm, hne⟩ := h n
  exact absurd (hen m hm) hne

theorem starve_fair : Fair starveExec := by
  intro t
  by_cases h1 : t = 1
  · subst h1
    intro n _
    obtain ⟨m, hm, hmv, _⟩ := starve_round n
    exact ⟨m, .tau, hm, hmv, rfl⟩
  · refine weakFair_of_disabled _ t (fun n => ?_)
    obtain ⟨m, hm, h0⟩ := starve_phase0 n
    have hJ := (starve_inv m).1
    refine ⟨m, hm, ?_⟩
    by_cases h2 : t = 2
    · subst h2; exact idle_not_enabled h0.2.1
    · by_cases h3 : t = 3
      · subst h3; exact victim_disabled hJ h0.2.2
      · exact idle_not_enabled (hJ.oth t h1 h2 h3)

theorem starve_releases : EnvReleases starveExec := by
  intro n u hx
  obtain ⟨m, hm, h0⟩ := starve_phase0 n
  have hJ := (starve_inv m).1
  refine ⟨m, hm, ?_⟩
  have hle := (starveExec.taskMono hm).exec u
  have hle1 := ((starveExec.pinv m).task.ok u).exec_le
  have hx1 : ((starveExec.c m).g.task u).exec = 1 := by omega
  rcases relinv_reach P10 _ (starveExec.reach m) u hx1 with h | ⟨t, ht⟩
  · exact h
  · exfalso
    have hl : (starveExec.c m).l t = .w0 ∨ (starveExec.c m).l t = .idle ∨ (starveExec.c m).l t = .push 1 := by
      by_cases h1 : t = 1
      · subst h1; exact Or.inl h0.1
      · by_cases h2 : t = 2
        · subst h2; exact Or.inr (Or.inl h0.2.1)
        · by_cases h3 : t = 3
          · subst h3; exact Or.inr (Or.inr hJ.vic)
          · exact Or.inr (Or.inl (hJ.oth t h1 h2 h3))
    rcases hl with hl | hl | hl <;> rw [hl] at ht <;> rcases ht with ht | ht <;> cases ht

theorem starve_starts : EnvStarts starveExec :=
  starts_of_drained _ (fun n => ⟨n, Nat.le_refl _, (starve_inv n).1.sf, (starve_inv n).1.se⟩)

end Garr.Pool.Fair
