import Garr.Pool.Lock
/-!
# Worker-pool model: task ownership and exactly-once bookkeeping
-/
namespace Garr.Pool
open Garr.Conc

inductive Role | pre | run | drain
deriving DecidableEq, Repr

/-- the task a thread is responsible for: a submitter before its hand-over (`pre`), a worker that has taken
the task from the queue and not yet delivered the result (`run`), `Stop` draining it (`drain`) -/
def role : L → Option (Role × Nat)
  | .d1 u | .d2 u | .d3 u | .dsel u | .dres u | .dspawn u | .dundo u | .push u => some (.pre, u)
  | .t1 u | .t2 u | .t3 u _ | .tsel u => some (.pre, u)
  | .wexec u | .wsend u | .eexec u | .esend u => some (.run, u)
  | .sp5s u => some (.drain, u)
  | _ => none

theorem role_drain {l : L} {u : Nat} (h : role l = some (.drain, u)) : l = .sp5s u := by
  unfold role at h
  split at h <;> cases h <;> rfl

theorem role_run {l : L} {u : Nat} (h : role l = some (.run, u)) :
    l = .wexec u ∨ l = .wsend u ∨ l = .eexec u ∨ l = .esend u := by
  unfold role at h
  split at h <;> cases h <;> simp

/-- how a step changes the task table, and on whose behalf -/
inductive TaskEff (g : G) (l : L) : Act → G → Prop
  | send (a : Act) (u : Nat) (r : Res) (ρ : Role) : role l = some (ρ, u) → (g.task u).results = [] →
      TaskEff g l a (g.send u r)
  | enqueue (a : Act) (u : Nat) : role l = some (.pre, u) → TaskEff g l a (enqueue g u)
  | run (a : Act) (u : Nat) (rest : List Nat) : g.q = u :: rest → TaskEff g l a (runTask g u rest)
  | callDo (c : CtxKind) : TaskEff g l (.callDo c) (newTask g c)
  | callTry (c : CtxKind) : TaskEff g l (.callTry c) (newTask g c)
  | cancel (u : Nat) : TaskEff g l (.cancelTask u) (g.setTask u { g.task u with tdone := true })
  | finish (u : Nat) : TaskEff g l (.finish u) (g.setTask u { g.task u with released := true })
  | same (a : Act) (g' : G) : g'.tasks = g.tasks → TaskEff g l a g'

theorem Trans.taskEff {P : Params} {g g' : G} {l l' : L} {a : Act} (h : Trans P g l a g' l') : TaskEff g l a g' := by
  induction h
  case callDo => exact .callDo _
  case callTry => exact .callTry _
  case cancelTask => exact .cancel _
  case finish => exact .finish _
  case d3 hr | pushPool _ hr | pushTask _ hr | t3locked hr | t3free hr | tselPool _ hr | tselTask _ hr | wsend hr
      | esend hr | sp5s hr => exact .send _ _ _ _ rfl hr
  case dselEnq | pushEnq | tselEnq => exact .enqueue _ _ rfl
  case w0take hq | e0take hq => exact .run _ _ _ hq
  all_goals exact .same _ _ rfl

theorem Trans.pre_role {P : Params} {g g' : G} {l l' : L} {a : Act} (h : Trans P g l a g' l') {u : Nat}
    (hr : role l' = some (.pre, u)) : role l = some (.pre, u) ∨ u = g.tasks.length := by
  induction h
  case callDo | callTry => cases hr; exact Or.inr rfl
  case d1 | d2stop | d2push | d2sel | dselFull | dresSpawn | dresUndo | dspawn | dundo | t1fail | t1 | t2stop | t2sel =>
    exact Or.inl hr
  all_goals exact nomatch hr

structure TaskOK (g : G) (ls : Tid → L) (u : Nat) : Prop where
  len : (u ∈ g.q ∨ ∃ t r, role (ls t) = some (r, u)) → u < g.tasks.length
  pre : ∀ t, role (ls t) = some (.pre, u) →
    (g.task u).enq = false ∧ (g.task u).exec = 0 ∧ (g.task u).results = []
  queued : u ∈ g.q → (g.task u).enq = true ∧ (g.task u).exec = 0 ∧ (g.task u).results = []
  run : ∀ t, role (ls t) = some (.run, u) →
    (g.task u).enq = true ∧ (g.task u).exec = 1 ∧ (g.task u).results = []
  drain : ∀ t, role (ls t) = some (.drain, u) →
    (g.task u).enq = true ∧ (g.task u).exec = 0 ∧ (g.task u).results = [] ∧ u ∉ g.q
  uniq : ∀ t t' r, role (ls t) = some (r, u) → role (ls t') = some (r, u) → t = t'
  located : (g.task u).enq = true →
    u ∈ g.q ∨ (∃ t, role (ls t) = some (.run, u)) ∨ (∃ t, role (ls t) = some (.drain, u)) ∨ (g.task u).results ≠ []
  exec_le : (g.task u).exec ≤ 1
  exec_one : (g.task u).exec = 1 →
    (g.task u).enq = true ∧ ((∃ t, role (ls t) = some (.run, u)) ∨ (g.task u).results = [.val])
  res : (g.task u).results = [] ∨ ((g.task u).results = [.val] ∧ (g.task u).exec = 1) ∨
    (∃ r, r ≠ .val ∧ (g.task u).results = [r] ∧ (g.task u).exec = 0)

structure TaskInv (g : G) (ls : Tid → L) : Prop where
  qlen : g.q.length ≤ 1
  ok : ∀ u, TaskOK g ls u

/-- `TaskOK u` only depends on the fields `enq`, `exec`, `results` of `u`, on `u ∈ q`, and on who has a role on `u`;
the acting thread may drop a `pre` role -/
theorem TaskOK.congr_upd {g g' : G} {ls : Tid → L} {t : Tid} {l' : L} {u : Nat} (h : TaskOK g ls u)
    (hlen : g.tasks.length ≤ g'.tasks.length)
    (he : (g'.task u).enq = (g.task u).enq) (hx : (g'.task u).exec = (g.task u).exec)
    (hr : (g'.task u).results = (g.task u).results)
    (hq : u ∈ g'.q ↔ u ∈ g.q)
    (hsub : ∀ r, role l' = some (r, u) → role (ls t) = some (r, u))
    (hkeep : ∀ r, r ≠ .pre → role (ls t) = some (r, u) → role l' = some (r, u)) : TaskOK g' (upd ls t l') u := by
  have hsub : ∀ a r, role (upd ls t l' a) = some (r, u) → role (ls a) = some (r, u) := by
    intro a r ha
    rcases upd_eq_or ls t l' a with ⟨xa, ea⟩ | ⟨na, ea⟩ <;> rw [ea] at ha
    · rw [xa]; exact hsub r ha
    · exact ha
  have hkeep : ∀ a r, r ≠ .pre → role (ls a) = some (r, u) → role (upd ls t l' a) = some (r, u) := by
    intro a r hr' ha
    rcases upd_eq_or ls t l' a with ⟨xa, ea⟩ | ⟨na, ea⟩ <;> rw [ea]
    · rw [xa] at ha; exact hkeep r hr' ha
    · exact ha
  constructor
  case len =>
    rintro (hm | ⟨a, r, ha⟩)
    · exact Nat.lt_of_lt_of_le (h.len (Or.inl (hq.1 hm))) hlen
    · exact Nat.lt_of_lt_of_le (h.len (Or.inr ⟨a, r, hsub a r ha⟩)) hlen
  case pre => intro a ha; rw [he, hx, hr]; exact h.pre a (hsub a _ ha)
  case queued => intro hm; rw [he, hx, hr]; exact h.queued (hq.1 hm)
  case run => intro a ha; rw [he, hx, hr]; exact h.run a (hsub a _ ha)
  case drain => intro a ha; rw [he, hx, hr, hq]; exact h.drain a (hsub a _ ha)
  case uniq => intro a b r ha hb; exact h.uniq a b r (hsub a r ha) (hsub b r hb)
  case located =>
    rw [he, hr, hq]
    intro hen
    rcases h.located hen with h | ⟨a, h⟩ | ⟨a, h⟩ | h
    · exact Or.inl h
    · exact Or.inr (Or.inl ⟨a, hkeep a _ (by decide) h⟩)
    · exact Or.inr (Or.inr (Or.inl ⟨a, hkeep a _ (by decide) h⟩))
    · exact Or.inr (Or.inr (Or.inr h))
  case exec_le => rw [hx]; exact h.exec_le
  case exec_one =>
    rw [hx, he, hr]
    intro h1'
    obtain ⟨ha, hb⟩ := h.exec_one h1'
    refine ⟨ha, ?_⟩
    rcases hb with ⟨a, h⟩ | h
    · exact Or.inl ⟨a, hkeep a _ (by decide) h⟩
    · exact Or.inr h
  case res => rw [hx, hr]; exact h.res

/-- the same clauses when at most one thread (`t`, with role `ρ`) is concerned with `u` -/
structure LC (e : Bool) (x : Nat) (rs : List Res) (inq : Prop) (ρ : Option Role) : Prop where
  pre : ρ = some .pre → e = false ∧ x = 0 ∧ rs = []
  queued : inq → e = true ∧ x = 0 ∧ rs = []
  run : ρ = some .run → e = true ∧ x = 1 ∧ rs = []
  drain : ρ = some .drain → e = true ∧ x = 0 ∧ rs = [] ∧ ¬ inq
  located : e = true → inq ∨ ρ = some .run ∨ ρ = some .drain ∨ rs ≠ []
  exec_le : x ≤ 1
  exec_one : x = 1 → e = true ∧ (ρ = some .run ∨ rs = [.val])
  res : rs = [] ∨ (rs = [.val] ∧ x = 1) ∨ (∃ r, r ≠ .val ∧ rs = [r] ∧ x = 0)

theorem TaskOK.fields {g : G} {ls : Tid → L} {u : Nat} (h : TaskOK g ls u) {t : Tid} {ρ : Role}
    (ht : role (ls t) = some (ρ, u)) :
    (g.task u).enq = decide (ρ ≠ .pre) ∧ (g.task u).exec = (if ρ = .run then 1 else 0) ∧
      (g.task u).results = [] ∧ u ∉ g.q ∧ u < g.tasks.length := by
  have hl := h.len (Or.inr ⟨t, ρ, ht⟩)
  cases ρ
  · obtain ⟨a, b, c⟩ := h.pre t ht
    refine ⟨by simp [a], by simp [b], c, fun hq => ?_, hl⟩
    have := (h.queued hq).1; rw [a] at this; cases this
  · obtain ⟨a, b, c⟩ := h.run t ht
    refine ⟨by simp [a], by simp [b], c, fun hq => ?_, hl⟩
    have := (h.queued hq).2.1; rw [b] at this; cases this
  · obtain ⟨a, b, c, d⟩ := h.drain t ht
    exact ⟨by simp [a], by simp [b], c, d, hl⟩

theorem TaskOK.excl_role {g : G} {ls : Tid → L} {u : Nat} (h : TaskOK g ls u) {t t' : Tid} {ρ r : Role}
    (ht : role (ls t) = some (ρ, u)) (hne : t' ≠ t) : role (ls t') ≠ some (r, u) := by
  intro ht'
  obtain ⟨a, b, _⟩ := h.fields ht
  obtain ⟨a', b', _⟩ := h.fields ht'
  rw [a] at a'; rw [b] at b'
  cases ρ <;> cases r <;> simp at a' b'
  all_goals exact hne (h.uniq _ _ _ ht' ht)

theorem TaskOK.excl_q {g : G} {ls : Tid → L} {u : Nat} (h : TaskOK g ls u) (hq : u ∈ g.q) (t' : Tid) (r : Role) :
    role (ls t') ≠ some (r, u) := fun ht' => (h.fields ht').2.2.2.1 hq

theorem LC.mk_pre {inq : Prop} (h : ¬ inq) : LC false 0 [] inq (some .pre) := by
  constructor <;> simp [h]

theorem LC.mk_err {e : Bool} {r : Res} {inq : Prop} (hr : r ≠ .val) (h : ¬ inq) : LC e 0 [r] inq none := by
  constructor <;> simp [h, hr]

theorem LC.mk_queued {inq : Prop} (h : inq) : LC true 0 [] inq none := by
  constructor <;> simp [h]

theorem LC.mk_run {inq : Prop} (h : ¬ inq) : LC true 1 [] inq (some .run) := by
  constructor <;> simp [h]

theorem LC.mk_done {inq : Prop} (h : ¬ inq) : LC true 1 [.val] inq none := by
  constructor <;> simp [h]

theorem LC.mk_drain {inq : Prop} (h : ¬ inq) : LC true 0 [] inq (some .drain) := by
  constructor <;> simp [h]

theorem TaskInv.frame {g g' : G} {ls : Tid → L} {t : Tid} {l l' : L} (hinv : TaskInv g ls) (hl : ls t = l)
    (hs : SameTasks g g') (hq : g'.q = g.q := by rfl)
    (hrole : role l' = role l ∨ (role l' = none ∧ ∃ u, role l = some (.pre, u)) := by exact Or.inl rfl) :
    TaskInv g' (upd ls t l') := by
  subst hl
  refine ⟨by rw [hq]; exact hinv.qlen, fun u => (hinv.ok u).congr_upd (by rw [hs.len]; exact Nat.le_refl _)
    (hs.enq u) (hs.exec u) (hs.results u) (by rw [hq]) (fun r hr => ?_) (fun r hne hr => ?_)⟩
  · rcases hrole with h | ⟨h, _⟩
    · rw [← h]; exact hr
    · rw [h] at hr; cases hr
  · rcases hrole with h | ⟨_, v, h⟩
    · rw [h]; exact hr
    · rw [h] at hr; cases hr; exact absurd rfl hne

/-- a step that concerns a single task `u0`, with which no other thread is concerned -/
theorem TaskInv.modify {g g' : G} {ls : Tid → L} {t : Tid} {l' : L} (hinv : TaskInv g ls) (u0 : Nat) (ρ' : Option Role)
    (hlen : g.tasks.length ≤ g'.tasks.length) (hu0 : u0 < g'.tasks.length)
    (hqlen : g'.q.length ≤ 1)
    (hfields : ∀ v, v ≠ u0 → (g'.task v).enq = (g.task v).enq ∧ (g'.task v).exec = (g.task v).exec ∧
      (g'.task v).results = (g.task v).results)
    (hq : ∀ v, v ≠ u0 → (v ∈ g'.q ↔ v ∈ g.q))
    (hold : ∀ r v, role (ls t) = some (r, v) → v = u0)
    (hnew : role l' = ρ'.map (fun r => (r, u0)))
    (hothers : ∀ t'' r, t'' ≠ t → role (ls t'') ≠ some (r, u0))
    (hc : LC (g'.task u0).enq (g'.task u0).exec (g'.task u0).results (u0 ∈ g'.q) ρ') :
    TaskInv g' (upd ls t l') := by
  refine ⟨hqlen, fun u => ?_⟩
  by_cases hu : u = u0
  · subst hu
    -- only `t` is concerned with `u`, with role `ρ'`: the clauses of `TaskOK` are those of `LC`
    have hself : ∀ r, role (upd ls t l' t) = some (r, u) ↔ ρ' = some r := by
      intro r
      rw [upd_same, hnew]
      cases ρ' <;> simp
    have hrole : ∀ a r, role (upd ls t l' a) = some (r, u) → a = t ∧ ρ' = some r := by
      intro a r h
      by_cases ha : a = t
      · subst ha; exact ⟨rfl, (hself r).1 h⟩
      · rw [upd_other _ _ _ _ ha] at h; exact absurd h (hothers a r ha)
    constructor
    case len => exact fun _ => hu0
    case queued => exact hc.queued
    case exec_le => exact hc.exec_le
    case res => exact hc.res
    case pre => intro a ha; exact hc.pre (hrole a _ ha).2
    case run => intro a ha; exact hc.run (hrole a _ ha).2
    case drain => intro a ha; exact hc.drain (hrole a _ ha).2
    case uniq => intro a b r ha hb; exact (hrole a r ha).1.trans (hrole b r hb).1.symm
    case located =>
      intro he
      rcases hc.located he with h | h | h | h
      · exact Or.inl h
      · exact Or.inr (Or.inl ⟨t, (hself _).2 h⟩)
      · exact Or.inr (Or.inr (Or.inl ⟨t, (hself _).2 h⟩))
      · exact Or.inr (Or.inr (Or.inr h))
    case exec_one =>
      intro hx
      obtain ⟨ha, hb⟩ := hc.exec_one hx
      refine ⟨ha, ?_⟩
      rcases hb with h | h
      · exact Or.inl ⟨t, (hself _).2 h⟩
      · exact Or.inr h
  · obtain ⟨a, b, c⟩ := hfields u hu
    refine (hinv.ok u).congr_upd hlen a b c (hq u hu) ?_ ?_
    · intro r hr
      rw [hnew] at hr
      cases ρ' <;> simp at hr
      exact absurd hr.2.symm hu
    · intro r _ hr
      exact absurd (hold r u hr) hu

theorem TaskInv.alloc {g : G} {ls : Tid → L} {t : Tid} {l' : L} (hinv : TaskInv g ls) (c : CtxKind)
    (hrole : role (ls t) = none) (hl' : role l' = some (.pre, g.tasks.length)) :
    TaskInv (newTask g c) (upd ls t l') := by
  have hnq : g.tasks.length ∉ g.q := fun h => Nat.lt_irrefl _ ((hinv.ok _).len (Or.inl h))
  refine hinv.modify g.tasks.length (some .pre) (by simp) (by simp) hinv.qlen ?_ (fun v _ => Iff.rfl) ?_ hl' ?_ ?_
  · intro v hv; simp [newTask_task, hv]
  · intro r v h; rw [hrole] at h; cases h
  · intro t'' r _ h
    exact Nat.lt_irrefl _ ((hinv.ok _).len (Or.inr ⟨t'', r, h⟩))
  · have : (newTask g c).task g.tasks.length = { ctx := c } := by simp [newTask_task]
    rw [this]
    exact LC.mk_pre hnq

/-- the holder of `u0` sends its result: the executor's value by the worker that ran it, an error by the submitter
(before hand-over) or by the draining `Stop` -/
theorem TaskInv.send {g : G} {ls : Tid → L} {t : Tid} {l' : L} (hinv : TaskInv g ls) (u0 : Nat) (ρ : Role) (r : Res)
    (hrole : role (ls t) = some (ρ, u0)) (hr : r = .val ↔ ρ = .run) (hl' : role l' = none) :
    TaskInv (g.send u0 r) (upd ls t l') := by
  obtain ⟨fe, fx, fr, fq, flen⟩ := (hinv.ok u0).fields hrole
  refine hinv.modify u0 none (by simp) (by simpa using flen) hinv.qlen ?_ (fun v _ => Iff.rfl) ?_ hl' ?_ ?_
  · intro v hv; simp [send_task, hv]
  · intro r' v h; rw [hrole] at h; cases h; rfl
  · intro t'' r' hne; exact (hinv.ok u0).excl_role hrole hne
  · have h0 : ((g.send u0 r).task u0).enq = (g.task u0).enq := setTask_frame Task.enq (by rfl) u0
    have h1 : ((g.send u0 r).task u0).exec = (g.task u0).exec := setTask_frame Task.exec (by rfl) u0
    have h2 : ((g.send u0 r).task u0).results = [r] := by simp [send_task, flen]
    rw [h0, h1, h2, fe, fx]
    by_cases hρ : ρ = .run
    · subst hρ; rw [hr.2 rfl]; exact LC.mk_done fq
    · rw [if_neg hρ]; exact LC.mk_err (fun e => hρ (hr.1 e)) fq

theorem TaskInv.enq {g : G} {ls : Tid → L} {t : Tid} {l' : L} (hinv : TaskInv g ls) (u0 : Nat)
    (hrole : role (ls t) = some (.pre, u0)) (hq : g.q = []) (hl' : role l' = none) :
    TaskInv (enqueue g u0) (upd ls t l') := by
  obtain ⟨fe, fx, fr, fq, flen⟩ := (hinv.ok u0).fields hrole
  refine hinv.modify u0 none (by simp) (by simpa using flen) (by simp [hq]) ?_ ?_ ?_ hl' ?_ ?_
  · intro v hv; simp [enqueue_task, hv]
  · intro v hv; simp [hq, hv]
  · intro r' v h; rw [hrole] at h; cases h; rfl
  · intro t'' r' hne; exact (hinv.ok u0).excl_role hrole hne
  · have h0 : ((enqueue g u0).task u0).enq = true := by simp [enqueue_task, flen]
    have h1 : ((enqueue g u0).task u0).exec = 0 := by simpa [enqueue_task, flen] using fx
    have h2 : ((enqueue g u0).task u0).results = [] := by simpa [enqueue_task, flen] using fr
    rw [h0, h1, h2]
    exact LC.mk_queued (by simp)

theorem q_singleton {g : G} {u : Nat} {rest : List Nat} (hlen : g.q.length ≤ 1) (hq : g.q = u :: rest) : rest = [] := by
  rw [hq] at hlen
  cases rest with
  | nil => rfl
  | cons a as => simp at hlen

theorem TaskInv.take {g : G} {ls : Tid → L} {t : Tid} {l' : L} (hinv : TaskInv g ls) (u0 : Nat) (rest : List Nat)
    (hrole : role (ls t) = none) (hq : g.q = u0 :: rest) (hl' : role l' = some (.run, u0)) :
    TaskInv (runTask g u0 rest) (upd ls t l') := by
  have hrest := q_singleton hinv.qlen hq
  subst hrest
  have hmem : u0 ∈ g.q := by simp [hq]
  have flen := (hinv.ok u0).len (Or.inl hmem)
  obtain ⟨fe, fx, fr⟩ := (hinv.ok u0).queued hmem
  refine hinv.modify u0 (some .run) (by simp) (by simpa using flen) (by simp) ?_ ?_ ?_ hl' ?_ ?_
  · intro v hv; simp [runTask_task, hv]
  · intro v hv; simp [hq, hv]
  · intro r' v h; rw [hrole] at h; cases h
  · intro t'' r' _; exact (hinv.ok u0).excl_q hmem t'' r'
  · have h0 : ((runTask g u0 []).task u0).enq = true := by simpa [runTask_task, flen] using fe
    have h1 : ((runTask g u0 []).task u0).exec = 1 := by simp [runTask_task, flen, fx]
    have h2 : ((runTask g u0 []).task u0).results = [] := by simpa [runTask_task, flen] using fr
    rw [h0, h1, h2]
    exact LC.mk_run (by simp)

theorem TaskInv.dtake {g : G} {ls : Tid → L} {t : Tid} {l' : L} (hinv : TaskInv g ls) (u0 : Nat) (rest : List Nat)
    (hrole : role (ls t) = none) (hq : g.q = u0 :: rest) (hl' : role l' = some (.drain, u0)) :
    TaskInv { g with q := rest } (upd ls t l') := by
  have hrest := q_singleton hinv.qlen hq
  subst hrest
  have hmem : u0 ∈ g.q := by simp [hq]
  have flen := (hinv.ok u0).len (Or.inl hmem)
  obtain ⟨fe, fx, fr⟩ := (hinv.ok u0).queued hmem
  have htask : ∀ v, G.task { g with q := [] } v = g.task v := fun v => rfl
  refine hinv.modify u0 (some .drain) (Nat.le_refl _) flen (by simp) ?_ ?_ ?_ hl' ?_ ?_
  · intro v hv; simp [htask]
  · intro v hv; simp [hq, hv]
  · intro r' v h; rw [hrole] at h; cases h
  · intro t'' r' _; exact (hinv.ok u0).excl_q hmem t'' r'
  · rw [htask, fe, fx, fr]
    exact LC.mk_drain (by simp)

theorem TaskInv.step {P : Params} {g g' : G} {ls : Tid → L} {t : Tid} {l : L} {a : Act} {l' : L}
    (hinv : TaskInv g ls) (hl : ls t = l) (h : Trans P g l a g' l') : TaskInv g' (upd ls t l') := by
  induction h
  case callDo | callTry => exact hinv.alloc _ (hl ▸ rfl) rfl
  case cancelTask => exact hinv.frame hl (SameTasks.cancel _ _)
  case finish => exact hinv.frame hl (SameTasks.finish _ _)
  case d3 | pushPool | pushTask | t3locked | t3free | tselPool | tselTask =>
    exact hinv.send _ .pre _ (hl ▸ rfl) (by decide) rfl
  case sp5s => exact hinv.send _ .drain _ (hl ▸ rfl) (by decide) rfl
  case dselEnq _ hq | pushEnq _ hq | tselEnq _ hq => exact hinv.enq _ (hl ▸ rfl) hq rfl
  case w0take hq | e0take hq => exact hinv.take _ _ (hl ▸ rfl) hq rfl
  case wsend | esend => exact hinv.send _ .run _ (hl ▸ rfl) (by decide) rfl
  case sp5take hq => exact hinv.dtake _ _ (hl ▸ rfl) hq rfl
  case dselPanic | pushPanic | tselPanic | tselDefault =>
    exact hinv.frame hl (SameTasks.of_tasks rfl) (hrole := Or.inr ⟨rfl, _, rfl⟩)
  all_goals exact hinv.frame hl (SameTasks.of_tasks rfl)

end Garr.Pool
