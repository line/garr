import Garr.Pool.Model
/-!
# The transition relation of the pool model, one constructor per branch

`Trans P g l a g' l'` lists every enabled branch of `Garr.Pool.step` with its guard as hypotheses and its
effect in normal form (`sendRes`, `selCase` expanded); the observations of a step are a function `obsOf` of the two
program counters.  `step_trans_obs` is the only case analysis of `step`; `Trans.step_eq` is the converse, so nothing is lost.
-/
namespace Garr.Pool
open Garr.Conc

/-- task `u` after a result `r` was sent on its (empty) result channel -/
def G.send (g : G) (u : Nat) (r : Res) : G := g.setTask u { g.task u with results := [r] }

theorem length_lt_one {α} (l : List α) : l.length < 1 ↔ l = [] := by
  cases l <;> simp

theorem sendRes_eq_some {g : G} {u : Nat} {r : Res} {g' : G} :
    sendRes g u r = some g' ↔ (g.task u).results = [] ∧ g' = g.send u r := by
  unfold sendRes G.send
  by_cases h : (g.task u).results = []
  · simp [h, eq_comm]
  · have : ¬ (g.task u).results.length < 1 := by rw [length_lt_one]; exact h
    simp [h, this]

theorem sendRes_eq_none {g : G} {u : Nat} {r : Res} :
    sendRes g u r = none ↔ (g.task u).results ≠ [] := by
  unfold sendRes
  by_cases h : (g.task u).results = []
  · simp [h]
  · have : ¬ (g.task u).results.length < 1 := by rw [length_lt_one]; exact h
    simp [h, this]

inductive Trans (P : Params) : G → L → Act → G → L → Prop
  | callDo (g c) : Trans P g .idle (.callDo c) (newTask g c) (.d1 g.tasks.length)
  | callTry (g c) : Trans P g .idle (.callTry c) (newTask g c) (.t1 g.tasks.length)
  | callStart (g) : Trans P g .idle .callStart g .st0
  | callStop (g) : Trans P g .idle .callStop g .sp0
  | beFixed (g) : 0 < g.spawnFixed → Trans P g .idle .beFixed { g with spawnFixed := g.spawnFixed - 1 } .w0
  | beExp (g) : 0 < g.spawnExp → Trans P g .idle .beExp { g with spawnExp := g.spawnExp - 1 } (.e0 (g.now + P.lifetime))
  | cancelTask (g u) : Trans P g .idle (.cancelTask u) (g.setTask u { g.task u with tdone := true }) .idle
  | cancelParent (g) : Trans P g .idle .cancelParent { g with ctxDone := true } .idle
  | advance (g d) : Trans P g .idle (.advance d) { g with now := g.now + d } .idle
  | finish (g u) : (g.task u).released = false →
      Trans P g .idle (.finish u) (g.setTask u { g.task u with released := true }) .idle
  -- Do
  | d1 (g u) : g.writer = false → g.wpending = false → Trans P g (.d1 u) .tau { g with readers := g.readers + 1 } (.d2 u)
  | d2stop (g u) : g.state = 2 → Trans P g (.d2 u) .tau g (.d3 u)
  | d2push (g u) : g.state ≠ 2 → P.limit = 0 → Trans P g (.d2 u) .tau g (.push u)
  | d2sel (g u) : g.state ≠ 2 → P.limit ≠ 0 → Trans P g (.d2 u) .tau g (.dsel u)
  | d3 (g u) : (g.task u).results = [] → Trans P g (.d3 u) .tau (g.send u .errPool) (.d9 u)
  | dselPanic (g u) : g.closed = true → Trans P g (.dsel u) .tau { g with panics := g.panics + 1 } .panicked
  | dselEnq (g u) : g.closed = false → g.q = [] → Trans P g (.dsel u) .tau (enqueue g u) (.d9 u)
  | dselFull (g u) : g.closed = false → g.q ≠ [] → Trans P g (.dsel u) .tau g (.dres u)
  | dresSpawn (g u) : g.expanded + 1 ≤ (P.limit : Int) →
      Trans P g (.dres u) .tau { g with expanded := g.expanded + 1 } (.dspawn u)
  | dresUndo (g u) : ¬ g.expanded + 1 ≤ (P.limit : Int) →
      Trans P g (.dres u) .tau { g with expanded := g.expanded + 1 } (.dundo u)
  | dspawn (g u) : Trans P g (.dspawn u) .tau { g with wg := g.wg + 1, spawnExp := g.spawnExp + 1 } (.push u)
  | dundo (g u) : Trans P g (.dundo u) .tau { g with expanded := g.expanded - 1 } (.push u)
  | pushPool (g u) : g.ctxDone = true → (g.task u).results = [] →
      Trans P g (.push u) (.choose 0) (g.send u .errPool) (.d9 u)
  | pushTask (g u) : taskCtxDone g u = true → (g.task u).results = [] →
      Trans P g (.push u) (.choose 1) (g.send u .errTask) (.d9 u)
  | pushPanic (g u) : g.closed = true → Trans P g (.push u) (.choose 2) { g with panics := g.panics + 1 } .panicked
  | pushEnq (g u) : g.closed = false → g.q = [] → Trans P g (.push u) (.choose 2) (enqueue g u) (.d9 u)
  | d9 (g u) : Trans P g (.d9 u) .tau { g with readers := g.readers - 1 } .idle
  -- TryDo
  | t1fail (g u) : (g.writer = true ∨ g.wpending = true) → Trans P g (.t1 u) .tau g (.t3 u false)
  | t1 (g u) : g.writer = false → g.wpending = false → Trans P g (.t1 u) .tau { g with readers := g.readers + 1 } (.t2 u)
  | t2stop (g u) : g.state = 2 → Trans P g (.t2 u) .tau g (.t3 u true)
  | t2sel (g u) : g.state ≠ 2 → Trans P g (.t2 u) .tau g (.tsel u)
  | t3locked (g u) : (g.task u).results = [] → Trans P g (.t3 u true) .tau (g.send u .errPool) (.t9 u false)
  | t3free (g u) : (g.task u).results = [] → Trans P g (.t3 u false) .tau (g.send u .errPool) .idle
  | tselDefault (g u) : selCase g u 0 = none → selCase g u 1 = none → selCase g u 2 = none →
      Trans P g (.tsel u) (.choose 3) g (.t9 u false)
  | tselPool (g u) : g.ctxDone = true → (g.task u).results = [] →
      Trans P g (.tsel u) (.choose 0) (g.send u .errPool) (.t9 u false)
  | tselTask (g u) : taskCtxDone g u = true → (g.task u).results = [] →
      Trans P g (.tsel u) (.choose 1) (g.send u .errTask) (.t9 u false)
  | tselPanic (g u) : g.closed = true → Trans P g (.tsel u) (.choose 2) { g with panics := g.panics + 1 } .panicked
  | tselEnq (g u) : g.closed = false → g.q = [] → Trans P g (.tsel u) (.choose 2) (enqueue g u) (.t9 u true)
  | t9 (g u r) : Trans P g (.t9 u r) .tau { g with readers := g.readers - 1 } .idle
  -- fixed worker
  | w0take (g u rest) : g.q = u :: rest → Trans P g .w0 .tau (runTask g u rest) (.wexec u)
  | w0done (g) : g.q = [] → g.closed = true → Trans P g .w0 .tau { g with wg := g.wg - 1 } .wdone
  | wexec (g u) : (g.task u).released = true → Trans P g (.wexec u) .tau g (.wsend u)
  | wsend (g u) : (g.task u).results = [] → Trans P g (.wsend u) .tau (g.send u .val) .w0
  | wdone (g) : Trans P g .wdone .tau g .exited
  -- expanded worker
  | e0take (g dl u rest) : g.q = u :: rest → Trans P g (.e0 dl) (.choose 0) (runTask g u rest) (.eexec u)
  | e0closed (g dl) : g.q = [] → g.closed = true → Trans P g (.e0 dl) (.choose 0) g .eexit
  | e0timer (g dl) : dl ≤ g.now → Trans P g (.e0 dl) (.choose 1) g .eexit
  | eexec (g u) : (g.task u).released = true → Trans P g (.eexec u) .tau g (.esend u)
  | esend (g u) : (g.task u).results = [] → Trans P g (.esend u) .tau (g.send u .val) (.e0 (g.now + P.lifetime))
  | eexit (g) : Trans P g .eexit .tau { g with wg := g.wg - 1 } .eexit2
  | eexit2 (g) : Trans P g .eexit2 .tau { g with expanded := g.expanded - 1 } .exited
  -- Start
  | st0 (g) : g.writer = false → g.wpending = false → Trans P g .st0 .tau { g with readers := g.readers + 1 } .st0c
  | st0win (g) : g.state = 0 → Trans P g .st0c .tau { g with state := 1 } .st1
  | st0lose (g) : g.state ≠ 0 → Trans P g .st0c .tau g .st2
  | st1 (g) : Trans P g .st1 .tau { g with wg := g.wg + P.nworker, spawnFixed := g.spawnFixed + P.nworker } .st2
  | st2 (g) : Trans P g .st2 .tau { g with readers := g.readers - 1 } .idle
  -- Stop
  | sp0win (g) : g.state = 0 → Trans P g .sp0 .tau { g with state := 2 } .sp2
  | sp0lose (g) : g.state ≠ 0 → Trans P g .sp0 .tau g .sp1
  | sp1win (g) : g.state = 1 → Trans P g .sp1 .tau { g with state := 2 } .sp2
  | sp1lose (g) : g.state ≠ 1 → Trans P g .sp1 .tau g .idle
  | sp2 (g) : Trans P g .sp2 .tau { g with ctxDone := true } .sp3a
  | sp3a (g) : g.writer = false → g.wpending = false → Trans P g .sp3a .tau { g with wpending := true } .sp3b
  | sp3b (g) : g.readers = 0 → Trans P g .sp3b .tau { g with wpending := false, writer := true } .sp3c
  | sp3cPanic (g) : g.closed = true → Trans P g .sp3c .tau { g with panics := g.panics + 1 } .panicked
  | sp3c (g) : g.closed = false → Trans P g .sp3c .tau { g with closed := true } .sp3d
  | sp3d (g) : Trans P g .sp3d .tau { g with writer := false } .sp4
  | sp4 (g) : g.wg = 0 → Trans P g .sp4 .tau g .sp5
  | sp5take (g u rest) : g.q = u :: rest → Trans P g .sp5 .tau { g with q := rest } (.sp5s u)
  | sp5done (g) : g.q = [] → Trans P g .sp5 .tau g .idle
  | sp5s (g u) : (g.task u).results = [] → Trans P g (.sp5s u) .tau (g.send u .errPool) .sp5

theorem selCase_some {g : G} {u k : Nat} {g' : G} {b : Bool} (h : selCase g u k = some (g', b)) :
    (k = 0 ∧ g.ctxDone = true ∧ (g.task u).results = [] ∧ g' = g.send u .errPool ∧ b = false) ∨
    (k = 1 ∧ taskCtxDone g u = true ∧ (g.task u).results = [] ∧ g' = g.send u .errTask ∧ b = false) ∨
    (k = 2 ∧ g.closed = true ∧ g' = { g with panics := g.panics + 1 } ∧ b = true) ∨
    (k = 2 ∧ g.closed = false ∧ g.q = [] ∧ g' = enqueue g u ∧ b = false) := by
  unfold selCase at h
  split at h
  · split at h
    · simp only [Option.map_eq_some_iff, sendRes_eq_some, Prod.mk.injEq] at h
      obtain ⟨_, ⟨hr, rfl⟩, rfl, rfl⟩ := h
      simp_all
    · cases h
  · split at h
    · simp only [Option.map_eq_some_iff, sendRes_eq_some, Prod.mk.injEq] at h
      obtain ⟨_, ⟨hr, rfl⟩, rfl, rfl⟩ := h
      simp_all
    · cases h
  · split at h
    · simp only [Option.some.injEq, Prod.mk.injEq] at h
      obtain ⟨rfl, rfl⟩ := h
      simp_all
    · split at h
      · simp only [Option.some.injEq, Prod.mk.injEq] at h
        obtain ⟨rfl, rfl⟩ := h
        simp_all
      · cases h
  · cases h

/-- what a step from `l` to `l'` lets the environment observe -/
def obsOf : L → L → List Obs
  | .d9 u, _ => [.retDo u]
  | .t3 u false, _ => [.retTry u false]
  | .t9 u r, _ => [.retTry u r]
  | .st2, _ => [.retStart]
  | .sp1, .idle | .sp5, .idle => [.retStop]
  | .w0, .wexec u | .e0 _, .eexec u => [.execStart u]
  | _, _ => []

/-- the case analysis of `step`: one goal per arm of its `match`, then per guard -/
theorem step_trans_obs {P : Params} {t : Tid} {g : G} {l : L} {a : Act} {g' : G} {l' : L} {obs : List Obs}
    (h : step P t g l a = some (g', l', obs)) : Trans P g l a g' l' ∧ obs = obsOf l l' := by
  unfold step at h
  split at h
  all_goals (try simp only [Option.map_eq_some_iff, sendRes_eq_some] at h)
  all_goals (try (repeat' split at h))
  all_goals (try simp only [Option.some.injEq, Prod.mk.injEq, reduceCtorEq] at h)
  all_goals (try (obtain ⟨rfl, rfl, rfl⟩ := h))
  all_goals (try (obtain ⟨_, ⟨hr, rfl⟩, rfl, rfl, rfl⟩ := h))
  all_goals (try subst_vars)
  all_goals first
    | (refine ⟨?_, rfl⟩; constructor <;> assumption)
    | (refine ⟨?_, rfl⟩; constructor <;> simp_all <;> done)
    | skip
  -- left: the communicating cases of the two `select`s, and `t3` with its flag not yet known
  all_goals try
    (rename_i hs
     rcases selCase_some hs with ⟨rfl, h1, h2, rfl, hb⟩ | ⟨rfl, h1, h2, rfl, hb⟩ | ⟨rfl, h1, rfl, hb⟩ | ⟨rfl, h1, h2, rfl, hb⟩ <;>
       cases hb <;> refine ⟨?_, rfl⟩ <;> constructor <;> assumption)
  · rename_i hl; simp only [Bool.not_eq_true] at hl; subst hl; exact ⟨Trans.t3free _ _ hr, rfl⟩

theorem step_trans {P : Params} {t : Tid} {g : G} {l : L} {a : Act} {g' : G} {l' : L} {obs : List Obs}
    (h : step P t g l a = some (g', l', obs)) : Trans P g l a g' l' :=
  (step_trans_obs h).1

/-- the two steps that emit `retStop`: `Stop` loses both CASes, or the winner finishes draining -/
theorem retStop_step {P : Params} {t : Tid} {g : G} {l : L} {a : Act} {g' : G} {l' : L} {obs : List Obs}
    (h : step P t g l a = some (g', l', obs)) (hr : Obs.retStop ∈ obs) :
    g' = g ∧ ((l = .sp1 ∧ g.state ≠ 1) ∨ (l = .sp5 ∧ g.q = [])) := by
  obtain ⟨ht, rfl⟩ := step_trans_obs h
  obtain ⟨rfl | rfl, rfl⟩ : (l = .sp1 ∨ l = .sp5) ∧ l' = .idle := by
    unfold obsOf at hr
    split at hr <;> simp at hr ⊢
  · cases ht with | sp1lose hs => exact ⟨rfl, Or.inl ⟨rfl, hs⟩⟩
  · cases ht with | sp5done hq => exact ⟨rfl, Or.inr ⟨rfl, hq⟩⟩

theorem Trans.step_eq {P : Params} {g : G} {l : L} {a : Act} {g' : G} {l' : L} (t : Tid) (h : Trans P g l a g' l') :
    step P t g l a = some (g', l', obsOf l l') := by
  have hsend : ∀ {u r}, (g.task u).results = [] → sendRes g u r = some (g.send u r) :=
    fun hr => sendRes_eq_some.2 ⟨hr, rfl⟩
  induction h
  all_goals first
    | rfl
    | (simp [step, obsOf, *]; done)
    | (simp [step, selCase, obsOf, *]; done)

theorem trans_step {P : Params} {g : G} {l : L} {a : Act} {g' : G} {l' : L} (t : Tid) (h : Trans P g l a g' l') :
    ∃ obs, step P t g l a = some (g', l', obs) :=
  ⟨_, h.step_eq t⟩

end Garr.Pool
