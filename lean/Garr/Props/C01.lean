import Garr.Lin
import Garr.Queue.LP
/-!
# C01 — the lock-free queue is linearizable w.r.t. a sequential FIFO queue

Under any interleaving of concurrent `Offer`, `Poll`, `Peek` and `IsEmpty` calls (and iterator
`Remove`), each call appears to take effect atomically at one instant between its invocation and
its return, and the results are those of a single sequential FIFO queue.

The two hypotheses of `Garr.Lin.linearizable_of_refines` are discharged from the lemmas of
`Garr/Queue/LP.lean`; the `spec_*` theorems say what the sequential specification means.
-/
namespace Garr.Props.C01
open Garr.Conc Garr.Lin Garr.Queue

instance : Inhabited Op := ⟨.poll⟩
instance : Inhabited Ret := ⟨.unit⟩

/-- the sequential specification: a FIFO queue (elements carry stable handles for the iterator's
`Remove`), initially empty; handle 0 is the dummy node, so the first handle handed out is 1 -/
def queueSpec : Spec Op Ret SpecSt := ⟨⟨[], 1⟩, specApply⟩

/-- how steps of the queue machine are read as history events -/
def queueView : View Garr.Queue.M Op Ret where
  invOf := invOp
  lpOf := fun _ o => lpRet o
  resOf := fun _ o => retOf o
  ph := fun l =>
    match doneRet l with
    | some r => .done r
    | none =>
      match curOp l with
      | some _ => .pending
      | none => .idle
  curOp := curOp

theorem ph_def (l : L) : queueView.ph l =
    match doneRet l with
    | some r => .done r
    | none => match curOp l with | some _ => .pending | none => .idle := rfl

theorem ph_idle {l : L} : queueView.ph l = .idle ↔ doneRet l = none ∧ curOp l = none := by
  rw [ph_def]; cases doneRet l <;> cases curOp l <;> simp

theorem ph_pending {l : L} :
    queueView.ph l = .pending ↔ doneRet l = none ∧ ∃ op, curOp l = some op := by
  rw [ph_def]; cases doneRet l <;> cases curOp l <;> simp

theorem ph_done {l : L} {r : Ret} : queueView.ph l = .done r ↔ doneRet l = some r := by
  rw [ph_def]; cases doneRet l <;> cases curOp l <;> simp

def toMk : Mark → Mk Ret
  | .lp r => .lp r
  | .res r => .res r

-- The bridge to the generic theory is stated over `M.L`, `M.Obs` (which are `L`, `Obs` only after
-- unfolding `M`), the types at which `Disciplined` and `Refines` present local states and observations.

theorem evs_eq {l : Garr.Queue.M.L} {obs : List Garr.Queue.M.Obs} {ms : List Mark} (hm : marks obs = ms) :
    queueView.evs l obs = ms.map toMk := by
  subst hm
  induction obs with
  | nil => rfl
  | cons o os ih =>
    cases o with
    | itNext | retAux => exact ih
    | _ => exact congrArg (_ :: ·) ih

theorem lp_mem_evs {l : Garr.Queue.M.L} {obs : List Garr.Queue.M.Obs} {r : Ret} :
    Mk.lp r ∈ queueView.evs l obs ↔ Mark.lp r ∈ marks obs := by
  rw [evs_eq rfl, List.mem_map]
  exact ⟨fun ⟨m, hm, hmr⟩ => by cases m <;> cases hmr; exact hm, fun hm => ⟨_, hm, rfl⟩⟩

/-- the linearization-point discipline: every specification operation emits exactly one LP marker,
in one of its own steps between its invocation and its response, and responds with the result
fixed there -/
theorem queue_disciplined : Disciplined Garr.Queue.M queueView where
  idle0 := rfl
  not_both := fun _ o => lpRet_retOf_not_both o
  idle_step := by
    intro t g l a g' l' obs hs hph
    obtain ⟨hd, hc⟩ := ph_idle.mp hph
    obtain ⟨hm, hc', hd'⟩ := disc_idle_marks (t := t) (g := g) (l := l) hs hc hd
    refine ⟨evs_eq hm, ?_, ?_⟩
    · intro hinv
      exact ph_idle.mpr ⟨hd', hc'.trans hinv⟩
    · intro op hinv
      exact ⟨ph_pending.mpr ⟨hd', op, hc'.trans hinv⟩, hc'.trans hinv⟩
  pending_step := by
    intro t g l a g' l' obs hs hph
    obtain ⟨_, op, hc⟩ := ph_pending.mp hph
    obtain ⟨hinv, hcase⟩ := disc_pending_marks (t := t) (g := g) (l := l) hs hc
    refine ⟨hinv, ?_⟩
    rcases hcase with ⟨hm, hc'⟩ | ⟨r, hm, hd', _⟩ | ⟨r, hm, hc', hd'⟩
    · exact Or.inl ⟨evs_eq hm,
        ph_pending.mpr ⟨doneRet_none_of_curOp hc', op, hc'⟩, hc'.trans hc.symm⟩
    · exact Or.inr (Or.inl ⟨r, evs_eq hm, ph_done.mpr hd'⟩)
    · exact Or.inr (Or.inr ⟨r, evs_eq hm, ph_idle.mpr ⟨hd', hc'⟩⟩)
  done_step := by
    intro t g l a g' l' obs r hs hph
    have hd := ph_done.mp hph
    obtain ⟨hinv, hcase⟩ := disc_done_marks (t := t) (g := g) (l := l) hs hd
    refine ⟨hinv, ?_⟩
    rcases hcase with ⟨hm, hd', _⟩ | ⟨hm, hc', hd'⟩
    · exact Or.inl ⟨evs_eq hm, ph_done.mpr hd'⟩
    · exact Or.inr ⟨evs_eq hm, ph_idle.mpr ⟨hd', hc'⟩⟩

/-- forward simulation at the linearization points: a step without LP marker leaves the abstract
queue unchanged; a step with an LP marker carrying `r` acts on the abstract queue exactly as the
sequential specification does for the operation the thread is executing, with result `r` -/
theorem queue_refines : Refines Garr.Queue.M queueView queueSpec absS Garr.Queue.Inv where
  init := absS_init
  no_lp := fun _ t _ _ _ _ hI hs hno =>
    refines_no_lp (t := t) hI.1 (hI.2 t) hs fun r hm => hno r (lp_mem_evs.mpr hm)
  lp := fun _ t _ _ _ _ _ _ hI hs hlp hcur => refines_lp (t := t) hI.1 (hI.2 t) hs (lp_mem_evs.mp hlp) hcur

/-- **C01.**  For every schedule `s` — every client program over the whole API (including `Size`
and iterators), every number of threads, every interleaving — the history of invocations and
responses of `Offer`/`Poll`/`Peek`/`IsEmpty`/iterator-`Remove` is linearizable w.r.t. the sequential
FIFO queue `queueSpec`. -/
theorem C01_linearizable_lockfree (s : List (Tid × Act)) :
    Linearizable queueSpec (hist queueView (Config.init Garr.Queue.M) (fun _ => 0) s) :=
  linearizable_of_refines queue_disciplined queue_refines inv_reach s

/-- the offered values, in order -/
def offeredVals : List Op → List Nat
  | [] => []
  | .offer v :: ops => v :: offeredVals ops
  | _ :: ops => offeredVals ops

/-- the values returned by successful polls, in order -/
def polledVals : List (Op × Ret) → List Nat
  | [] => []
  | (.poll, .val v) :: tr => v :: polledVals tr
  | _ :: tr => polledVals tr

theorem runSpec_legal (st : SpecSt) (ops : List Op) :
    legal queueSpec st (runSpec st ops).2 ∧ exec queueSpec st (runSpec st ops).2 = (runSpec st ops).1 ∧
    (runSpec st ops).2.map (·.1) = ops := by
  induction ops generalizing st with
  | nil => simp [runSpec, legal, exec]
  | cons op ops ih =>
    obtain ⟨h1, h2, h3⟩ := ih (specApply st op).1
    exact ⟨⟨rfl, h1⟩, h2, by simp only [runSpec, List.map_cons, h3]⟩

/-- FIFO, general form (any legal sequential trace, from any state): the values polled, followed by
the values still queued, are the values initially queued followed by the values offered — in order -/
theorem fifo_of_legal (st : SpecSt) (tr : List (Op × Ret)) (hl : legal queueSpec st tr)
    (hp : ∀ x ∈ tr, plain x.1) :
    polledVals tr ++ (exec queueSpec st tr).items.map (·.2) =
      st.items.map (·.2) ++ offeredVals (tr.map (·.1)) := by
  induction tr generalizing st with
  | nil => exact (List.append_nil _).symm
  | cons x tr ih =>
    obtain ⟨op, r⟩ := x
    obtain ⟨rfl, h2⟩ := hl
    have ih' := ih _ h2 (fun y hy => hp y (List.mem_cons_of_mem _ hy))
    obtain ⟨items, nx⟩ := st
    cases op with
    | offer v => exact ih'.trans (by simp [queueSpec, specApply, offeredVals])
    | poll =>
      rcases items with _ | ⟨⟨p, v⟩, q⟩
      · exact ih'
      · exact congrArg (v :: ·) ih'
    | peek => rcases items with _ | ⟨⟨p, v⟩, q⟩ <;> exact ih'
    | isEmpty => exact ih'
    | removeAt p => exact (hp _ (List.mem_cons_self ..)).elim

/-- **FIFO.**  Run any sequence of `offer`/`poll`/`peek`/`isEmpty` operations from the empty queue:
the values returned by the successful polls, followed by the values still in the queue, are exactly
the offered values, in the order they were offered.  Hence every offered value is polled at most
once, nothing is polled that was not offered, and values leave in the order they entered. -/
theorem spec_poll_fifo (ops : List Op) (hp : ∀ op ∈ ops, plain op) :
    polledVals (runSpec queueSpec.init ops).2 ++ (runSpec queueSpec.init ops).1.items.map (·.2) =
      offeredVals ops := by
  obtain ⟨h1, h2, h3⟩ := runSpec_legal queueSpec.init ops
  have := fifo_of_legal _ _ h1 (fun x hx => hp _ (h3 ▸ List.mem_map_of_mem hx))
  rwa [h2, h3] at this

/-- the same for any legal sequential trace of `queueSpec` (such as the one a linearization
provides): polled values ++ remaining values = offered values -/
theorem spec_poll_fifo_legal (tr : List (Op × Ret)) (hl : legal queueSpec queueSpec.init tr)
    (hp : ∀ x ∈ tr, plain x.1) :
    polledVals tr ++ (exec queueSpec queueSpec.init tr).items.map (·.2) =
      offeredVals (tr.map (·.1)) :=
  fifo_of_legal _ tr hl hp

/-- in particular, the polled values are a prefix of the offered values -/
theorem spec_polled_prefix (ops : List Op) (hp : ∀ op ∈ ops, plain op) :
    polledVals (runSpec queueSpec.init ops).2 <+: offeredVals ops :=
  ⟨_, spec_poll_fifo ops hp⟩

/-- `Poll`/`Peek` return nil and `IsEmpty` returns true exactly when the queue is empty -/
theorem spec_nil_only_if_empty (st : SpecSt) :
    ((specApply st .poll).2 = .nil ↔ st.items = []) ∧
    ((specApply st .peek).2 = .nil ↔ st.items = []) ∧
    ((specApply st .isEmpty).2 = .bool true ↔ st.items = []) := by
  obtain ⟨items, nx⟩ := st
  cases items with
  | nil => simp [specApply]
  | cons x q => obtain ⟨p, v⟩ := x; simp [specApply]

/-- thread 0 performs a complete `Offer(7)`, then thread 1 performs a complete `Poll` -/
def demo : List (Tid × Act) :=
  [(0, .offer 7), (0, .tau), (0, .tau), (0, .tau),
   (1, .poll), (1, .tau), (1, .tau), (1, .tau), (1, .tau), (1, .tau), (1, .tau), (1, .tau), (1, .tau)]

/-- the same two calls overlapping: the poll starts and reads `head` before the offer links its
node, and still obtains 7 -/
def demoOverlap : List (Tid × Act) :=
  [(0, .offer 7), (1, .poll), (0, .tau), (1, .tau), (0, .tau), (0, .tau),
   (1, .tau), (1, .tau), (1, .tau), (1, .tau), (1, .tau), (1, .tau), (1, .tau)]

example : hist queueView (Config.init Garr.Queue.M) (fun _ => 0) demo =
    [.inv (0, 0) (.offer 7), .lp (0, 0) .unit, .res (0, 0) .unit,
     .inv (1, 0) .poll, .lp (1, 0) (.val 7), .res (1, 0) (.val 7)] := by decide +kernel

example : hist queueView (Config.init Garr.Queue.M) (fun _ => 0) demoOverlap =
    [.inv (0, 0) (.offer 7), .inv (1, 0) .poll, .lp (0, 0) .unit, .res (0, 0) .unit,
     .lp (1, 0) (.val 7), .res (1, 0) (.val 7)] := by decide +kernel

/-- the abstract queue after the first four steps of `demo` (the offer alone) is `[(1, 7)]` -/
example : (absS (run Garr.Queue.M (Config.init Garr.Queue.M) (demo.take 4)).1.g).items = [(1, 7)] := by
  decide +kernel

end Garr.Props.C01
