import Garr.Adder.FloatInv
/-!
# C02, float clause: "For the float64 adders the same holds whenever all partial sums are exactly representable"

"The same" = *once all concurrent `Add` calls have returned, `Sum` equals the exact total of every value added*
(and `SumAndReset` returns that total and leaves the adder at zero).

Models: `Garr.Adder.Simple.M atomicF64P` (`AtomicF64Adder`: one cell, load/CAS loop) and `Garr.Adder.M floatAlg mc`
(`JDKF64Adder` / `stripedF64`: base + lazily created, growing table of cells; every `mc`, unboundedly many
threads, every schedule, every probe outcome).  The heaps hold binary64 **bit patterns** (`Int`); `fval b : ℚ` is
the rational value of the float with bit pattern `b`, `IsFinBits b` says it is finite, `floatAlg.add` is IEEE-754
addition (exact result, one round-to-nearest-even) on bit patterns through the soft-float model `Garr.F64`.

Hypothesis: `AllPartialSumsExact xs` — every operand in `xs` is finite and the exact rational sum of every
sublist (equivalently: sub-multiset) of `xs` is the value of a finite binary64.  It is satisfiable
(`hypothesis_example`, `hypothesis_of_quantum`) and needed (`order_matters`, `atomicF64_inexact_run`,
`striped_inexact_run`, `hypothesis_needed`).
-/
namespace Garr.Props.C02Float
open Garr Garr.Conc Garr.Adder Garr.F64Exact Garr.Adder.Float
open Garr.Adder.Simple (SAct SL SG atomicF64P cellAt addArg isMaintAct)

/-- **IEEE-754 addition is exact whenever the exact result is representable.**  For finite `x`, `y` (any
    significand/exponent form): if the rational `val x + val y` is the value of some finite binary64, then
    `F64.add x y` is a finite canonical float — not NaN, not ±∞ — and `val (add x y) = val x + val y`.
    (Stated on `val`, where `+0` and `-0` coincide.) -/
theorem ieee_add_exact {x y : F64} (hx : IsFin x) (hy : IsFin y) (hr : Representable (F64.val x + F64.val y)) :
    FinCanon (F64.add x y) ∧ F64.val (F64.add x y) = F64.val x + F64.val y :=
  add_exact hx hy hr

/-- the same for the adders' float algebra, on bit patterns -/
theorem float_add_exact {a b : Int} (ha : IsFinBits a) (hb : IsFinBits b) (hr : Representable (fval a + fval b)) :
    IsFinBits (floatAlg.add a b) ∧ fval (floatAlg.add a b) = fval a + fval b :=
  addBits_exact ha hb hr

/-- the schedule invokes no `Store` / `Reset` / `SumAndReset` (simple adder) -/
def UpdatesOnlyS (s : List (Tid × SAct)) : Prop := ∀ e ∈ s, isMaintAct e.2 = false

/-- operands, in schedule order, of the `Add` invocations that schedule `s` makes from the initial configuration -/
def atomicF64Adds (s : List (Tid × SAct)) : List Int :=
  invokedAddsS atomicF64P (Config.init (Simple.M atomicF64P)).g (Config.init (Simple.M atomicF64P)).l s

/-- **`AtomicF64Adder`, conservation.**  Run any schedule of `Add`s and `Sum`s from the initial configuration
    (any threads, any interleaving, any number of CAS retries).  If the operands applied so far — those of the
    `lp` markers of the log — satisfy the hypothesis, the cell holds a finite float whose rational value is
    their exact total. -/
theorem atomicF64_conservation (s : List (Tid × SAct)) (hs : UpdatesOnlyS s)
    (hx : AllPartialSumsExact (lpsLog (run (Simple.M atomicF64P) (Config.init (Simple.M atomicF64P)) s).2)) :
    IsFinBits (cellAt (run (Simple.M atomicF64P) (Config.init (Simple.M atomicF64P)) s).1.g 0) ∧
    fval (cellAt (run (Simple.M atomicF64P) (Config.init (Simple.M atomicF64P)) s).1.g 0) =
      qsumL (lpsLog (run (Simple.M atomicF64P) (Config.init (Simple.M atomicF64P)) s).2) := by
  have h := simple_exact_run atomicF64_inst Reach.init (simple_exact_init atomicF64_inst) s hs
    (by rw [zero_add]; exact pse_of_list hx)
  rw [zero_add] at h
  exact ⟨h.1.1, by rw [h.1.2, qsum_coe]⟩

/-- **C02 for `AtomicF64Adder`.**  Run any schedule `s` of `Add`s and `Sum`s from the initial configuration.  If
    every `Add` call has returned in the configuration reached, `t` is idle, and the operands of the `Add`s that
    were invoked satisfy the hypothesis, then `Sum` run by `t` returns — after one step, leaving the
    configuration as it was — a finite float whose rational value is the exact total of all values added. -/
theorem atomicF64_sum_after_adds (s : List (Tid × SAct)) (hs : UpdatesOnlyS s)
    (hq : ∀ u, addArg ((run (Simple.M atomicF64P) (Config.init (Simple.M atomicF64P)) s).1.l u) = none)
    (hx : AllPartialSumsExact (atomicF64Adds s))
    (t : Tid) (ht : (run (Simple.M atomicF64P) (Config.init (Simple.M atomicF64P)) s).1.l t = SL.idle) :
    ∃ r : Int,
      run (Simple.M atomicF64P) (run (Simple.M atomicF64P) (Config.init (Simple.M atomicF64P)) s).1
          [(t, SAct.sum), (t, SAct.tau)] =
        ((run (Simple.M atomicF64P) (Config.init (Simple.M atomicF64P)) s).1, [(t, Obs.ret (some r))]) ∧
      IsFinBits r ∧ fval r = qsumL (atomicF64Adds s) := by
  have hinv := simple_lps_invoked (P := atomicF64P) (Config.init (Simple.M atomicF64P)) s (fun _ => rfl) hq
  have hp : PSE (lpsLog (run (Simple.M atomicF64P) (Config.init (Simple.M atomicF64P)) s).2 : Multiset Int) := by
    rw [hinv]; exact pse_of_list hx
  have h := simple_exact_run atomicF64_inst Reach.init (simple_exact_init atomicF64_inst) s hs
    (by rw [zero_add]; exact hp)
  rw [zero_add, hinv] at h
  obtain ⟨h1, h2⟩ := simple_sum_solo atomicF64_inst (c := (run (Simple.M atomicF64P) _ s).1) t ht
  have hrun := run_invoke_solo (tau := SAct.tau) h1 h2
  refine ⟨cellAt (run (Simple.M atomicF64P) (Config.init (Simple.M atomicF64P)) s).1.g 0, hrun, h.1.1, ?_⟩
  rw [h.1.2, qsum_coe]; rfl

/-- the schedule invokes no `Store` / `Reset` / `SumAndReset` -/
def UpdatesOnly (s : List (Tid × Act)) : Prop := ∀ e ∈ s, isMaintActA e.2 = false

/-- operands, in schedule order, of the `Add` invocations that schedule `s` makes from the initial configuration -/
def stripedAdds (mc : Nat) (s : List (Tid × Act)) : List Int :=
  invokedAdds mc (Config.init (M floatAlg mc)).g (Config.init (M floatAlg mc)).l s

/-- **A phase of concurrent updates accumulates exactly on top.**  From any reachable configuration with no
    maintenance operation in progress whose heap holds exactly the operands `live0` (`FExact`: e.g. the initial
    configuration, or the configuration left by `Store` / `Reset` / `SumAndReset`), along any schedule of `Add`s
    and `Sum`s: if `live0` plus the operands applied during the phase satisfy the hypothesis, the heap holds
    exactly these. -/
theorem striped_phase {mc : Nat} {c0 : Config (M floatAlg mc)} {live0 : Multiset Int} (h0 : FExact c0 live0)
    (s : List (Tid × Act)) (hs : UpdatesOnly s)
    (hp : PSE (live0 + (lpsLog (run (M floatAlg mc) c0 s).2 : Multiset Int))) :
    FExact (run (M floatAlg mc) c0 s).1 (live0 + (lpsLog (run (M floatAlg mc) c0 s).2 : Multiset Int)) := by
  obtain ⟨hr, hm0, hE0⟩ := h0
  have key := run_ind_raw (fun _ a => isMaintActA a = false)
    (fun lg g _ => PSE (live0 + (lpsLog lg : Multiset Int)) →
      (g.maint = false ∧ ExactHeap g (live0 + (lpsLog lg : Multiset Int))))
    (by
      intro lg g ls t a g' l' obs hrc hQ ha hst hp
      rw [lpsLog_append, lpsLog_tag, ← Multiset.coe_add, ← add_assoc] at hp ⊢
      obtain ⟨h1, h2⟩ := hQ (hp.mono (Multiset.le_add_right _ _))
      have hI : SInvAt g ls := sinv_reach floatAlg mc ⟨g, ls⟩ hrc
      obtain ⟨he, hm'⟩ := step_eff (hI.linv t) (hI.no_mnt h1 t) h1 ha hst
      exact ⟨hm', exact_eff h2 he hp⟩)
    s c0 hr (fun _ => by simpa [lpsLog] using And.intro hm0 hE0) hs
  exact ⟨reach_run _ _ hr s, key hp⟩

/-- **Striped float adder, conservation with ghost split.**  Run any schedule of `Add`s and `Sum`s from the
    initial configuration: every `mc`, any number of threads, every interleaving, every probe outcome, table
    creation and both growth forms included.  If the operands applied so far (the `lp` markers of the log) satisfy
    the hypothesis then they can be distributed over the locations — a share `b` for `base`, a share `cm k` for
    every materialised cell `k`, `b + Σ cm k` being all of them — such that every location holds a finite float
    whose rational value is the exact total of its share; consequently
    `value(base) + Σ_k value(cell k) = Σ value(applied operands)` in ℚ. -/
theorem striped_conservation (mc : Nat) (s : List (Tid × Act)) (hs : UpdatesOnly s)
    (hx : AllPartialSumsExact (lpsLog (run (M floatAlg mc) (Config.init (M floatAlg mc)) s).2)) :
    (∃ (b : Multiset Int) (cm : Nat → Multiset Int),
      b + sumN cm (G.ncell (run (M floatAlg mc) (Config.init (M floatAlg mc)) s).1.g) =
        (lpsLog (run (M floatAlg mc) (Config.init (M floatAlg mc)) s).2 : Multiset Int) ∧
      (IsFinBits (G.base (run (M floatAlg mc) (Config.init (M floatAlg mc)) s).1.g) ∧
        fval (G.base (run (M floatAlg mc) (Config.init (M floatAlg mc)) s).1.g) = qsum b) ∧
      ∀ k, k < G.ncell (run (M floatAlg mc) (Config.init (M floatAlg mc)) s).1.g →
        IsFinBits (G.cell (run (M floatAlg mc) (Config.init (M floatAlg mc)) s).1.g k) ∧
        fval (G.cell (run (M floatAlg mc) (Config.init (M floatAlg mc)) s).1.g k) = qsum (cm k)) ∧
    fval (G.base (run (M floatAlg mc) (Config.init (M floatAlg mc)) s).1.g) +
        sumN (fun k => fval (G.cell (run (M floatAlg mc) (Config.init (M floatAlg mc)) s).1.g k))
          (G.ncell (run (M floatAlg mc) (Config.init (M floatAlg mc)) s).1.g) =
      qsumL (lpsLog (run (M floatAlg mc) (Config.init (M floatAlg mc)) s).2) := by
  have h := striped_phase (fexact_init mc) s hs (by rw [zero_add]; exact pse_of_list hx)
  rw [zero_add] at h
  refine ⟨h.2.2, ?_⟩
  rw [← qsum_coe]
  exact h.2.2.conservation

/-- **Every `Add` takes effect exactly once**: when every thread is idle again, the operands of the `lp`
    markers are, as a multiset, the operands of the `Add` invocations made. -/
theorem striped_lps_are_invocations (mc : Nat) (s : List (Tid × Act))
    (hidle : ∀ u, (run (M floatAlg mc) (Config.init (M floatAlg mc)) s).1.l u = L.idle) :
    (lpsLog (run (M floatAlg mc) (Config.init (M floatAlg mc)) s).2 : Multiset Int) =
      (stripedAdds mc s : Multiset Int) :=
  lps_invoked (Config.init (M floatAlg mc)) s (fun _ => rfl) (fun u => by rw [hidle u]; rfl)

theorem striped_exact_after_adds (mc : Nat) (s : List (Tid × Act)) (hs : UpdatesOnly s)
    (hidle : ∀ u, (run (M floatAlg mc) (Config.init (M floatAlg mc)) s).1.l u = L.idle)
    (hx : AllPartialSumsExact (stripedAdds mc s)) :
    FExact (run (M floatAlg mc) (Config.init (M floatAlg mc)) s).1 (stripedAdds mc s : Multiset Int) := by
  have hinv := striped_lps_are_invocations mc s hidle
  have h := striped_phase (fexact_init mc) s hs (by rw [zero_add, hinv]; exact pse_of_list hx)
  rw [zero_add, hinv] at h
  exact h

/-- a quiescent exact configuration answers `Sum` exactly (general form: any exact start, e.g. after `Store`) -/
theorem striped_sum_solo {mc : Nat} {c : Config (M floatAlg mc)} {live : Multiset Int} (hE : FExact c live)
    (hp : PSE live) (hidle : ∀ u, c.l u = L.idle) (t : Tid) :
    ∃ (k : Nat) (r : Int), k ≤ 2 * tlen c.g + 2 ∧
      run (M floatAlg mc) c ((t, Act.sum) :: List.replicate k (t, Act.tau)) = (c, [(t, Obs.ret (some r))]) ∧
      IsFinBits r ∧ fval r = qsum live := by
  have hI : SInvAt c.g c.l := sinv_reach floatAlg mc c hE.1
  obtain ⟨g1, l1, hst, k, hk, hrun⟩ := sum_solo_any (alg := floatAlg) (mc := mc) hI hidle t
  have hr := sumRes_exact hI.tinv hE.2.2 hp
  exact ⟨k, _, hk, run_invoke_solo hst hrun, hr.1, hr.2⟩

/-- **C02 for the striped float adder.**  Run any schedule `s` of `Add`s and `Sum`s from the initial
    configuration.  If every call has returned in the configuration `c` reached (all threads idle) and the operands
    of the `Add`s invoked satisfy the hypothesis, then `Sum` run alone by any thread `t` returns — in at most
    `2·len + 2` steps, restoring `c` — a finite float `r` whose rational value is the exact total of all values
    added.  (`Sum`'s own left-to-right IEEE additions over base and cells are partial sums again, hence exact.) -/
theorem striped_sum_after_adds (mc : Nat) (s : List (Tid × Act)) (hs : UpdatesOnly s)
    (hidle : ∀ u, (run (M floatAlg mc) (Config.init (M floatAlg mc)) s).1.l u = L.idle)
    (hx : AllPartialSumsExact (stripedAdds mc s)) (t : Tid) :
    ∃ (k : Nat) (r : Int), k ≤ 2 * tlen (run (M floatAlg mc) (Config.init (M floatAlg mc)) s).1.g + 2 ∧
      run (M floatAlg mc) (run (M floatAlg mc) (Config.init (M floatAlg mc)) s).1
          ((t, Act.sum) :: List.replicate k (t, Act.tau)) =
        ((run (M floatAlg mc) (Config.init (M floatAlg mc)) s).1, [(t, Obs.ret (some r))]) ∧
      IsFinBits r ∧ fval r = qsumL (stripedAdds mc s) := by
  obtain ⟨k, r, hk, hrun, hr1, hr2⟩ :=
    striped_sum_solo (striped_exact_after_adds mc s hs hidle hx) (pse_of_list hx) hidle t
  exact ⟨k, r, hk, hrun, hr1, by rw [hr2, qsum_coe]⟩

/-- **`SumAndReset` after a quiescent phase** returns a finite float whose rational value is the exact total of
    all values added, and leaves an all-idle configuration `c'` whose heap holds exactly nothing (`FExact c' 0`:
    base and all cells are `+0`), from which `striped_phase` applies again: no update lost or double-counted. -/
theorem striped_sumAndReset_after_adds (mc : Nat) (s : List (Tid × Act)) (hs : UpdatesOnly s)
    (hidle : ∀ u, (run (M floatAlg mc) (Config.init (M floatAlg mc)) s).1.l u = L.idle)
    (hx : AllPartialSumsExact (stripedAdds mc s)) (t : Tid) :
    ∃ (k : Nat) (r : Int) (c' : Config (M floatAlg mc)),
      k ≤ 3 * tlen (run (M floatAlg mc) (Config.init (M floatAlg mc)) s).1.g + 5 ∧
      run (M floatAlg mc) (run (M floatAlg mc) (Config.init (M floatAlg mc)) s).1
          ((t, Act.sumAndReset) :: List.replicate k (t, Act.tau)) = (c', [(t, Obs.ret (some r))]) ∧
      IsFinBits r ∧ fval r = qsumL (stripedAdds mc s) ∧ (∀ u, c'.l u = L.idle) ∧ FExact c' 0 := by
  have hE := striped_exact_after_adds mc s hs hidle hx
  have hI : SInvAt _ _ := sinv_reach floatAlg mc _ hE.1
  obtain ⟨g1, l1, hst, k, hk, hrun⟩ := sumAndReset_solo_any (alg := floatAlg) (mc := mc) hI hidle t
  have hr := sumRes_exact hI.tinv hE.2.2 (pse_of_list hx)
  have hsched := run_invoke_solo hst hrun
  exact ⟨k, _, _, hk, hsched, hr.1, hr.2.trans (qsum_coe _), hidle,
    solo_reach hE.1 hst hrun, rfl, exactHeap_reset (stored_base _ 0) (stored_cell hI.tinv 0)⟩

/-- `Store w` (a finite float) run alone from a reachable all-idle configuration leaves exactly `{w}` -/
theorem striped_store_solo {mc : Nat} {c : Config (M floatAlg mc)} (hr : Reach (M floatAlg mc) c)
    (hidle : ∀ u, c.l u = L.idle) (t : Tid) (w : Int) (hw : IsFinBits w) :
    ∃ (k : Nat) (c' : Config (M floatAlg mc)), k ≤ tlen c.g + 3 ∧
      run (M floatAlg mc) c ((t, Act.store w) :: List.replicate k (t, Act.tau)) = (c', [(t, Obs.ret none)]) ∧
      (∀ u, c'.l u = L.idle) ∧ FExact c' {w} := by
  have hI : SInvAt c.g c.l := sinv_reach floatAlg mc c hr
  obtain ⟨g1, l1, hst, k, hk, hrun⟩ := store_solo_any (alg := floatAlg) (mc := mc) hI hidle t w
  have hsched := run_invoke_solo hst hrun
  exact ⟨k, _, hk, hsched, hidle, solo_reach hr hst hrun, rfl,
    exactHeap_stored (stored_base c.g w) (stored_cell hI.tinv w) hw⟩

/-- `Reset` run alone from a reachable all-idle configuration leaves exactly nothing -/
theorem striped_reset_solo {mc : Nat} {c : Config (M floatAlg mc)} (hr : Reach (M floatAlg mc) c)
    (hidle : ∀ u, c.l u = L.idle) (t : Tid) :
    ∃ (k : Nat) (c' : Config (M floatAlg mc)), k ≤ tlen c.g + 3 ∧
      run (M floatAlg mc) c ((t, Act.reset) :: List.replicate k (t, Act.tau)) = (c', [(t, Obs.ret none)]) ∧
      (∀ u, c'.l u = L.idle) ∧ FExact c' 0 := by
  have hI : SInvAt c.g c.l := sinv_reach floatAlg mc c hr
  obtain ⟨g1, l1, hst, k, hk, hrun⟩ := store_solo_any (alg := floatAlg) (mc := mc) hI hidle t 0
  have hst' := (step_reset floatAlg mc t c.g (c.l t)).trans hst
  have hsched := run_invoke_solo hst' hrun
  exact ⟨k, _, hk, hsched, hidle, solo_reach hr hst' hrun, rfl,
    exactHeap_reset (stored_base c.g 0) (stored_cell hI.tinv 0)⟩

theorem striped_phase_list {mc : Nat} {c0 : Config (M floatAlg mc)} {xs0 : List Int}
    (h0 : FExact c0 (xs0 : Multiset Int)) (s : List (Tid × Act)) (hs : UpdatesOnly s)
    (hx : AllPartialSumsExact (xs0 ++ lpsLog (run (M floatAlg mc) c0 s).2)) :
    FExact (run (M floatAlg mc) c0 s).1 ((xs0 ++ lpsLog (run (M floatAlg mc) c0 s).2 : List Int) : Multiset Int) := by
  rw [← Multiset.coe_add]
  exact striped_phase h0 s hs (by rw [Multiset.coe_add]; exact pse_of_list hx)

/-- **The pieces compose**: `Store w` alone, then any phase of concurrent `Add`s and `Sum`s that ends with every
    thread idle, then `Sum`: it returns a finite float whose rational value is exactly `w` plus everything added
    during the phase — provided `w` together with the operands applied satisfies the hypothesis. -/
theorem striped_store_phase_sum {mc : Nat} {c : Config (M floatAlg mc)} (hr : Reach (M floatAlg mc) c)
    (hidle : ∀ u, c.l u = L.idle) (t : Tid) (w : Int) (hw : IsFinBits w) :
    ∃ (k : Nat) (c' : Config (M floatAlg mc)),
      run (M floatAlg mc) c ((t, Act.store w) :: List.replicate k (t, Act.tau)) = (c', [(t, Obs.ret none)]) ∧
      ∀ (s : List (Tid × Act)), UpdatesOnly s → (∀ u, (run (M floatAlg mc) c' s).1.l u = L.idle) →
        AllPartialSumsExact (w :: lpsLog (run (M floatAlg mc) c' s).2) → ∀ u : Tid,
        ∃ (k2 : Nat) (r : Int),
          run (M floatAlg mc) (run (M floatAlg mc) c' s).1 ((u, Act.sum) :: List.replicate k2 (u, Act.tau)) =
            ((run (M floatAlg mc) c' s).1, [(u, Obs.ret (some r))]) ∧
          IsFinBits r ∧ fval r = qsumL (w :: lpsLog (run (M floatAlg mc) c' s).2) := by
  obtain ⟨k, c', _, hrun, _, hE'⟩ := striped_store_solo hr hidle t w hw
  refine ⟨k, c', hrun, fun s hs hq hx u => ?_⟩
  have hE'' : FExact c' (([w] : List Int) : Multiset Int) := hE'
  have hph := striped_phase_list hE'' s hs hx
  obtain ⟨k2, r, _, hrun2, hr1, hr2⟩ := striped_sum_solo hph (pse_of_list hx) hq u
  exact ⟨k2, r, hrun2, hr1, by rw [hr2, qsum_coe]; rfl⟩

/-- bit pattern of `1.0` -/
def b1 : Int := 0x3FF0000000000000
/-- bit pattern of `2.0` -/
def b2 : Int := 0x4000000000000000
/-- bit pattern of `0.5` -/
def bHalf : Int := 0x3FE0000000000000
/-- bit pattern of `-4.0` -/
def bNeg4 : Int := 0xC010000000000000
/-- bit pattern of `2^53` -/
def b2p53 : Int := 0x4340000000000000
/-- bit pattern of `2^53 + 2` -/
def b2p53plus2 : Int := 0x4340000000000001

theorem bval_b1 : bval b1 = .fin false (2^52) (-52) := by decide +kernel
theorem bval_b2 : bval b2 = .fin false (2^52) (-51) := by decide +kernel
theorem bval_bHalf : bval bHalf = .fin false (2^52) (-53) := by decide +kernel
theorem bval_bNeg4 : bval bNeg4 = .fin true (2^52) (-50) := by decide +kernel
theorem bval_b2p53 : bval b2p53 = .fin false (2^52) 1 := by decide +kernel
theorem bval_b2p53plus2 : bval b2p53plus2 = .fin false (2^52 + 1) 1 := by decide +kernel

theorem fval_b1 : fval b1 = 1 := by unfold fval; rw [bval_b1]; norm_num [F64.val]
theorem fval_b2 : fval b2 = 2 := by unfold fval; rw [bval_b2]; norm_num [F64.val]
theorem fval_bHalf : fval bHalf = 1/2 := by unfold fval; rw [bval_bHalf]; norm_num [F64.val]
theorem fval_bNeg4 : fval bNeg4 = -4 := by unfold fval; rw [bval_bNeg4]; norm_num [F64.val]
theorem fval_b2p53 : fval b2p53 = 2^53 := by unfold fval; rw [bval_b2p53]; norm_num [F64.val]
theorem fval_b2p53plus2 : fval b2p53plus2 = 2^53 + 2 := by unfold fval; rw [bval_b2p53plus2]; norm_num [F64.val]

/-- **Sufficient condition**: finite operands that are integer multiples `k x · 2^e` of a common
    quantum with `Σ |k x| < 2^53` satisfy the hypothesis — e.g. integer-valued increments whose magnitudes add
    up to less than `2^53`. -/
theorem hypothesis_of_quantum {e : ℤ} {k : Int → ℤ} {xs : List Int} (h : QuantumBounded e k xs) :
    AllPartialSumsExact xs := by
  obtain ⟨he1, he2, hx, hsum⟩ := h
  refine ⟨fun x hxm => (hx x hxm).1, fun s hs => ?_⟩
  rw [qsumL_quantum e k s (fun x hxs => (hx x (hs.subset hxs)).2)]
  apply representable_int_mul_pow _ he1 he2
  calc ((s.map k).sum).natAbs ≤ (s.map (fun x => (k x).natAbs)).sum := natAbs_sum_map_le k s
    _ ≤ (xs.map (fun x => (k x).natAbs)).sum := sublist_sum_map_le _ hs
    _ < 2^53 := hsum

/-- **The hypothesis is satisfiable by a non-trivial operand list**: `1.0, 2.0, 0.5, -4.0` (all sixteen partial
    sums are multiples of `2^-1` of magnitude at most `15·2^-1`). -/
theorem hypothesis_example : AllPartialSumsExact [b1, b2, bHalf, bNeg4] := by
  apply hypothesis_of_quantum (e := -1)
    (k := fun x => if x = b1 then 2 else if x = b2 then 4 else if x = bHalf then 1 else if x = bNeg4 then -8 else 0)
  refine ⟨by decide, by decide, ?_, by decide⟩
  intro x hx
  simp only [List.mem_cons, List.not_mem_nil, or_false] at hx
  rcases hx with rfl | rfl | rfl | rfl
  · exact ⟨⟨_, _, _, bval_b1⟩, by rw [fval_b1]; norm_num [b1]⟩
  · exact ⟨⟨_, _, _, bval_b2⟩, by rw [fval_b2]; norm_num [b1, b2]⟩
  · exact ⟨⟨_, _, _, bval_bHalf⟩, by rw [fval_bHalf]; norm_num [b1, b2, bHalf]⟩
  · exact ⟨⟨_, _, _, bval_bNeg4⟩, by rw [fval_bNeg4]; norm_num [b1, b2, bHalf, bNeg4]⟩

example : AllPartialSumsExact [b1, b2, bHalf, bNeg4] := hypothesis_example

/-- their exact total is `-0.5`: what `Sum` returns after any quiescent phase that adds exactly these four values
    (`striped_sum_after_adds`, `atomicF64_sum_after_adds`) -/
example : qsumL [b1, b2, bHalf, bNeg4] = -1/2 := by
  simp only [qsumL, List.map_cons, List.map_nil, List.sum_cons, List.sum_nil, fval_b1, fval_b2, fval_bHalf, fval_bNeg4]
  norm_num

/-- **Order matters without the hypothesis** (kernel-evaluated IEEE additions on bit patterns):
    `(2^53 + 1) + 1 = 2^53` but `(1 + 1) + 2^53 = 2^53 + 2`, although the exact total `2^53 + 2` *is* a binary64:
    the partial sum `2^53 + 1` is not. -/
theorem order_matters :
    floatAlg.add (floatAlg.add b2p53 b1) b1 = b2p53 ∧
    floatAlg.add (floatAlg.add b1 b1) b2p53 = b2p53plus2 ∧
    fval b2p53 + fval b1 + fval b1 = fval b2p53plus2 ∧ fval b2p53 ≠ fval b2p53plus2 := by
  refine ⟨by decide +kernel, by decide +kernel, ?_, ?_⟩
  · rw [fval_b2p53, fval_b1, fval_b2p53plus2]; norm_num
  · rw [fval_b2p53, fval_b2p53plus2]; norm_num

/-- one thread performs `Add x` on `AtomicF64Adder` (invoke, load, CAS) -/
def addS (t : Tid) (x : Int) : List (Tid × SAct) := [(t, .add x), (t, .tau), (t, .tau)]

def atomicF64Log (s : List (Tid × SAct)) : List (Tid × Obs) :=
  (run (Simple.M atomicF64P) (Config.init (Simple.M atomicF64P)) s).2

def stripedLog (mc : Nat) (s : List (Tid × Act)) : List (Tid × Obs) :=
  (run (M floatAlg mc) (Config.init (M floatAlg mc)) s).2

/-- **`AtomicF64Adder` without the hypothesis**: thread 0 adds `2^53`, `1.0`, `1.0` (all calls return), then
    `Sum` returns `2^53`, not the exact (and representable) total `2^53 + 2`.  Kernel-evaluated run of the model. -/
theorem atomicF64_inexact_run :
    atomicF64Log (addS 0 b2p53 ++ addS 0 b1 ++ addS 0 b1 ++ [(0, .sum), (0, .tau)]) =
      [(0, .lp b2p53), (0, .ret none), (0, .lp b1), (0, .ret none), (0, .lp b1), (0, .ret none),
       (0, .ret (some b2p53))] := by
  decide +kernel

/-- in the other order the same three values are summed exactly -/
theorem atomicF64_exact_run_other_order :
    atomicF64Log (addS 0 b1 ++ addS 0 b1 ++ addS 0 b2p53 ++ [(0, .sum), (0, .tau)]) =
      [(0, .lp b1), (0, .ret none), (0, .lp b1), (0, .ret none), (0, .lp b2p53), (0, .ret none),
       (0, .ret (some b2p53plus2))] := by
  decide +kernel

/-- one thread performs an uncontended `Add x` on the striped adder before any table exists
    (invoke, read `cells`, load `base`, CAS `base`) -/
def addA (t : Tid) (x : Int) : List (Tid × Act) := [(t, .add x), (t, .tau), (t, .tau), (t, .tau)]

/-- **Striped float adder without the hypothesis**: the same three `Add`s, then `Sum` (invoke, load `base`, read
    `cells`) returns `2^53`. -/
theorem striped_inexact_run :
    stripedLog 4 (addA 0 b2p53 ++ addA 0 b1 ++ addA 0 b1 ++ [(0, .sum), (0, .tau), (0, .tau)]) =
      [(0, .lp b2p53), (0, .ret none), (0, .lp b1), (0, .ret none), (0, .lp b1), (0, .ret none),
       (0, .ret (some b2p53))] := by
  decide +kernel

/-- drive thread `t` for `n` steps whatever it is doing (of `tau` / `rnd 5` exactly one is enabled at each pc) -/
def drive (t : Tid) (n : Nat) : List (Tid × Act) := (List.replicate n [(t, Act.tau), (t, Act.rnd 5)]).flatten

/-- a contended schedule: threads 0 and 1 race on `base` with `1.0` and `2.0`; thread 1 loses the CAS, finds no
    table, creates it and attaches a cell pre-filled with `2.0`; then `0.5` and `-4.0` are added concurrently (both
    land in that cell); finally thread 0 runs `Sum` -/
def contended : List (Tid × Act) :=
  [(0, .add b1), (0, .tau), (0, .tau), (1, .add b2), (1, .tau), (1, .tau), (0, .tau)] ++ drive 1 14 ++
  [(0, .add bHalf), (1, .add bNeg4)] ++ drive 0 3 ++ drive 1 3 ++ drive 0 20 ++ drive 1 20 ++
  [(0, .sum)] ++ drive 0 8

/-- bit pattern of `-0.5` -/
def bNegHalf : Int := 0xBFE0000000000000

/-- **Sanity check of the positive result on a concrete contended run** (kernel-evaluated): the operands
    `1.0, 2.0, 0.5, -4.0` of `hypothesis_example` end up split over `base` (`1.0`) and one cell (`-1.5`), and `Sum`
    returns `-0.5`, their exact total. -/
theorem striped_exact_run_example :
    stripedLog 4 contended =
      [(0, .lp b1), (0, .ret none), (1, .lp b2), (1, .ret none), (0, .lp bHalf), (0, .ret none),
       (1, .lp bNeg4), (1, .ret none), (0, .ret (some bNegHalf))] := by
  decide +kernel

/-- **The hypothesis is needed**, and it indeed fails for `2^53, 1.0, 1.0`: by `atomicF64_conservation` it would
    force the cell to hold the exact total, but the kernel-evaluated run above leaves `2^53` in the cell. -/
theorem hypothesis_needed : ¬ AllPartialSumsExact [b2p53, b1, b1] := by
  intro h
  -- one evaluation of the run gives both its `lp`s and the final cell
  obtain ⟨hlog, hcell⟩ :
      lpsLog (run (Simple.M atomicF64P) (Config.init (Simple.M atomicF64P))
        (addS 0 b2p53 ++ addS 0 b1 ++ addS 0 b1)).2 = [b2p53, b1, b1] ∧
      cellAt (run (Simple.M atomicF64P) (Config.init (Simple.M atomicF64P))
        (addS 0 b2p53 ++ addS 0 b1 ++ addS 0 b1)).1.g 0 = b2p53 := by decide +kernel
  have hs : UpdatesOnlyS (addS 0 b2p53 ++ addS 0 b1 ++ addS 0 b1) := by unfold UpdatesOnlyS; decide
  have := (atomicF64_conservation _ hs (by rw [hlog]; exact h)).2
  rw [hlog, hcell] at this
  simp only [qsumL, List.map_cons, List.map_nil, List.sum_cons, List.sum_nil, fval_b2p53, fval_b1] at this
  norm_num at this

end Garr.Props.C02Float

#print axioms Garr.Props.C02Float.ieee_add_exact
#print axioms Garr.Props.C02Float.float_add_exact
#print axioms Garr.Props.C02Float.atomicF64_conservation
#print axioms Garr.Props.C02Float.atomicF64_sum_after_adds
#print axioms Garr.Props.C02Float.striped_conservation
#print axioms Garr.Props.C02Float.striped_phase
#print axioms Garr.Props.C02Float.striped_lps_are_invocations
#print axioms Garr.Props.C02Float.striped_exact_after_adds
#print axioms Garr.Props.C02Float.striped_sum_after_adds
#print axioms Garr.Props.C02Float.striped_sumAndReset_after_adds
#print axioms Garr.Props.C02Float.striped_sum_solo
#print axioms Garr.Props.C02Float.striped_store_solo
#print axioms Garr.Props.C02Float.striped_reset_solo
#print axioms Garr.Props.C02Float.striped_phase_list
#print axioms Garr.Props.C02Float.striped_store_phase_sum
#print axioms Garr.Props.C02Float.hypothesis_of_quantum
#print axioms Garr.Props.C02Float.hypothesis_example
#print axioms Garr.Props.C02Float.order_matters
#print axioms Garr.Props.C02Float.atomicF64_inexact_run
#print axioms Garr.Props.C02Float.atomicF64_exact_run_other_order
#print axioms Garr.Props.C02Float.striped_inexact_run
#print axioms Garr.Props.C02Float.striped_exact_run_example
#print axioms Garr.Props.C02Float.hypothesis_needed
