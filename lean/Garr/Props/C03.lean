import Garr.Breaker.ConcInv
/-!
# C03 — the non-blocking circuit breaker under concurrency

While the circuit is open and its window has not elapsed on the supplied ticker, `CanRequest` returns
false to every caller; when the window (or a later trial interval) has elapsed exactly one of the
concurrent callers is admitted as the trial; one reported success closes the circuit, one reported
failure re-opens it, concurrent reports cause exactly one transition; a closed circuit admits everybody.

All theorems are about the machine `Garr.Breaker.M cfg t1 t2` (any configuration, any constructor
readings), with unboundedly many threads, every schedule, and arbitrary ticker readings per read.
"A step" is `step cfg t c.g (c.l t) a = some (g', l', obs)` from a reachable configuration `c`.
-/
namespace Garr.Props.C03
open Garr Garr.Conc Garr.Breaker

variable {cfg : Breaker.Config} {t1 t2 : Int}

local notation "MM" => M cfg t1 t2

theorem invariant (c : Garr.Conc.Config MM) (hc : Reach MM c) : BInv c := binv_reach c hc

/-- state objects are immutable: a step only appends to `objs`, so every existing object keeps its
contents (kind, deadline, duration, window) -/
theorem objects_immutable (c : Garr.Conc.Config MM) (hc : Reach MM c) (t : Tid) (a : Act) (g' : CG) (l' : L)
    (obs : List Obs) (hs : step cfg t c.g (c.l t) a = some (g', l', obs)) :
    (∃ extra, g'.objs = c.g.objs ++ extra) ∧ ∀ o, o ≤ c.g.cur → g'.obj o = c.g.obj o := by
  obtain ⟨hg, _, hr⟩ := reach_step hc hs
  exact ⟨objs_prefix hs, (hr.eff.mono hg).2⟩

/-- … and along any continuation of a run, whatever the other threads do -/
theorem objects_immutable_run (c : Garr.Conc.Config MM) (hc : Reach MM c) (s : List (Tid × Act)) (o : Nat)
    (ho : o ≤ c.g.cur) : (run MM c s).1.g.obj o = c.g.obj o :=
  run_obj_stable s c hc o ho

theorem mem_transOf {obs : List Obs} {o : Nat} {k : Kind} (hm : Obs.transition o k ∈ obs) : (o, k) ∈ transOf obs :=
  List.mem_filterMap.mpr ⟨_, hm, rfl⟩

/-- a step emitting `transition o k` is a successful CAS from the current object `o = cur`, after which
`cur = o + 1`; any other step leaves `cur` alone.  In particular `cur` never decreases. -/
theorem cur_mono (c : Garr.Conc.Config MM) (hc : Reach MM c) (t : Tid) (a : Act) (g' : CG) (l' : L) (obs : List Obs)
    (hs : step cfg t c.g (c.l t) a = some (g', l', obs)) :
    (g'.cur = c.g.cur ∧ ∀ o k, Obs.transition o k ∉ obs) ∨
    (g'.cur = c.g.cur + 1 ∧ ∃ k, transOf obs = [(c.g.cur, k)] ∧ (g'.obj g'.cur).kind = k) := by
  obtain ⟨hg, _, hr⟩ := reach_step hc hs
  cases hr.eff with
  | frame hf ht _ =>
    exact .inl ⟨hf.2.1, fun o k hm => nomatch ht ▸ mem_transOf hm⟩
  | pub n p1 p2 _ ht =>
    right
    refine ⟨by rw [p2]; exact hg.1.symm, n.kind, ht, ?_⟩
    simp [CG.obj, getD', p1, p2]

/-- **cas_unique**: in every run, the sources of the `transition` observations are pairwise distinct:
at most one CAS with expected value `o` ever succeeds. -/
theorem cas_unique (s : List (Tid × Act)) :
    (transSrcs (run MM (Config.init MM) s).2).Nodup := by
  rw [(run_transitions s _ Reach.init).2.1]
  exact List.nodup_range' 1

/-- sharper: the `k`-th successful CAS of a run replaces object `k`; the log's transition sources are
`0, 1, …, cur - 1` in this order, and the ghost `casWins` is this list (newest first) -/
theorem transitions_in_order (s : List (Tid × Act)) :
    transSrcs (run MM (Config.init MM) s).2 = List.range (run MM (Config.init MM) s).1.g.cur ∧
    (run MM (Config.init MM) s).1.g.casWins = (transSrcs (run MM (Config.init MM) s).2).reverse := by
  obtain ⟨_, h2, h3, _⟩ := run_transitions (cfg := cfg) (t1 := t1) (t2 := t2) s _ Reach.init
  refine ⟨?_, ?_⟩
  · rw [h2, List.range_eq_range']; rfl
  · rw [h3]; exact List.append_nil _

/-- **closed_admits**: `CanRequest` loading a CLOSED current object returns true, without callback and
without changing anything (and this step is enabled). -/
theorem closed_admits (t : Tid) (g : CG) (hk : (g.obj g.cur).kind = .closed) :
    step cfg t g (.b0 .can) .tau = some (g, .idle, [.ret (some true)]) := by
  unfold step; simp only [hk]

/-- **fail_fast**: a step that returns true from `CanRequest` is either the closed case, or the successful
CAS of a caller that loaded the current non-CLOSED object `o` and whose OWN reading `r1`, taken after
loading `o`, had reached `o`'s deadline; it is the transition `o → HALF_OPEN` with deadline
`wrap64 (r2 + trial)` and it is the admission of the trial. -/
theorem fail_fast (c : Garr.Conc.Config MM) (hc : Reach MM c) (t : Tid) (a : Act) (g' : CG) (l' : L) (obs : List Obs)
    (hs : step cfg t c.g (c.l t) a = some (g', l', obs)) (hadm : Obs.ret (some true) ∈ obs) :
    (c.l t = .b0 .can ∧ (c.g.obj c.g.cur).kind = .closed ∧ g' = c.g ∧ l' = .idle ∧ obs = [.ret (some true)]) ∨
    (∃ o r1 r2, c.l t = .c3 o r1 r2 ∧ c.g.cur = o ∧
      (c.g.obj o).kind ≠ .closed ∧ (c.g.obj o).dur > 0 ∧ (c.g.obj o).timeout ≤ r1 ∧
      obs = [.transition o .half, .admitted o r1, .cbState .half, .ret (some true)] ∧ l' = .idle ∧
      g' = publish c.g o ⟨.half, wrap64 (r2 + cfg.trial), cfg.trial, 0⟩ ∧
      g'.cur = o + 1 ∧ g'.obj g'.cur = ⟨.half, wrap64 (r2 + cfg.trial), cfg.trial, 0⟩) := by
  obtain ⟨hg, hl, hr⟩ := reach_step hc hs
  generalize hlt : c.l t = lt at hl hr
  induction hr
  case b0ClosedCan hk => exact .inl ⟨rfl, hk, rfl, rfl, rfl⟩
  case c3Win o r1 r2 hcur =>
    exact .inr ⟨o, r1, r2, rfl, hcur, hl.2.1, hl.2.2.1, hl.2.2.2, rfl, rfl, rfl, hcur ▸ hg.1.symm, obj_publish_cur _ _ _⟩
  all_goals simp at hadm

/-- **open_rejects**: a caller that loaded a non-CLOSED object `o` and then reads a ticker value before
`o`'s deadline is rejected (one `cbRejected`, returns false) and changes nothing — whatever the other
threads do or have done (and this step is enabled). -/
theorem open_rejects (t : Tid) (g : CG) (o : Nat) (r1 : Int) (h : r1 < (g.obj o).timeout) :
    step cfg t g (.c1 o) (.tick r1) = some (g, .idle, [.cbRejected, .ret (some false)]) := by
  have : ¬ (g.obj o).timeout ≤ r1 := by omega
  unfold step; simp only [this, if_false]

/-- the object a `CanRequest` caller in `c1 o` holds is a timed (OPEN or HALF_OPEN) object whose
immutable deadline is the one it will compare its reading against — no other thread can change it -/
theorem open_rejects_held (c : Garr.Conc.Config MM) (hc : Reach MM c) (t : Tid) (o : Nat) (hl : c.l t = .c1 o) :
    o ≤ c.g.cur ∧ (c.g.obj o).kind ≠ .closed ∧ (c.g.obj o).dur > 0 := by
  have := (binv_reach c hc).2 t
  rw [hl] at this
  exact this

/-- a timed object without duration rejects immediately (`timedOutTimeNanos ≤ 0` never times out) -/
theorem untimed_rejects (t : Tid) (g : CG) (hk : (g.obj g.cur).kind ≠ .closed) (hd : ¬ (g.obj g.cur).dur > 0) :
    step cfg t g (.b0 .can) .tau = some (g, .idle, [.cbRejected, .ret (some false)]) := by
  unfold step
  cases hkk : (g.obj g.cur).kind
  · exact absurd hkk hk
  all_goals simp only [hkk, hd, if_false]

/-- whenever a thread holds an object that is no longer current, a CAS from that object has succeeded -/
theorem stale_replaced (c : Garr.Conc.Config MM) (hc : Reach MM c) (t : Tid) (o : Nat)
    (hh : L.held (c.l t) = some o) (hne : c.g.cur ≠ o) : o < c.g.cur ∧ o ∈ c.g.casWins := by
  obtain ⟨hg, hl⟩ := binv_reach c hc
  have hle := (hl t).held_le hh
  exact ⟨by omega, hg.replaced hle hne⟩

/-- **someone_wins**: if a `CanRequest` caller's CAS fails (it is rejected at `c3`), then the object it
loaded is not current any more and a CAS from that very object has succeeded — some other operation
(a trial admission or a reported result) won. -/
theorem someone_wins (c : Garr.Conc.Config MM) (hc : Reach MM c) (t : Tid) (a : Act) (g' : CG) (l' : L)
    (obs : List Obs) (o : Nat) (r1 r2 : Int) (hl : c.l t = .c3 o r1 r2)
    (hs : step cfg t c.g (c.l t) a = some (g', l', obs)) (hrej : Obs.cbRejected ∈ obs) :
    c.g.cur ≠ o ∧ o < c.g.cur ∧ o ∈ c.g.casWins ∧
    g' = c.g ∧ l' = .idle ∧ obs = [.cbRejected, .ret (some false)] := by
  have hr := step_sound hs
  have hh : L.held (c.l t) = some o := by rw [hl]; rfl
  rw [hl] at hr
  cases hr
  case c3Win => simp at hrej
  case c3Lose hne =>
    obtain ⟨h1, h2⟩ := stale_replaced c hc t o hh hne
    exact ⟨hne, h1, h2, rfl, rfl, rfl⟩

/-- the same, read off the log of a run: the winner's `transition o _` is in the log -/
theorem someone_wins_log (s : List (Tid × Act)) (t : Tid) (a : Act) (g' : CG) (l' : L) (obs : List Obs)
    (o : Nat) (r1 r2 : Int)
    (hl : (run MM (Config.init MM) s).1.l t = .c3 o r1 r2)
    (hs : step cfg t (run MM (Config.init MM) s).1.g ((run MM (Config.init MM) s).1.l t) a = some (g', l', obs))
    (hrej : Obs.cbRejected ∈ obs) :
    o ∈ transSrcs (run MM (Config.init MM) s).2 := by
  have hc := reach_run MM _ Reach.init s
  have h := (someone_wins _ hc t a g' l' obs o r1 r2 hl hs hrej).2.2.1
  rw [(transitions_in_order s).2] at h
  exact List.mem_reverse.mp h

/-- **report_once**: a step emitting `transition o k` with `k ≠ HALF_OPEN` is the successful CAS of a
report: a success on the HALF_OPEN object `o` (new CLOSED object with a fresh, empty window), a failure
on the HALF_OPEN object `o` (new OPEN object for a full window from its reading), or the tripping
failure on the CLOSED object `o`.  By `cas_unique`, concurrent reports on one object cause one transition. -/
theorem report_once (c : Garr.Conc.Config MM) (hc : Reach MM c) (t : Tid) (a : Act) (g' : CG) (l' : L)
    (obs : List Obs) (hs : step cfg t c.g (c.l t) a = some (g', l', obs))
    (o : Nat) (k : Kind) (hk : k ≠ .half) (hm : Obs.transition o k ∈ obs) :
    c.g.cur = o ∧ g'.cur = o + 1 ∧ l' = .idle ∧ obs = [.transition o k, .cbState k, .ret none] ∧
    ((∃ r1 r2, c.l t = .h3 .succ o r1 r2 ∧ (c.g.obj o).kind = .half ∧ k = .closed ∧
        g'.obj g'.cur = ⟨.closed, wrap64 (r2 + 0), 0, c.g.wins.length⟩ ∧
        g'.wins = c.g.wins ++ [⟨c.g.buckets.length, [], (0, 0)⟩] ∧
        g'.buckets = c.g.buckets ++ [⟨r1, 0, 0⟩] ∧
        g'.win c.g.wins.length = ⟨c.g.buckets.length, [], (0, 0)⟩ ∧
        g'.bucket c.g.buckets.length = ⟨r1, 0, 0⟩) ∨
     (∃ r1 r2, c.l t = .h3 .fail o r1 r2 ∧ (c.g.obj o).kind = .half ∧ k = .opn ∧
        g'.obj g'.cur = ⟨.opn, wrap64 (r1 + cfg.openW), cfg.openW, 0⟩ ∧
        g'.wins = c.g.wins ∧ g'.buckets = c.g.buckets) ∨
     (∃ e r, c.l t = .f2 o e r ∧ (c.g.obj o).kind = .closed ∧ k = .opn ∧
        g'.obj g'.cur = ⟨.opn, wrap64 (r + cfg.openW), cfg.openW, 0⟩ ∧
        g'.wins = c.g.wins ∧ g'.buckets = c.g.buckets)) := by
  obtain ⟨hg, hl, hr⟩ := reach_step hc hs
  have hlen := hg.1
  have hne := List.ne_nil_of_mem (mem_transOf hm)
  generalize hlt : c.l t = lt at hl hr
  induction hr
  case c3Win => simp at hm; exact absurd hm.2 hk
  case f2Win o' e r hcur =>
    simp at hm; obtain ⟨rfl, rfl⟩ := hm
    exact ⟨hcur, hcur ▸ hlen.symm, rfl, rfl, .inr (.inr ⟨e, r, rfl, hl.2, rfl, obj_publish_cur _ _ _, rfl, rfl⟩)⟩
  case h3SuccWin o' r1 r2 hcur =>
    simp at hm; obtain ⟨rfl, rfl⟩ := hm
    refine ⟨hcur, hcur ▸ hlen.symm, rfl, rfl, .inl ⟨r1, r2, rfl, hl.2.1, rfl, obj_publish_cur _ _ _, rfl, rfl, ?_, ?_⟩⟩
    · simp [publish, CG.win, getD']
    · simp [publish, CG.bucket, getD']
  case h3OtherWin cl o' r1 r2 hns hcur =>
    simp at hm; obtain ⟨rfl, rfl⟩ := hm
    obtain rfl : cl = .fail := by
      cases cl
      · exact absurd rfl hl.2.2
      · exact absurd rfl hns
      · rfl
    exact ⟨hcur, hcur ▸ hlen.symm, rfl, rfl, .inr (.inl ⟨r1, r2, rfl, hl.2.1, rfl, obj_publish_cur _ _ _, rfl, rfl⟩)⟩
  -- every other step emits no transition
  all_goals exact absurd rfl hne

/-- **open_ignores_reports**: `OnSuccess`/`OnFailure` loading an OPEN current object return without
notification and without changing anything (and this step is enabled). -/
theorem open_ignores_reports (t : Tid) (g : CG) (cl : Call) (hc : cl ≠ .can) (hk : (g.obj g.cur).kind = .opn) :
    step cfg t g (.b0 cl) .tau = some (g, .idle, [.ret none]) := by
  unfold step
  cases cl
  · exact absurd rfl hc
  all_goals simp only [hk]

/-- an admission is the successful CAS to HALF_OPEN: `admitted o r` is emitted only together with
`transition o HALF_OPEN`, in the same step -/
theorem admitted_is_transition (t : Tid) (g : CG) (l : L) (a : Act) (g' : CG) (l' : L) (obs : List Obs)
    (hs : step cfg t g l a = some (g', l', obs)) (o : Nat) (r : Int) (hm : Obs.admitted o r ∈ obs) :
    obs = [.transition o .half, .admitted o r, .cbState .half, .ret (some true)] :=
  (step_sound hs).shape.of_admitted hm

/-- conversely a transition to HALF_OPEN is an admission -/
theorem half_transition_is_admitted (t : Tid) (g : CG) (l : L) (a : Act) (g' : CG) (l' : L) (obs : List Obs)
    (hs : step cfg t g l a = some (g', l', obs)) (o : Nat) (hm : Obs.transition o .half ∈ obs) :
    ∃ r, obs = [.transition o .half, .admitted o r, .cbState .half, .ret (some true)] := by
  rcases (step_sound hs).shape.of_transition hm with ⟨hk, _⟩ | ⟨_, h⟩
  · exact absurd rfl hk
  · exact h

/-- **one_trial** (log form): in every run, each `admitted o r` entry of the log is immediately preceded by
the entry `transition o HALF_OPEN` of the same thread -/
theorem one_trial (s : List (Tid × Act)) (pre post : List (Tid × Obs)) (t : Tid) (o : Nat) (r : Int)
    (h : (run MM (Config.init MM) s).2 = pre ++ (t, Obs.admitted o r) :: post) :
    ∃ pre', pre = pre' ++ [(t, Obs.transition o .half)] :=
  run_admitted_after_transition s _ Reach.init pre post t o r h

/-- hence between two admissions there is a transition: between two consecutive `transition`
observations at most one `admitted` occurs -/
theorem one_trial_between (s : List (Tid × Act)) (pre mid post : List (Tid × Obs))
    (ta tb : Tid) (oa ob : Nat) (ra rb : Int)
    (h : (run MM (Config.init MM) s).2 =
      pre ++ (ta, Obs.admitted oa ra) :: (mid ++ (tb, Obs.admitted ob rb) :: post)) :
    ∃ mid', mid = mid' ++ [(tb, Obs.transition ob .half)] := by
  obtain ⟨pre', hp⟩ := one_trial s (pre ++ (ta, .admitted oa ra) :: mid) post tb ob rb (by rw [h, List.append_assoc]; rfl)
  -- the entry before the second admission is the last of `pre ++ admitted :: mid`: it is not the first admission
  rcases List.eq_nil_or_concat mid with rfl | ⟨mid', z, rfl⟩
  · cases (List.append_inj' hp rfl).2
  · rw [List.concat_eq_append, ← List.cons_append, ← List.append_assoc] at hp
    cases (List.append_inj' hp rfl).2
    exact ⟨mid', List.concat_eq_append ..⟩

/-- and at most one caller is admitted per state object: the admission sources of a run are a sublist of
its transition sources, hence pairwise distinct -/
theorem one_admission_per_object (s : List (Tid × Act)) :
    (admSrcs (run MM (Config.init MM) s).2).Sublist (transSrcs (run MM (Config.init MM) s).2) ∧
    (admSrcs (run MM (Config.init MM) s).2).Nodup := by
  have h := (run_transitions (cfg := cfg) (t1 := t1) (t2 := t2) s _ Reach.init).2.2.2
  exact ⟨h, List.Nodup.sublist h (cas_unique s)⟩

/-- **notify_once**: the observations of a step have one of the seven shapes of `Garr.Breaker.Shape`
(the window layer's ghost markers `recorded`/`rolled` are ignored: they are neither callbacks nor responses) -/
theorem notify_once (t : Tid) (g : CG) (l : L) (a : Act) (g' : CG) (l' : L) (obs : List Obs)
    (hs : step cfg t g l a = some (g', l', obs)) : Shape obs :=
  (step_sound hs).shape

/-- a step contains at most one callback observation -/
theorem at_most_one_callback (t : Tid) (g : CG) (l : L) (a : Act) (g' : CG) (l' : L) (obs : List Obs)
    (hs : step cfg t g l a = some (g', l', obs)) : (obs.filter Obs.isCb).length ≤ 1 := by
  cases (step_sound hs).shape
  case quiet ho => rw [← filter_isCb_core, ho]; simp
  case retNone ho => rw [← filter_isCb_core, ho]; simp [List.filter, Obs.isCb]
  all_goals simp [List.filter, Obs.isCb]

/-- a `transition` is followed in the same step by exactly one `cbState` of the same kind, and no other callback -/
theorem transition_notified (t : Tid) (g : CG) (l : L) (a : Act) (g' : CG) (l' : L) (obs : List Obs)
    (hs : step cfg t g l a = some (g', l', obs)) (o : Nat) (k : Kind) (hm : Obs.transition o k ∈ obs) :
    (obs = [.transition o k, .cbState k, .ret none] ∨
      ∃ r, k = .half ∧ obs = [.transition o .half, .admitted o r, .cbState .half, .ret (some true)]) ∧
    obs.filter Obs.isCb = [.cbState k] := by
  rcases (step_sound hs).shape.of_transition hm with ⟨_, rfl⟩ | ⟨rfl, r, rfl⟩
  · exact ⟨.inl rfl, rfl⟩
  · exact ⟨.inr ⟨r, rfl, rfl⟩, rfl⟩

/-- a `cbState` callback is emitted only by a transition to that kind -/
theorem cbState_only_on_transition (t : Tid) (g : CG) (l : L) (a : Act) (g' : CG) (l' : L) (obs : List Obs)
    (hs : step cfg t g l a = some (g', l', obs)) (k : Kind) (hm : Obs.cbState k ∈ obs) :
    ∃ o, Obs.transition o k ∈ obs := by
  cases (step_sound hs).shape
  case quiet ho => have := mem_core hm rfl; rw [ho] at this; simp at this
  case retNone ho => have := mem_core hm rfl; rw [ho] at this; simp at this
  case trial o' r' => simp at hm; subst hm; exact ⟨o', by simp⟩
  case moved o' k' hk => simp at hm; subst hm; exact ⟨o', by simp⟩
  all_goals simp at hm

/-- a rejection (`ret (some false)`) is preceded in the same step by exactly one `cbRejected`, and
`cbRejected` occurs only with `ret (some false)`: both say the step's observations are exactly these two -/
theorem rejected_notified (t : Tid) (g : CG) (l : L) (a : Act) (g' : CG) (l' : L) (obs : List Obs)
    (hs : step cfg t g l a = some (g', l', obs)) :
    (Obs.ret (some false) ∈ obs → obs = [.cbRejected, .ret (some false)]) ∧
    (Obs.cbRejected ∈ obs → obs = [.cbRejected, .ret (some false)]) := by
  cases (step_sound hs).shape
  case quiet ho =>
    constructor <;> intro hm <;> (have := mem_core hm rfl; rw [ho] at this; simp at this)
  case retNone ho =>
    constructor <;> intro hm <;> (have := mem_core hm rfl; rw [ho] at this; simp at this)
  all_goals (constructor <;> intro hm <;> simp at hm ⊢)

def exCfg : Breaker.Config :=
  { thr := F64.zero false, minReq := 1, trial := 5, openW := 10, window := 100, interval := 10, listeners := 1 }

/-- thread 0 reports two failures; the second one (reading 10) rolls the window, sees 0/1 and trips the
circuit with reading 10: OPEN until 20.  Then threads 1 and 2 race `CanRequest`: both load the OPEN object,
both read an elapsed ticker (20 resp. 21), both reach the CAS; thread 1 goes first. -/
def exRace : List (Tid × Act) :=
  [(0, .call .fail), (0, .tau), (0, .tick 0), (0, .tau),
   (0, .call .fail), (0, .tau), (0, .tick 10), (0, .tau), (0, .tau), (0, .tau), (0, .tick 10), (0, .tau),
   (1, .call .can), (2, .call .can), (1, .tau), (2, .tau),
   (1, .tick 20), (2, .tick 21), (2, .tick 21), (1, .tick 20),
   (1, .tau), (2, .tau)]

/-- afterwards thread 3 asks while the trial is pending (reading 24 < 25: rejected), and again when the
trial interval has elapsed without a report (reading 26: admitted as the next trial) -/
def exMore : List (Tid × Act) :=
  [(3, .call .can), (3, .tau), (3, .tick 24),
   (3, .call .can), (3, .tau), (3, .tick 26), (3, .tick 26), (3, .tau)]

def exLog (s : List (Tid × Act)) : List (Tid × Obs) := (run (M exCfg 0 0) (Config.init _) s).2

/-- exactly one of the two racing callers is admitted, the other is rejected -/
example : exLog exRace =
    [(0, .recorded 0 0 false), (0, .ret none),
     (0, .rolled 0 10 0 1), (0, .recorded 0 10 false),
     (0, .transition 0 .opn), (0, .cbState .opn), (0, .ret none),
     (1, .transition 1 .half), (1, .admitted 1 20), (1, .cbState .half), (1, .ret (some true)),
     (2, .cbRejected), (2, .ret (some false))] := by
  decide +kernel

example : admSrcs (exLog exRace) = [1] ∧ transSrcs (exLog exRace) = [0, 1] := by
  decide +kernel

/-- with the other order of the two CASes the other caller is admitted -/
example : exLog (exRace.take 20 ++ [(2, .tau), (1, .tau)]) =
    [(0, .recorded 0 0 false), (0, .ret none),
     (0, .rolled 0 10 0 1), (0, .recorded 0 10 false),
     (0, .transition 0 .opn), (0, .cbState .opn), (0, .ret none),
     (2, .transition 1 .half), (2, .admitted 1 21), (2, .cbState .half), (2, .ret (some true)),
     (1, .cbRejected), (1, .ret (some false))] := by
  decide +kernel

/-- a caller before the deadline is rejected whatever it interleaves with -/
example : exLog (exRace.take 12 ++ [(1, .call .can), (1, .tau), (1, .tick 19)]) =
    [(0, .recorded 0 0 false), (0, .ret none),
     (0, .rolled 0 10 0 1), (0, .recorded 0 10 false),
     (0, .transition 0 .opn), (0, .cbState .opn), (0, .ret none),
     (1, .cbRejected), (1, .ret (some false))] := by
  decide +kernel

/-- pending trial rejects; elapsed trial interval admits the next single trial -/
example : (exLog (exRace ++ exMore)).drop 13 =
    [(3, .cbRejected), (3, .ret (some false)),
     (3, .transition 2 .half), (3, .admitted 2 26), (3, .cbState .half), (3, .ret (some true))] := by
  decide +kernel

/-- a reported success closes the circuit, a concurrent reported failure on the same HALF_OPEN object
loses its CAS: exactly one transition -/
example : (exLog (exRace ++
      [(4, .call .succ), (5, .call .fail), (4, .tau), (5, .tau), (4, .tick 22), (5, .tick 22),
       (4, .tau), (4, .tick 23), (4, .tau), (5, .tau), (6, .call .can), (6, .tau)])).drop 13 =
    [(4, .transition 2 .closed), (4, .cbState .closed), (4, .ret none),
     (5, .ret none),
     (6, .ret (some true))] := by
  decide +kernel

end Garr.Props.C03
