import Garr.Retry.Lemmas
import Garr.Retry.SatLemmas
/-!
# C05 — back-off delays stay inside their documented envelope

All statements quantify over every parameter value, every attempt number, every outcome of the random source
(`ws`) and every value of `math.Pow` (`pw`).  The equations of `next` and the integer side of the jitter layer are
in `Garr/Retry/Lemmas.lean`, `saturatedMultiply` as float operations in `Garr/Retry/SatLemmas.lean`; `WF`, the
constructors' domains with `int64` bounds, is defined here for `stack_envelope`.
-/
namespace Garr.Props.C05
open Garr Garr.Retry

/-- a fixed back-off returns its delay -/
theorem fixed_const (pw : F64) (n d : Int) (ws : List Nat) : next pw n (.fixed d) ws = (d, ws) := rfl

/-- a limit wrapper returns a negative value exactly from attempt `limit` on, otherwise the wrapped delay -/
theorem limit_exact (pw : F64) (n k : Int) (b : Backoff) (ws : List Nat) :
    (k ≤ n → (next pw n (.limit b k) ws).1 = -1) ∧
    (n < k → next pw n (.limit b k) ws = next pw n b ws) := by
  rw [next_limit]
  exact ⟨fun h => by rw [if_pos h], fun h => if_neg (Int.not_le.2 h)⟩

/-- with a non-negative wrapped delay, the limit wrapper is negative *exactly* from attempt `limit` on -/
theorem limit_negative_iff (pw : F64) (n k : Int) (b : Backoff) (ws : List Nat)
    (hb : 0 ≤ (next pw n b ws).1) : (next pw n (.limit b k) ws).1 < 0 ↔ k ≤ n := by
  rw [next_limit]
  by_cases h : k ≤ n
  · rw [if_pos h]; exact ⟨fun _ => h, fun _ => Int.negSucc_lt_zero 0⟩
  · rw [if_neg h]; exact ⟨fun hlt => absurd hlt (Int.not_lt.2 hb), fun hk => absurd hk h⟩

/-- a random back-off with constructor-domain bounds returns a value in `[min, max]` for every state of the
random source -/
theorem random_range_any (pw : F64) (n lo hi : Int) (ws : List Nat)
    (h0 : 0 ≤ lo) (h1 : lo ≤ hi) (hhi : hi ≤ maxI64) :
    lo ≤ (next pw n (.random lo hi) ws).1 ∧ (next pw n (.random lo hi) ws).1 ≤ hi := by
  rw [next_random]
  by_cases hne : lo ≠ hi
  · have hpos : 0 < hi - lo := Int.sub_pos.2 (Int.lt_iff_le_and_ne.2 ⟨h1, hne⟩)
    have hle : hi - lo ≤ maxI64 := Int.le_trans (Int.sub_le_self hi h0) hhi
    rw [if_pos hne, wrap64_of_nonneg (Int.le_of_lt hpos) hle]
    have hr := nr_range hpos hle ws
    have hr0 : 0 ≤ (nr (hi - lo) ws).1 := Int.le_trans (by decide) hr.1
    rw [wrap64_of_nonneg (Int.add_nonneg hr0 h0) (Int.le_trans (Int.add_le_of_le_sub_right hr.2) hhi)]
    exact ⟨Int.le_add_of_nonneg_left hr0, Int.add_le_of_le_sub_right hr.2⟩
  · rw [if_neg hne]; exact ⟨Int.le_refl _, h1⟩

/-- a random back-off built by the constructor returns a value in `[min, max]`, for every outcome of the
random source (two words available whenever it draws) -/
theorem random_range (pw : F64) (n lo hi : Int) (u1 u2 : Nat) (rest : List Nat)
    (hmk : mkRandom lo hi = some (.random lo hi)) (hhi : hi ≤ maxI64) :
    lo ≤ (next pw n (.random lo hi) (u1 :: u2 :: rest)).1 ∧ (next pw n (.random lo hi) (u1 :: u2 :: rest)).1 ≤ hi := by
  obtain ⟨h0, h1, _⟩ := (mkRandom_iff lo hi _).1 hmk
  exact random_range_any pw n lo hi _ h0 h1 hhi

/-- a jitter wrapper passes a "stop" (or zero) delay through unchanged and draws nothing -/
theorem jitter_stop_passthrough (pw : F64) (n : Int) (b : Backoff) (lo hi : F64) (ws : List Nat)
    (h : (next pw n b ws).1 ≤ 0) : next pw n (.jitter b lo hi) ws = next pw n b ws := by
  rw [next_jitter, if_pos h]

/-- a jitter wrapper never returns a negative delay for a positive wrapped delay (never turns a retry into a stop) -/
theorem jitter_nonneg (pw : F64) (n : Int) (b : Backoff) (lo hi : F64) (ws : List Nat)
    (h : 0 < (next pw n b ws).1) : 0 ≤ (next pw n (.jitter b lo hi) ws).1 := by
  rw [next_jitter, if_neg (Int.not_le.2 h)]
  exact jitterPick_nonneg ..

/-- an exponential back-off never exceeds its maximum, and attempt 1 returns the initial delay -/
theorem expo_le_max (pw mu : F64) (n i m : Int) (ws : List Nat) (him : i ≤ m) :
    (next pw n (.expo i m mu) ws).1 ≤ m ∧ (n = 1 → (next pw n (.expo i m mu) ws).1 = i) :=
  ⟨next_expo_le him (Int.le_refl _) .., fun h => by rw [next_expo, if_pos h]⟩

-- non-vacuity: the constructor accepts a real range
example : mkRandom 3 10 = some (.random 3 10) := rfl

/-- for ANY operands (NaN, negative, infinite, …) the result is an `int64`; a product below `-2^63` is
converted by `CVTTSD2SQ` to `-2^63` -/
theorem satMul_inI64 (left : Int) (right : F64) : inI64 (satMul left right) := by
  rw [satMul_eq_sat]
  unfold inI64 minI64 maxI64
  split
  · omega
  · exact F64.sat_range _

/-- for a non-negative `int64` left operand and a multiplier that is NaN, `+∞` or `≥ 0`, the result is in
`[0, MaxInt64]` -/
theorem satMul_range (left : Int) (right : F64) (h0 : 0 ≤ left) (h1 : left ≤ maxI64)
    (hr : right = .nan ∨ F64.le (F64.zero false) right = true) :
    0 ≤ satMul left right ∧ satMul left right ≤ maxI64 := by
  refine ⟨?_, (satMul_inI64 left right).2⟩
  rcases Int.lt_or_eq_of_le h0 with hpos | rfl
  · rw [satMul_of_pos hpos]
    rcases hr with rfl | hr
    · rw [F64.mul_nan_right, F64.sat_nan]; decide
    · exact F64.satmul_nonneg hpos h1 hr
  · exact Int.le_refl 0

/-- the sign hypothesis is needed: a negative multiplier gives a negative result, and a product below
`-2^63` is converted to `MinInt64` -/
example : satMul 5 (.fin true (3 * 2^51) (-51)) = -15 := by decide +kernel
example : satMul (2^62) (.fin true (2^52) (-42)) = minI64 := by decide +kernel

theorem satMul_mono (left : Int) (p p' : F64) (h0 : 0 ≤ left) (h1 : left ≤ maxI64)
    (h : F64.le p p' = true) : satMul left p ≤ satMul left p' := by
  rcases Int.lt_or_eq_of_le h0 with hpos | rfl
  · rw [satMul_of_pos hpos, satMul_of_pos hpos]; exact F64.satmul_mono hpos h1 h
  · exact Int.le_refl 0

/-- the exponential delay is non-decreasing in the value of `math.Pow` (neither NaN: `le` is false on NaN) -/
theorem expo_monotone (pw pw' mu : F64) (n init max : Int) (ws : List Nat)
    (h0 : 0 ≤ init) (h1 : init ≤ maxI64) (h : F64.le pw pw' = true) :
    (next pw n (.expo init max mu) ws).1 ≤ (next pw' n (.expo init max mu) ws).1 :=
  next_expo_mono Iff.rfl (satMul_mono init pw pw' h0 h1 h) ..

theorem satMul_ge_left (left : Int) (pw : F64) (h0 : 0 ≤ left) (h1 : left ≤ maxI64)
    (hpw : F64.le F64.nextUpOne pw = true) : left ≤ satMul left pw := by
  rcases Int.lt_or_eq_of_le h0 with hpos | rfl
  · rw [satMul_of_pos hpos]; exact F64.satmul_ge hpos h1 hpw
  · exact Int.le_refl 0

/-- **never below initial**: for `0 ≤ init ≤ max ≤ MaxInt64` and `Pow(multiplier, n-1) ≥ nextUp(1)`
(including `+∞`), every attempt's delay is at least `init` -/
theorem expo_ge_initial (pw mu : F64) (n init max : Int) (ws : List Nat)
    (h0 : 0 ≤ init) (him : init ≤ max) (hmax : max ≤ maxI64)
    (hpw : F64.le F64.nextUpOne pw = true) :
    init ≤ (next pw n (.expo init max mu) ws).1 :=
  le_next_expo (Int.le_refl _) (satMul_ge_left init pw h0 (Int.le_trans him hmax) hpw) him ..

/-- the hypothesis `pw ≥ nextUp(1)` is needed: with `pw = 1.0` exactly and `init = 2^53 + 1` the second
attempt's delay is `2^53 < init` (`float64(init)` rounds down) -/
example : (next F64.one 2 (.expo (2^53 + 1) maxI64 F64.one) []).1 = 2^53 ∧ (2^53 : Int) < 2^53 + 1 := by
  decide +kernel

/-- the counterexample needs `init ≥ 2^53`: below `2^53` the conversion `float64(init)` is exact and
`pw ≥ 1.0` is enough -/
theorem expo_ge_initial_small (pw mu : F64) (n init max : Int) (ws : List Nat)
    (h0 : 0 ≤ init) (hsmall : init < 2^53) (him : init ≤ max)
    (hpw : F64.le F64.one pw = true) :
    init ≤ (next pw n (.expo init max mu) ws).1 := by
  refine le_next_expo (Int.le_refl _) ?_ him ..
  rcases Int.lt_or_eq_of_le h0 with hpos | rfl
  · rw [satMul_of_pos hpos]; exact F64.satmul_ge_small hpos hsmall hpw
  · exact Int.le_refl 0

/-- attempt 2 of a constructor-built exponential back-off (`math.Pow(mu, 1) = mu` exactly): the
constructor's check `multiplier > 1` already gives the hypothesis of `expo_ge_initial` -/
theorem expo_ge_initial_attempt2 (mu : F64) (n init max : Int) (b : Backoff) (ws : List Nat)
    (hmu : F64.IsF64 mu) (hmk : mkExpo init max mu = some b) (hmax : max ≤ maxI64) :
    init ≤ (next mu n b ws).1 := by
  obtain ⟨hlt, h0, him, rfl⟩ := (mkExpo_iff init max mu b).1 hmk
  exact expo_ge_initial mu mu n init max ws h0 him hmax (F64.nextUpOne_le_of_one_lt hmu hlt)

/-- non-decreasing in the attempt number whenever `math.Pow` is: for attempts `1 ≤ n ≤ n'` with
`pw = Pow(mu, n-1)`, `pw' = Pow(mu, n'-1)` -/
theorem expo_monotone_attempts (pw pw' mu : F64) (n n' init max : Int) (ws ws' : List Nat)
    (h0 : 0 ≤ init) (him : init ≤ max) (hmax : max ≤ maxI64)
    (hpw' : n' ≠ 1 → F64.le F64.nextUpOne pw' = true) (hle : n ≠ 1 → F64.le pw pw' = true)
    (hn : 1 ≤ n) (hnn : n ≤ n') :
    (next pw n (.expo init max mu) ws).1 ≤ (next pw' n' (.expo init max mu) ws').1 := by
  by_cases h1 : n = 1
  · rw [next_expo pw, if_pos h1]
    by_cases h1' : n' = 1
    · rw [next_expo, if_pos h1']
    · exact expo_ge_initial pw' mu n' init max ws' h0 him hmax (hpw' h1')
  · exact next_expo_mono (iff_of_false h1 fun e => h1 (Int.le_antisymm (e ▸ hnn) hn))
      (satMul_mono init pw pw' h0 (Int.le_trans him hmax) (hle h1)) ..

/-- `0 ≤ minJ ≤ maxJ ≤ MaxInt64` for a positive wrapped delay and rates accepted by the constructor -/
theorem jitter_bounds (d : Int) (b j : Backoff) (lo hi : F64)
    (hmk : mkJitter (some b) lo hi = some j) (hd : 0 < d) (hd' : d ≤ maxI64) :
    0 ≤ satMul d (F64.add F64.one lo) ∧
    satMul d (F64.add F64.one lo) ≤ satMul d (F64.add F64.one hi) ∧
    satMul d (F64.add F64.one hi) ≤ maxI64 := by
  obtain ⟨a1, a2, b1, b2, c, _⟩ := (mkJitter_iff ..).1 hmk
  have hlh := F64.le_of_lt_eq_false (ne_nan_of_le a2).1 (ne_nan_of_le b1).2 c
  obtain ⟨m1, m2⟩ := F64.add_one_mono a1 hlh b2
  exact ⟨(satMul_range d _ (Int.le_of_lt hd) hd' (Or.inr m2)).1,
    satMul_mono d _ _ (Int.le_of_lt hd) hd' m1, (satMul_inI64 d _).2⟩

/-- **jitter band**: for a positive wrapped delay `d ≤ MaxInt64` and rates accepted by the constructor, the
jittered delay lies in `[saturatedMultiply(d, 1+minRate), saturatedMultiply(d, 1+maxRate)]` and is `≥ 0`,
for every state of the random source (in particular when two words are available for the draw) -/
theorem jitter_band (pw : F64) (n : Int) (b j : Backoff) (lo hi : F64) (ws : List Nat)
    (hmk : mkJitter (some b) lo hi = some j)
    (hd : 0 < (next pw n b ws).1) (hd' : (next pw n b ws).1 ≤ maxI64) :
    satMul (next pw n b ws).1 (F64.add F64.one lo) ≤ (next pw n (.jitter b lo hi) ws).1 ∧
    (next pw n (.jitter b lo hi) ws).1 ≤ satMul (next pw n b ws).1 (F64.add F64.one hi) ∧
    0 ≤ (next pw n (.jitter b lo hi) ws).1 := by
  obtain ⟨h0, h1, h2⟩ := jitter_bounds _ b j lo hi hmk hd hd'
  rw [next_jitter, if_neg (Int.not_le.2 hd)]
  exact ⟨(jitterPick_band h0 h1 h2 _).1, (jitterPick_band h0 h1 h2 _).2, jitterPick_nonneg ..⟩

/-- in the non-overflow case the result is exactly `minJ + draw`, `0 ≤ draw ≤ maxJ - minJ` (no `int64`
wrap-around happens anywhere); in the overflow case (`minJ = 0`, `maxJ = MaxInt64`) the result is 0 -/
theorem jitter_exact (pw : F64) (n : Int) (b j : Backoff) (lo hi : F64) (ws : List Nat)
    (hmk : mkJitter (some b) lo hi = some j)
    (hd : 0 < (next pw n b ws).1) (hd' : (next pw n b ws).1 ≤ maxI64) :
    let minJ := satMul (next pw n b ws).1 (F64.add F64.one lo)
    let maxJ := satMul (next pw n b ws).1 (F64.add F64.one hi)
    (maxJ - minJ + 1 ≤ maxI64 →
      (next pw n (.jitter b lo hi) ws).1 = minJ + (nrIncl (maxJ - minJ + 1) (next pw n b ws).2).1 ∧
      0 ≤ (nrIncl (maxJ - minJ + 1) (next pw n b ws).2).1 ∧
      (nrIncl (maxJ - minJ + 1) (next pw n b ws).2).1 ≤ maxJ - minJ) ∧
    (maxI64 < maxJ - minJ + 1 → minJ = 0 ∧ maxJ = maxI64 ∧ (next pw n (.jitter b lo hi) ws).1 = 0) := by
  intro minJ maxJ
  obtain ⟨h0, h1, h2⟩ : 0 ≤ minJ ∧ minJ ≤ maxJ ∧ maxJ ≤ maxI64 := jitter_bounds _ b j lo hi hmk hd hd'
  rw [next_jitter, if_neg (Int.not_le.2 hd)]
  exact ⟨fun h => ⟨jitterPick_fst h0 h1 h2 h _, jitterDraw_range h1 _⟩,
    fun h => ⟨(jitter_overflow_eq h0 h2 h).1, (jitter_overflow_eq h0 h2 h).2,
      jitterPick_overflow h0 h2 h _⟩⟩

/-- the overflow case is reachable: ±100 % jitter on a delay `≥ 2^62` always yields 0 -/
example (ws : List Nat) :
    (next F64.one 1 (.jitter (.fixed (2^62)) (F64.neg F64.one) F64.one) ws).1 = 0 := by
  have e1 : satMul (2^62) (F64.add F64.one (F64.neg F64.one)) = 0 := by decide +kernel
  have e2 : satMul (2^62) (F64.add F64.one F64.one) = 2^63 - 1 := by decide +kernel
  simp only [next_jitter, fixed_const, e1, e2]
  rw [if_neg (by decide)]
  exact jitterPick_overflow (by decide) (by decide) (by decide) ws

/-- the parameters are in the constructors' domains, with `int64` bounds -/
def WF : Backoff → Prop
  | .fixed d => 0 ≤ d ∧ d ≤ maxI64
  | .random lo hi => 0 ≤ lo ∧ lo ≤ hi ∧ hi ≤ maxI64
  | .expo init max mu => F64.lt F64.one mu = true ∧ 0 ≤ init ∧ init ≤ max ∧ max ≤ maxI64
  | .jitter b lo hi => WF b ∧ mkJitter (some b) lo hi = some (.jitter b lo hi)
  | .limit b k => WF b ∧ 0 < k

theorem mkFixed_WF {d : Int} {b : Backoff} (h : mkFixed d = some b) (hd : d ≤ maxI64) : WF b := by
  obtain ⟨h0, rfl⟩ := (mkFixed_iff d b).1 h
  exact ⟨h0, hd⟩

theorem mkRandom_WF {lo hi : Int} {b : Backoff} (h : mkRandom lo hi = some b) (hh : hi ≤ maxI64) : WF b := by
  obtain ⟨h0, h1, rfl⟩ := (mkRandom_iff lo hi b).1 h
  exact ⟨h0, h1, hh⟩

theorem mkExpo_WF {init max : Int} {mu : F64} {b : Backoff} (h : mkExpo init max mu = some b)
    (hm : max ≤ maxI64) : WF b := by
  obtain ⟨hlt, h0, h1, rfl⟩ := (mkExpo_iff init max mu b).1 h
  exact ⟨hlt, h0, h1, hm⟩

theorem mkJitter_WF {b j : Backoff} {lo hi : F64} (hb : WF b) (h : mkJitter (some b) lo hi = some j) : WF j := by
  obtain rfl := ((mkJitter_iff ..).1 h).2.2.2.2.2
  exact ⟨hb, h⟩

theorem mkLimit_WF {b j : Backoff} {k : Int} (hb : WF b) (h : mkLimit (some b) k = some j) : WF j := by
  obtain ⟨hk, rfl⟩ := (mkLimit_iff b j k).1 h
  exact ⟨hb, hk⟩

/-- everything `Build()` returns from a well-formed base is well-formed -/
theorem build_WF (ls : List Layer) : ∀ {base b : Backoff}, WF base → build (some base) ls = some b → WF b := by
  induction ls with
  | nil =>
    intro base b hb h
    obtain rfl : base = b := Option.some.inj h
    exact hb
  | cons l ls ih =>
    intro base b hb h
    cases l with
    | limit k =>
      rw [build_cons_limit] at h
      cases hm : mkLimit (some base) k with
      | none => rw [hm, build_none] at h; cases h
      | some j => rw [hm] at h; exact ih (mkLimit_WF hb hm) h
    | jitter lo hi =>
      rw [build_cons_jitter] at h
      cases hm : mkJitter (some base) lo hi with
      | none => rw [hm, build_none] at h; cases h
      | some j => rw [hm] at h; exact ih (mkJitter_WF hb hm) h

-- non-vacuity: a concrete builder stack (exponential ×2, ±50 % jitter, 5 attempts) is accepted and `WF`
example : ∃ b, build (mkExpo 100 60000 (.fin false (2^52) (-51)))
      [.jitter (.fin true (2^52) (-53)) (.fin false (2^52) (-53)), .limit 5] = some b ∧ WF b := by
  have h1 := (mkExpo_iff 100 60000 (.fin false (2^52) (-51)) _).2
    ⟨by decide +kernel, by decide, by decide, rfl⟩
  have h2 := (mkJitter_iff (.expo 100 60000 (.fin false (2^52) (-51))) _ (.fin true (2^52) (-53))
    (.fin false (2^52) (-53))).2
    ⟨by decide +kernel, by decide +kernel, by decide +kernel, by decide +kernel, by decide +kernel, rfl⟩
  rw [h1, build_cons_jitter, h2, build_cons_limit]
  exact ⟨_, rfl, ⟨mkExpo_WF h1 (by decide), h2⟩, by decide⟩

/-- **stack envelope / no overflow**: every delay returned by a stack built by the constructors (with
`int64` parameters) lies in `[-1, MaxInt64]` — for every attempt, every state of the random source, and
every value of `math.Pow` that is NaN, `+∞` or `≥ 0` (`Pow` of a multiplier `> 1` is never negative) -/
theorem stack_envelope (pw : F64) (n : Int) (hpw : pw = .nan ∨ F64.le (F64.zero false) pw = true) :
    ∀ (b : Backoff) (ws : List Nat), WF b →
      -1 ≤ (next pw n b ws).1 ∧ (next pw n b ws).1 ≤ maxI64 := by
  have hneg {x : Int} (h : 0 ≤ x) : -1 ≤ x := Int.le_trans (by decide) h
  intro b
  induction b with
  | fixed d => intro ws h; rw [fixed_const]; exact ⟨hneg h.1, h.2⟩
  | random lo hi =>
    intro ws h; obtain ⟨a, c, d⟩ := h
    have := random_range_any pw n lo hi ws a c d
    exact ⟨hneg (Int.le_trans a this.1), Int.le_trans this.2 d⟩
  | expo init max mu =>
    intro ws h; obtain ⟨_, a, c, d⟩ := h
    have := satMul_range init pw a (Int.le_trans c d) hpw
    exact ⟨hneg (le_next_expo a this.1 (Int.le_trans a c) ..), next_expo_le (Int.le_trans c d) d ..⟩
  | jitter inner lo hi ih =>
    intro ws h
    have hin := ih ws h.1
    by_cases hle : (next pw n inner ws).1 ≤ 0
    · rw [jitter_stop_passthrough pw n inner lo hi ws hle]; exact hin
    · obtain ⟨_, c2, c3⟩ := jitter_band pw n inner _ lo hi ws h.2 (Int.not_le.1 hle) hin.2
      exact ⟨hneg c3, Int.le_trans c2 (satMul_inI64 ..).2⟩
  | limit inner k ih =>
    intro ws h
    rw [next_limit]
    split
    · exact ⟨Int.le_refl _, (by decide : (-1 : Int) ≤ maxI64)⟩
    · exact ih ws h.1

/-- the envelope hypothesis on `pw` is needed: a negative "power" makes an exponential back-off negative -/
example : (next (.fin true (3 * 2^51) (-51)) 2 (.expo 5 100 F64.one) []).1 = -15 := by decide +kernel

/-- **no_overflow** for everything `Build()` can return -/
theorem no_overflow (pw : F64) (n : Int) (hpw : pw = .nan ∨ F64.le (F64.zero false) pw = true)
    (base b : Backoff) (ls : List Layer) (ws : List Nat) (hbase : WF base)
    (hb : build (some base) ls = some b) : inI64 (next pw n b ws).1 ∧ -1 ≤ (next pw n b ws).1 := by
  have := stack_envelope pw n hpw b ws (build_WF ls hbase hb)
  exact ⟨⟨Int.le_trans (by decide) this.1, this.2⟩, this.1⟩

end Garr.Props.C05
