import Garr.Breaker.Doc
import Garr.Validate.Model
/-!
# C06 — the circuit breaker follows its documented state machine

Property theorems only (the documented machine, the refinement relation and the proof live in
`Garr/Breaker/Doc.lean`).  All statements quantify over every configuration, every state, every ticker
script (advancing, standing still, stepping backwards) and every number of listeners.
-/
namespace Garr.Props.C06
open Garr Garr.Breaker

/-! ## CLOSED admits everybody (no reading, no callback) -/

theorem closed_admits (cfg : Config) (st : St) (ts : List Int) (h : st.kind = .closed) :
    canRequest cfg st ts = (st, ts, true, []) :=
  canRequest_closed h

/-! ## OPEN / HALF_OPEN fail fast until the deadline, then admit one trial request -/

theorem open_fails_fast (cfg : Config) (st : St) (ts : List Int)
    (hk : st.kind ≠ .closed) (hd : st.dur > 0) (ht : (pop ts).1 < st.timeout) :
    canRequest cfg st ts = (st, (pop ts).2, false, fanRejected cfg.listeners) :=
  canRequest_wait hk hd (by omega)

theorem open_then_trial (cfg : Config) (st : St) (ts : List Int)
    (hk : st.kind ≠ .closed) (hd : st.dur > 0) (ht : st.timeout ≤ (pop ts).1) :
    canRequest cfg st ts =
      ({ kind := .half, timeout := wrap64 ((pop (pop ts).2).1 + cfg.trial), dur := cfg.trial, win := st.win },
       (pop (pop ts).2).2, true, fanState cfg.listeners .half) :=
  canRequest_trial hk hd ht

/-! ## The trial request decides -/

theorem trial_success_closes_empty (cfg : Config) (st : St) (ts : List Int) (h : st.kind = .half) :
    (onSuccess cfg st ts).1.kind = .closed ∧
    (onSuccess cfg st ts).1.win = newWin (pop ts).1 ∧
    (onSuccess cfg st ts).1.win.res = [] ∧
    (onSuccess cfg st ts).1.win.cur = ⟨(pop ts).1, 0, 0⟩ ∧
    (onSuccess cfg st ts).2.1 = (pop (pop ts).2).2 ∧
    (onSuccess cfg st ts).2.2 = fanState cfg.listeners .closed := by
  simp [onSuccess, h, newClosed, newWin]

theorem trial_failure_reopens (cfg : Config) (st : St) (ts : List Int) (h : st.kind = .half) :
    onFailure cfg st ts =
      ({ kind := .opn, timeout := wrap64 ((pop ts).1 + cfg.openW), dur := cfg.openW, win := st.win },
       (pop ts).2, fanState cfg.listeners .opn) := by
  simp [onFailure, h, newTimed]

/-! ## Reports in OPEN do nothing -/

theorem open_ignores_reports (cfg : Config) (st : St) (ts : List Int) (h : st.kind = .opn) :
    onSuccess cfg st ts = (st, ts, []) ∧ onFailure cfg st ts = (st, ts, []) := by
  simp [onSuccess, onFailure, h]

/-! ## CLOSED opens exactly on a failure that completes an update interval with a tripping count -/

theorem opens_iff (cfg : Config) (st : St) (ts : List Int) (h : st.kind = .closed) :
    ((onFailure cfg st ts).1.kind = .opn ↔
      ∃ s f, (onEvent cfg.window cfg.interval st.win (pop ts).1 false).2 = some (s, f) ∧ exceeds cfg s f = true) ∧
    (onSuccess cfg st ts).1.kind = .closed := by
  constructor
  · unfold onFailure
    simp only [h]
    cases he : (onEvent cfg.window cfg.interval st.win (pop ts).1 false).2 with
    | none => simp
    | some sf =>
      obtain ⟨s, f⟩ := sf
      by_cases hx : exceeds cfg s f = true
      · simp only [hx, if_true, newTimed, true_iff]
        exact ⟨s, f, rfl, hx⟩
      · simp [hx]
  · unfold onSuccess
    simp only [h]
    cases he : (onEvent cfg.window cfg.interval st.win (pop ts).1 true).2 with
    | none => simp
    | some sf => simp

/-- the trip rule: non-empty, at least the minimum, rate STRICTLY above the threshold -/
theorem exceeds_iff (cfg : Config) (s f : Int) :
    exceeds cfg s f = true ↔
      0 < wrap64 (s + f) ∧ cfg.minReq ≤ wrap64 (s + f) ∧
      F64.lt cfg.thr (F64.div (F64.ofInt f) (F64.ofInt (wrap64 (s + f)))) = true := by
  unfold exceeds
  by_cases h0 : wrap64 (s + f) = 0
  · simp [h0]
  · simp [h0, and_assoc]

/-! ## Every listener is notified exactly once per event, in registration order -/

theorem fanState_succ (k : Nat) (kd : Kind) :
    fanState (k + 1) kd = fanState k kd ++ [Cb.state k kd, Cb.count k 0 0] := by
  simp [fanState, List.range_succ, List.flatMap_append]

theorem fanCount_succ (k : Nat) (s f : Int) : fanCount (k + 1) s f = fanCount k s f ++ [Cb.count k s f] := by
  simp [fanCount, List.range_succ]

theorem fanRejected_succ (k : Nat) : fanRejected (k + 1) = fanRejected k ++ [Cb.rejected k] := by
  simp [fanRejected, List.range_succ]

theorem fanState_length (k : Nat) (kd : Kind) : (fanState k kd).length = 2 * k := by
  induction k with
  | zero => rfl
  | succ k ih => rw [fanState_succ, List.length_append, ih]; simp; omega

/-- positions `2i`, `2i+1` of the state fan-out hold listener `i`'s `StateChanged` then its `EventCountUpdated(0,0)` -/
theorem fanState_get (k : Nat) (kd : Kind) (i : Nat) (hi : i < k) :
    (fanState k kd)[2 * i]? = some (Cb.state i kd) ∧ (fanState k kd)[2 * i + 1]? = some (Cb.count i 0 0) := by
  induction k with
  | zero => omega
  | succ k ih =>
    rw [fanState_succ]
    by_cases h : i < k
    · have h1 : 2 * i < (fanState k kd).length := by rw [fanState_length]; omega
      have h2 : 2 * i + 1 < (fanState k kd).length := by rw [fanState_length]; omega
      rw [List.getElem?_append_left h1, List.getElem?_append_left h2]
      exact ih h
    · have hik : i = k := by omega
      subst hik
      have h1 : (fanState i kd).length ≤ 2 * i := Nat.le_of_eq (fanState_length i kd)
      rw [List.getElem?_append_right h1, List.getElem?_append_right (Nat.le_succ_of_le h1), fanState_length,
        Nat.sub_self, Nat.succ_sub (Nat.le_refl _), Nat.sub_self]
      exact ⟨rfl, rfl⟩

theorem count_fan {α : Type} [BEq α] [LawfulBEq α] (f : Nat → List α) (x : α) (i c : Nat)
    (hi : (f i).count x = c) (hne : ∀ j, j ≠ i → x ∉ f j) (k : Nat) :
    ((List.range k).flatMap f).count x = if i < k then c else 0 := by
  induction k with
  | zero => rfl
  | succ k ih =>
    rw [List.range_succ, List.flatMap_append, List.count_append, ih, List.flatMap_singleton]
    by_cases h1 : i < k
    · rw [if_pos h1, if_pos (by omega), List.count_eq_zero.mpr (hne k (by omega))]; rfl
    · by_cases h2 : k = i
      · rw [if_neg h1, if_pos (by omega), h2, hi]; exact Nat.zero_add c
      · rw [if_neg h1, if_neg (by omega), List.count_eq_zero.mpr (hne k h2)]

theorem fanState_count_state (k : Nat) (kd kd' : Kind) (i : Nat) :
    (fanState k kd).count (Cb.state i kd') = if i < k ∧ kd' = kd then 1 else 0 := by
  rw [fanState, count_fan _ _ i (if kd = kd' then 1 else 0) (by simp [List.count_cons]) (by simp; omega)]
  by_cases h1 : i < k <;> simp [h1, eq_comm]

theorem fanState_count_count (k : Nat) (kd : Kind) (i : Nat) (s f : Int) :
    (fanState k kd).count (Cb.count i s f) = if i < k ∧ s = 0 ∧ f = 0 then 1 else 0 := by
  rw [fanState, count_fan _ _ i (if 0 = s ∧ 0 = f then 1 else 0) (by simp [List.count_cons]) (by simp; omega)]
  by_cases h1 : i < k <;> simp [h1, eq_comm]

theorem fanState_count_rejected (k : Nat) (kd : Kind) (i : Nat) : (fanState k kd).count (Cb.rejected i) = 0 := by
  rw [fanState, count_fan _ _ i 0 (by simp) (by simp)]; split <;> rfl

theorem fanRejected_count (k i : Nat) : (fanRejected k).count (Cb.rejected i) = if i < k then 1 else 0 := by
  rw [fanRejected, List.map_eq_flatMap]
  exact count_fan _ _ i 1 (by simp) (by simp; omega) k

theorem fanCount_count (k i : Nat) (s f : Int) : (fanCount k s f).count (Cb.count i s f) = if i < k then 1 else 0 := by
  rw [fanCount, List.map_eq_flatMap]
  exact count_fan _ _ i 1 (by simp) (by simp; omega) k

/-- each notification reaches every registered listener exactly once, in registration order, and nobody else -/
theorem notify_exactly_once (k : Nat) (kd : Kind) (s f : Int) :
    -- state change: listener `i` gets `StateChanged(kd)` at position `2i` and `EventCountUpdated(0,0)` at `2i+1`,
    -- and these are all the entries
    (fanState k kd).length = 2 * k ∧
    (∀ i, i < k → (fanState k kd)[2 * i]? = some (Cb.state i kd) ∧ (fanState k kd)[2 * i + 1]? = some (Cb.count i 0 0)) ∧
    (∀ i, (fanState k kd).count (Cb.state i kd) = if i < k then 1 else 0) ∧
    (∀ i, (fanState k kd).count (Cb.count i 0 0) = if i < k then 1 else 0) ∧
    -- rejection: position `i` is listener `i`'s `RequestRejected`
    (fanRejected k).length = k ∧
    (∀ i, i < k → (fanRejected k)[i]? = some (Cb.rejected i)) ∧
    (∀ i, (fanRejected k).count (Cb.rejected i) = if i < k then 1 else 0) ∧
    -- count update: position `i` is listener `i`'s `EventCountUpdated(s,f)`
    (fanCount k s f).length = k ∧
    (∀ i, i < k → (fanCount k s f)[i]? = some (Cb.count i s f)) ∧
    (∀ i, (fanCount k s f).count (Cb.count i s f) = if i < k then 1 else 0) := by
  refine ⟨fanState_length k kd, fanState_get k kd, ?_, ?_, ?_, ?_, fanRejected_count k, ?_, ?_, fun i => fanCount_count k i s f⟩
  · intro i; rw [fanState_count_state]; simp
  · intro i; rw [fanState_count_count]; simp
  · simp [fanRejected]
  · intro i hi; simp [fanRejected, hi]
  · simp [fanCount]
  · intro i hi; simp [fanCount, hi]

/-- every call notifies nobody, or performs exactly one of the three fan-outs -/
theorem out_is_fan (cfg : Config) (st : St) (ts : List Int) (op : Op) :
    let cbs := (stepOp cfg st ts op).2.2.cbs
    cbs = [] ∨ (∃ kd, cbs = fanState cfg.listeners kd) ∨ (∃ s f, cbs = fanCount cfg.listeners s f) ∨
      cbs = fanRejected cfg.listeners := by
  -- the log as a variable, so that the case analysis of the call runs over one copy of it
  intro cbs
  have hc : cbs = (stepOp cfg st ts op).2.2.cbs := rfl
  clear_value cbs
  cases op <;> simp only [stepOp, canRequest, onSuccess, onFailure, newTimed, newClosed] at hc
  · split at hc
    · exact .inl hc
    · split at hc
      · split at hc
        · exact .inr (.inl ⟨_, hc⟩)
        · exact .inr (.inr (.inr hc))
      · exact .inr (.inr (.inr hc))
  · split at hc
    · split at hc
      · exact .inr (.inr (.inl ⟨_, _, hc⟩))
      · exact .inl hc
    · exact .inr (.inl ⟨_, hc⟩)
    · exact .inl hc
  · split at hc
    · split at hc
      · split at hc
        · exact .inr (.inl ⟨_, hc⟩)
        · exact .inr (.inr (.inl ⟨_, _, hc⟩))
      · exact .inl hc
    · exact .inr (.inl ⟨_, hc⟩)
    · exact .inl hc

/-! ## Non-vacuity: a concrete run that opens the circuit -/

/-- threshold 0.5, minimum 1 request, update interval 10, window 20, one listener -/
def exCfg : Config :=
  { thr := .fin false (2^52) (-53), minReq := 1, trial := 3, openW := 100, window := 20, interval := 10, listeners := 1 }

/-- constructor reads 0,0; a failure at tick 5 (inside the first interval), a failure at tick 20 completes the
interval with 0 successes / 1 failure in the window: rate 1 > 0.5, the circuit opens until 21+100 -/
example :
    let c := create exCfg [0, 0, 5, 20, 21, 50, 121, 122]
    let r := runOps exCfg c.1 c.2.1 [.fail, .fail, .can, .can]
    r.1 = [⟨none, []⟩, ⟨none, [.state 0 .opn, .count 0 0 0]⟩, ⟨some false, [.rejected 0]⟩,
           ⟨some true, [.state 0 .half, .count 0 0 0]⟩] ∧
    r.2.1.kind = .half ∧ r.2.1.timeout = 125 ∧ r.2.2 = [] := by
  decide +kernel

/-! ## The code follows the documented machine (refinement; proofs in `Garr/Breaker/Doc.lean`) -/

theorem window_refines_log (cfg : Config) (w : Win) (es : List DocEv) (cur t : Int) (succ : Bool)
    (hc : CfgOK cfg) (ht : InRange t) (hn : es.length < 2^62) (hr : WinRel w es cur) :
    (onEvent cfg.window cfg.interval w t succ).2 = (docOnEvent cfg.window cfg.interval es cur t succ).2.2 ∧
    WinRel (onEvent cfg.window cfg.interval w t succ).1 (docOnEvent cfg.window cfg.interval es cur t succ).1
      (docOnEvent cfg.window cfg.interval es cur t succ).2.1 ∧
    (docOnEvent cfg.window cfg.interval es cur t succ).1.length ≤ es.length + 1 :=
  Garr.Breaker.window_refines_log cfg w es cur t succ hc ht hn hr

theorem C06_refines_doc (cfg : Config) (st : St) (d : Doc) (ts : List Int) (op : Op)
    (hg : NoWrap cfg ts) (hn : d.events.length < 2^62) (hr : Rel st d) :
    (stepOp cfg st ts op).2.2 = (docStep cfg d ts op).2.2 ∧
    (stepOp cfg st ts op).2.1 = (docStep cfg d ts op).2.1 ∧
    Rel (stepOp cfg st ts op).1 (docStep cfg d ts op).1 ∧
    (docStep cfg d ts op).1.events.length ≤ d.events.length + 1 ∧
    NoWrap cfg (docStep cfg d ts op).2.1 :=
  Garr.Breaker.C06_refines_doc cfg st d ts op hg hn hr

/-- `Validate` + the `2^61` upper bounds give the configuration part of the guard -/
theorem cfgOK_of_valid (cfg : Config)
    (hv : Validate.valid ⟨cfg.thr, cfg.minReq, cfg.trial, cfg.openW, cfg.window, cfg.interval⟩ = true)
    (hb : cfg.trial ≤ 2^61 ∧ cfg.openW ≤ 2^61 ∧ cfg.window ≤ 2^61 ∧ cfg.interval ≤ 2^61) : CfgOK cfg := by
  -- `valid` is a chain of `if test then false else …`: it is true iff every test fails
  simp only [Validate.valid, Bool.if_false_left, Bool.and_eq_true, Bool.not_eq_true', decide_eq_false_iff_not] at hv
  unfold CfgOK
  omega

/-- **C06**: for every configuration accepted by `Validate` (durations at most `2^61` ns ≈ 73 years), every
ticker trace with readings in `[-2^62, 2^62]` (advancing, standing still or stepping backwards; an exhausted
script reads 0), every number of listeners and every sequence of fewer than `2^62` calls, the breaker built by
the constructor and the documented machine produce the same constructor callbacks, the same result and the
same callback log for every call, and consume the same ticker readings. -/
theorem C06_breaker_follows_doc (cfg : Config) (ts : List Int) (ops : List Op)
    (hv : Validate.valid ⟨cfg.thr, cfg.minReq, cfg.trial, cfg.openW, cfg.window, cfg.interval⟩ = true)
    (hb : cfg.trial ≤ 2^61 ∧ cfg.openW ≤ 2^61 ∧ cfg.window ≤ 2^61 ∧ cfg.interval ≤ 2^61)
    (hts : ∀ t ∈ ts, -(2^62) ≤ t ∧ t ≤ 2^62) (hlen : ops.length < 2^62) :
    (create cfg ts).2.2 = (docCreate cfg ts).2.2 ∧
    (runOps cfg (create cfg ts).1 (create cfg ts).2.1 ops).1 =
      (docRun cfg (docCreate cfg ts).1 (docCreate cfg ts).2.1 ops).1 ∧
    (runOps cfg (create cfg ts).1 (create cfg ts).2.1 ops).2.2 =
      (docRun cfg (docCreate cfg ts).1 (docCreate cfg ts).2.1 ops).2.2 := by
  have hg : NoWrap cfg ts := ⟨cfgOK_of_valid cfg hv hb, hts⟩
  obtain ⟨a, b, c, _⟩ := Garr.Breaker.C06_breaker_follows_doc cfg ts ops hg hlen
  exact ⟨a, b, c⟩

/-- the guard is not vacuous: the example configuration and script satisfy it -/
example : NoWrap exCfg [0, 0, 5, 20, 21, 50, 121, 122] := by decide

/-- the documented machine on the same script: opens on the second failure, rejects, then admits the trial -/
example :
    let c := docCreate exCfg [0, 0, 5, 20, 21, 50, 121, 122]
    let r := docRun exCfg c.1 c.2.1 [.fail, .fail, .can, .can]
    r.1 = [⟨none, []⟩, ⟨none, [.state 0 .opn, .count 0 0 0]⟩, ⟨some false, [.rejected 0]⟩,
           ⟨some true, [.state 0 .half, .count 0 0 0]⟩] ∧
    r.2.1.kind = .half ∧ r.2.1.deadline = 125 ∧ r.2.1.events = [⟨0, false⟩, ⟨20, false⟩] ∧ r.2.2 = [] := by
  decide +kernel

end Garr.Props.C06
