import Garr.Queue.LockFree
/-!
# C07 (second half): no interleaving can deadlock or livelock the queue; under every fair schedule
# every operation returns

`Garr/Queue/Term.lean` has the solo half (`C07_solo_bound`, `nonblocking`).  Here the claim is stated for
interleavings, in the vocabulary of `Garr/Queue/LockFree.lean` (`Exec`, `TauOnly`, `tids`, `F`, `FI`,
`cfgAt`, `occ`), at full strength: an explicit bound on the TOTAL number of steps of ALL threads under
EVERY schedule, which is stronger than lock-freedom and than termination under fairness.

`Tid = Nat`: unboundedly many threads; `c` ranges over ALL reachable configurations (all client
programs, all schedules), so the threads are wherever they happen to be inside their operations.
Every call (`offer`, `poll`, `peek`, `isEmpty`, `size`, `iterator`, and the iterator calls
`hasNext`/`next`/`remove`/`drop`) is a non-`tau` action of a thread at rest; `invs σ` counts them.
-/
namespace Garr.Props.C07LockFree
open Garr.Conc Garr.Queue Garr.Queue.LockFree

theorem F_formula (n k : Nat) :
    F n k = (2 * (n + k) + k * (n + k + 2) + 1) * (k * (16 * (n + k) + 15) + 1) := by
  simp [F, FN, Bc]

theorem FI_formula (n k m : Nat) :
    FI n k m =
      (2 * (n + k + m) + k * (n + k + m + 2) + 1) * (k * (16 * (n + k + m) + 15) + 1) +
      m * ((n + k + m + 2) * (k * (16 * (n + k + m) + 15) + 1) + 16 * (n + k + m) + 16) := by
  simp [FI, FN, Bc]

theorem FI_no_invocations (n k : Nat) : FI n k 0 = F n k := rfl

/-- **No livelock / bounded total work.**  From every reachable configuration `c`, every executable
schedule `σ` without new invocations — any interleaving whatsoever of any threads — has fewer than
`F n k` steps, where `n` is the number of linked nodes at `c` and `k` the number of distinct threads
that move in `σ`.  In particular there is no infinite run of internal steps. -/
theorem no_livelock_bounded_total_work {c c' : Config M} {σ : List (Tid × Act)}
    (hc : Reach M c) (hex : Exec c σ c') (hτ : TauOnly σ) :
    σ.length < F c.g.n (tids σ).length :=
  exec_bound_inv (m := 0) (nodup_dedupT _) hc hex (fun _ hx => mem_tids hx) (Nat.le_of_eq (invs_tauOnly hτ))

/-- every reachable configuration has finitely many threads inside an operation: they can be listed -/
theorem active_threads_finite {c : Config M} (hc : Reach M c) :
    ∃ ts : List Tid, ts.Nodup ∧ ∀ t, t ∈ ts ↔ atRest (c.l t) = false := by
  obtain ⟨N, hN⟩ := finite_support hc
  refine ⟨(List.range N).filter fun u => !atRest (c.l u), List.nodup_range.filter _, fun t => ?_⟩
  rw [List.mem_filter, List.mem_range, Bool.not_eq_true', and_iff_right_iff_imp]
  intro h
  exact Nat.lt_of_not_le fun hle => by rw [hN t hle] at h; cases h

/-- **The same with `k` = the number of threads that are inside an operation at `c`** (`ts` is any
duplicate-free list containing them; by `active_threads_finite` the exact list exists).  The bound is a
function of `c` alone: it holds for every schedule. -/
theorem no_livelock_active {c c' : Config M} {σ : List (Tid × Act)} {ts : List Tid}
    (hc : Reach M c) (hnd : ts.Nodup) (hts : ∀ t, atRest (c.l t) = false → t ∈ ts)
    (hex : Exec c σ c') (hτ : TauOnly σ) :
    σ.length < F c.g.n ts.length :=
  exec_bound_active hnd hc hts hex hτ

/-- the bound as finite data of `c`: for every reachable `c` there is a `k` — the number of threads
inside an operation — such that every run from `c` without new invocations is shorter than `F n k` -/
theorem no_livelock_uniform {c : Config M} (hc : Reach M c) :
    ∃ ts : List Tid, ts.Nodup ∧ (∀ t, t ∈ ts ↔ atRest (c.l t) = false) ∧
      ∀ (σ : List (Tid × Act)) (c' : Config M), Exec c σ c' → TauOnly σ → σ.length < F c.g.n ts.length := by
  obtain ⟨ts, hnd, hts⟩ := active_threads_finite hc
  exact ⟨ts, hnd, hts, fun σ c' hex hτ => exec_bound_active hnd hc (fun t ht => (hts t).2 ht) hex hτ⟩

/-- **In terms of `run`** (which skips disabled steps): for an ARBITRARY list `σ` of internal-step
attempts, the steps that are actually executed (`effective c σ`, an executable schedule leading to
`(run M c σ).1`) number fewer than `F n k`. -/
theorem no_livelock_run {c : Config M} (hc : Reach M c) (σ : List (Tid × Act)) (hτ : TauOnly σ) :
    Exec c (effective c σ) (run M c σ).1 ∧ (effective c σ).length < F c.g.n (tids σ).length :=
  ⟨exec_effective σ c _ rfl,
   exec_bound_inv (m := 0) (nodup_dedupT _) hc (exec_effective σ c _ rfl)
     (fun _ hx => mem_tids (effective_mem σ c _ hx))
     (Nat.le_of_eq (invs_tauOnly fun x hx => hτ x (effective_mem σ c x hx)))⟩

/-- **With new invocations.**  An executable schedule containing at most `m` invocations (of any
operations, by any threads) has fewer than `FI n k m` steps, `k` the number of distinct threads moving
in `σ`.  So the total work is bounded by a function of the size of the queue, the number of threads and
the number of operations invoked: only a never-ending supply of new operations can keep the queue busy. -/
theorem bounded_total_work_with_invocations {c c' : Config M} {σ : List (Tid × Act)} {m : Nat}
    (hc : Reach M c) (hex : Exec c σ c') (hm : invs σ ≤ m) :
    σ.length < FI c.g.n (tids σ).length m :=
  exec_bound_inv (nodup_dedupT _) hc hex (fun _ hx => mem_tids hx) hm

/-- the same with `k` threads inside an operation at `c`: at most `k + m` threads ever move -/
theorem bounded_total_work_with_invocations_active {c c' : Config M} {σ : List (Tid × Act)} {m : Nat}
    {ts : List Tid} (hc : Reach M c) (hts : ∀ t, atRest (c.l t) = false → t ∈ ts)
    (hex : Exec c σ c') (hm : invs σ ≤ m) :
    σ.length < FI c.g.n (ts.length + m) m := by
  have h1 := exec_bound_inv (ts := dedupT (ts ++ invokers σ)) (nodup_dedupT _) hc hex
    (fun x hx => mem_dedupT.2 (List.mem_append.2 ((exec_movers hex x hx).imp (hts _) id))) hm
  have h2 := dedupT_length_le (ts ++ invokers σ)
  rw [List.length_append, invokers_length] at h2
  exact Nat.lt_of_lt_of_le h1 (FI_mono_k (by omega))

/-- **No deadlock.**  In every configuration, a thread inside an operation has an enabled step: it never
waits for anybody. -/
theorem no_deadlock (c : Config M) (t : Tid) (h : atRest (c.l t) = false) :
    ∃ g' l' obs, step t c.g (c.l t) .tau = some (g', l', obs) :=
  let ⟨⟨g', l', obs⟩, hs⟩ := nonblocking t c.g (c.l t) h
  ⟨g', l', obs, hs⟩

/-- a run that cannot be extended by an internal step has every thread at rest -/
theorem maximal_run_quiescent {c c' : Config M} {σ : List (Tid × Act)} (_hex : Exec c σ c')
    (hmax : ∀ t, step t c'.g (c'.l t) .tau = none) : ∀ t, atRest (c'.l t) = true := by
  intro t
  cases hr : atRest (c'.l t) with
  | true => rfl
  | false =>
    obtain ⟨g', l', obs, hs⟩ := no_deadlock c' t hr
    rw [hmax t] at hs; cases hs

/-- **Every run without new invocations is finite, and as long as some operation is pending it can be
extended — by ANY pending thread.**  Hence every maximal such run is finite (`< F n k` steps) and ends
with every thread at rest: every operation has returned. -/
theorem run_finite_and_extendable {c c' : Config M} {σ : List (Tid × Act)} {ts : List Tid}
    (hc : Reach M c) (hnd : ts.Nodup) (hts : ∀ t, atRest (c.l t) = false → t ∈ ts)
    (hex : Exec c σ c') (hτ : TauOnly σ) :
    σ.length < F c.g.n ts.length ∧
    ∀ t, atRest (c'.l t) = false →
      ∃ c'', Exec c (σ ++ [(t, Act.tau)]) c'' ∧ TauOnly (σ ++ [(t, Act.tau)]) := by
  refine ⟨exec_bound_active hnd hc hts hex hτ, fun t ht => ?_⟩
  obtain ⟨g', l', obs, hs⟩ := no_deadlock c' t ht
  refine ⟨⟨g', upd c'.l t l'⟩, hex.append (Exec.single hs), fun x hx => ?_⟩
  rcases List.mem_append.1 hx with h | h
  · exact hτ x h
  · rw [List.mem_singleton.1 h]

/-- **Every maximal run without new invocations is finite and ends with every thread at rest**
("with finitely many invocations every operation returns, under every schedule") -/
theorem maximal_run_finite_and_quiescent {c c' : Config M} {σ : List (Tid × Act)} {ts : List Tid}
    (hc : Reach M c) (hnd : ts.Nodup) (hts : ∀ t, atRest (c.l t) = false → t ∈ ts)
    (hex : Exec c σ c') (hτ : TauOnly σ) (hmax : ∀ t, step t c'.g (c'.l t) .tau = none) :
    σ.length < F c.g.n ts.length ∧ ∀ t, atRest (c'.l t) = true :=
  ⟨exec_bound_active hnd hc hts hex hτ, maximal_run_quiescent hex hmax⟩

/-- maximal runs exist: from every reachable configuration the pending operations can be run to
completion (so the previous theorem is about something) -/
theorem quiescent_run_exists {c : Config M} (hc : Reach M c) :
    ∃ σ c', Exec c σ c' ∧ TauOnly σ ∧ ∀ u, atRest (c'.l u) = true := by
  obtain ⟨ts, hnd, hts⟩ := active_threads_finite hc
  have hts := fun t ht => (hts t).2 ht
  -- no run has `F n k` steps, and one that is `d` steps short of that is extended until it is maximal
  have key : ∀ (d : Nat) (σ : List (Tid × Act)) (c' : Config M), Exec c σ c' → TauOnly σ →
      F c.g.n ts.length ≤ σ.length + d → ∃ σ c', Exec c σ c' ∧ TauOnly σ ∧ ∀ u, atRest (c'.l u) = true := by
    intro d
    induction d with
    | zero => intro σ c' hex hτ hd; exact absurd (exec_bound_active hnd hc hts hex hτ) (Nat.not_lt.2 hd)
    | succ d ih =>
      intro σ c' hex hτ hd
      by_cases h : ∃ t, atRest (c'.l t) = false
      · obtain ⟨t, ht⟩ := h
        obtain ⟨c'', hex', hτ'⟩ := (run_finite_and_extendable hc hnd hts hex hτ).2 t ht
        exact ih _ c'' hex' hτ' (by rw [List.length_append, List.length_singleton]; omega)
      · exact ⟨σ, c', hex, hτ, fun u => (Bool.eq_false_or_eq_true _).resolve_right fun hu => h ⟨u, hu⟩⟩
  exact key _ [] c (Exec.nil c) (fun _ hx => nomatch hx) (Nat.le_add_left ..)

/-- **Under every schedule every operation returns, within `F n k` slots.**  `s` is an arbitrary
infinite schedule — arbitrarily unfair — whose only obligation is not to waste a slot on a thread at
rest while some operation is still pending.  After `F n k` slots every thread is at rest. -/
theorem every_operation_returns_within {c : Config M} {ts : List Tid} (hc : Reach M c) (hnd : ts.Nodup)
    (hts : ∀ t, atRest (c.l t) = false → t ∈ ts) (s : Nat → Tid)
    (hsched : ∀ i, (∃ u, atRest ((cfgAt s c i).l u) = false) → atRest ((cfgAt s c i).l (s i)) = false) :
    ∀ u, atRest ((cfgAt s c (F c.g.n ts.length)).l u) = true := by
  intro u
  cases hr : atRest ((cfgAt s c (F c.g.n ts.length)).l u) with
  | true => rfl
  | false =>
    -- no slot is wasted, so the slots themselves can be counted
    exact absurd (slot_count_bound hnd hc hts s id rfl _ fun i hi =>
      .inr ⟨rfl, hsched i ⟨u, cfgAt_active_before s c u (Nat.le_of_lt hi) hr⟩⟩) (Nat.lt_irrefl _)

/-- **Lock-freedom.**  If some operation is pending at `c`, then under every such schedule some
operation returns in one of the first `F n k` slots (indeed all of them do, by
`every_operation_returns_within`): system-wide progress cannot be prevented by any interleaving. -/
theorem lock_free_some_operation_returns {c : Config M} {ts : List Tid} (hc : Reach M c) (hnd : ts.Nodup)
    (hts : ∀ t, atRest (c.l t) = false → t ∈ ts) (s : Nat → Tid)
    (hsched : ∀ i, (∃ u, atRest ((cfgAt s c i).l u) = false) → atRest ((cfgAt s c i).l (s i)) = false)
    {t : Tid} (ht : atRest (c.l t) = false) :
    ∃ i u, i < F c.g.n ts.length ∧ atRest ((cfgAt s c i).l u) = false ∧
      atRest ((cfgAt s c (i + 1)).l u) = true := by
  obtain ⟨i, hi, h1, h2⟩ := switch_slot (fun j => atRest ((cfgAt s c j).l t)) ht _
    (every_operation_returns_within hc hnd hts s hsched t)
  exact ⟨i, t, hi, h1, h2⟩

/-- **Bounded fairness suffices, with an explicit bound.**  Under an arbitrary infinite schedule, a
thread that has been scheduled `F n k` times has returned — whatever the other threads did in between
(slots given to threads at rest are simply lost). -/
theorem scheduled_often_enough_returns {c : Config M} {ts : List Tid} (hc : Reach M c) (hnd : ts.Nodup)
    (hts : ∀ t, atRest (c.l t) = false → t ∈ ts) (s : Nat → Tid) (t : Tid) (j : Nat)
    (hocc : F c.g.n ts.length ≤ occ s t j) : atRest ((cfgAt s c j).l t) = true := by
  cases hr : atRest ((cfgAt s c j).l t) with
  | true => rfl
  | false =>
    -- `t` has been inside its operation all along, so each of its slots counts
    have := slot_count_bound hnd hc hts s (occ s t) rfl j fun i hi => by
      by_cases hst : s i = t
      · exact .inr ⟨congrArg _ (if_pos hst), hst ▸ cfgAt_active_before s c t (Nat.le_of_lt hi) hr⟩
      · exact .inl ((congrArg _ (if_neg hst)).trans (Nat.add_zero _))
    omega

/-- **Under every fair schedule the operation of `t` returns** (fair to `t`: `t` is scheduled again
and again), and `t` stays at rest from then on. -/
theorem fair_schedule_operation_returns {c : Config M} {ts : List Tid} (hc : Reach M c) (hnd : ts.Nodup)
    (hts : ∀ t, atRest (c.l t) = false → t ∈ ts) (s : Nat → Tid) (t : Tid)
    (hfair : ∀ i, ∃ j, i ≤ j ∧ s j = t) :
    ∃ j, ∀ j', j ≤ j' → atRest ((cfgAt s c j').l t) = true := by
  obtain ⟨j, hj⟩ := fair_occ s t hfair (F c.g.n ts.length)
  exact ⟨j, cfgAt_rest_stays s c t (scheduled_often_enough_returns hc hnd hts s t j hj)⟩

/-- **Under every fair schedule every operation returns**: if the schedule is fair to every thread
that is inside an operation, the system becomes (and stays) quiescent. -/
theorem fair_schedule_every_operation_returns {c : Config M} {ts : List Tid} (hc : Reach M c)
    (hnd : ts.Nodup) (hts : ∀ t, atRest (c.l t) = false → t ∈ ts) (s : Nat → Tid)
    (hfair : ∀ t, t ∈ ts → ∀ i, ∃ j, i ≤ j ∧ s j = t) :
    ∃ j, ∀ j', j ≤ j' → ∀ u, atRest ((cfgAt s c j').l u) = true := by
  obtain ⟨j, hj⟩ := eventually_all ts fun t ht => fair_schedule_operation_returns hc hnd hts s t (hfair t ht)
  refine ⟨j, fun j' hj' u => ?_⟩
  by_cases hu : u ∈ ts
  · exact hj j' hj' u hu
  · -- a thread outside `ts` is at rest at `c`, hence forever
    exact cfgAt_rest_stays s c u (i := 0) ((Bool.eq_false_or_eq_true _).resolve_right fun hr => hu (hts u hr)) j'
      (Nat.zero_le _)

/-- the same without mentioning the list: for every reachable `c` and every schedule that is fair to
every thread, the system becomes quiescent -/
theorem fair_schedule_quiescent {c : Config M} (hc : Reach M c) (s : Nat → Tid)
    (hfair : ∀ t i, ∃ j, i ≤ j ∧ s j = t) :
    ∃ j, ∀ j', j ≤ j' → ∀ u, atRest ((cfgAt s c j').l u) = true := by
  obtain ⟨ts, hnd, hts⟩ := active_threads_finite hc
  exact fair_schedule_every_operation_returns hc hnd (fun t ht => (hts t).2 ht) s (fun t _ => hfair t)

/-- threads 0 and 1 invoke `Offer(7)`, `Offer(8)`, thread 2 invokes `Poll`; each takes one step, so
that both offers have read the same `tail` and the poll has read `head` -/
def demoPrefix : List (Tid × Act) :=
  [(0, .offer 7), (1, .offer 8), (2, .poll), (0, .tau), (1, .tau), (2, .tau)]

/-- a reachable configuration with three threads inside their operations -/
def demoC : Config M := (run M (Config.init M) demoPrefix).1

/-- an interleaving in which the operations interfere: both offers see `next(tail) = nil`, thread 0
wins the link CAS, thread 1's CAS fails and it retries behind thread 0's node; the poll removes
thread 0's element and advances `head` by two while thread 1 links and swings `tail` -/
def demoSched : List (Tid × Act) :=
  [(0, .tau), (1, .tau), (2, .tau), (0, .tau), (1, .tau), (2, .tau), (1, .tau), (2, .tau), (1, .tau),
   (2, .tau), (1, .tau), (2, .tau), (1, .tau), (2, .tau), (2, .tau)]

theorem demoC_reach : Reach M demoC := reach_run M _ Reach.init _

example : atRest (demoC.l 0) = false ∧ atRest (demoC.l 1) = false ∧ atRest (demoC.l 2) = false := by
  decide

theorem demo_exec : Exec demoC demoSched (run M demoC demoSched).1 :=
  exec_of_enabledAll _ _ _ (by decide) rfl

theorem demo_tauOnly : TauOnly demoSched := by decide

/-- interference: after five steps thread 1 has lost the link CAS and is back in its read loop (`o1`)
with its stale `tail` snapshot 0, while thread 0 has returned and thread 2 is in mid-traversal -/
example :
    (match (run M demoC (demoSched.take 5)).1.l 1 with | .o1 8 0 0 => true | _ => false) = true ∧
    atRest ((run M demoC (demoSched.take 5)).1.l 0) = true ∧
    (match (run M demoC (demoSched.take 5)).1.l 2 with | .p4 0 0 => true | _ => false) = true := by
  decide

/-- the theorem applies: the 15 steps are fewer than `F 1 3 = 6426` -/
example : demoSched.length < F demoC.g.n (tids demoSched).length :=
  no_livelock_bounded_total_work demoC_reach demo_exec demo_tauOnly

example : demoC.g.n = 1 ∧ tids demoSched = [0, 1, 2] ∧ F 1 3 = 6426 := by decide

/-- the run is maximal for the three threads: all are at rest at the end, the poll got 7 and 8 is left -/
example : atRest ((run M demoC demoSched).1.l 0) = true ∧ atRest ((run M demoC demoSched).1.l 1) = true ∧
    atRest ((run M demoC demoSched).1.l 2) = true ∧ abs (run M demoC demoSched).1.g = [8] ∧
    (run M demoC demoSched).2.filterMap (fun x => match x.2 with | .ret r => some (x.1, r) | _ => none) =
      [(0, .unit), (1, .unit), (2, .val 7)] := by
  decide

/-- the version with invocations applies to the whole run from the initial configuration -/
example : (demoPrefix ++ demoSched).length < FI (Config.init M).g.n (tids (demoPrefix ++ demoSched)).length 3 :=
  bounded_total_work_with_invocations Reach.init
    (exec_of_enabledAll _ _ _ (by decide) rfl) (by decide)

theorem demoC_others (t : Nat) (h : 3 ≤ t) : atRest (demoC.l t) = true := by
  have h0 : t ≠ 0 := by omega
  have h1 : t ≠ 1 := by omega
  have h2 : t ≠ 2 := by omega
  show atRest ((run M (Config.init M) demoPrefix).1.l t) = true
  simp [demoPrefix, run, M, step, Config.init, upd, h0, h1, h2, atRest]

/-- a round-robin schedule among the three threads is fair to every thread inside an operation, so
`fair_schedule_every_operation_returns` is not vacuous either: the system becomes quiescent -/
example : ∃ j, ∀ j', j ≤ j' → ∀ u, atRest ((cfgAt (fun i => i % 3) demoC j').l u) = true := by
  obtain ⟨ts, hnd, hts⟩ := active_threads_finite demoC_reach
  refine fair_schedule_every_operation_returns demoC_reach hnd (fun t ht => (hts t).2 ht) _
    (fun (t : Nat) ht (i : Nat) => ?_)
  have ht3 : t < 3 := by
    have h := (hts t).1 ht
    by_cases hlt : t < 3
    · exact hlt
    · rw [demoC_others t (by omega)] at h; cases h
  refine ⟨3 * i + t, by omega, ?_⟩
  show (3 * i + t) % 3 = t
  omega

#print axioms F_formula
#print axioms FI_formula
#print axioms no_livelock_bounded_total_work
#print axioms active_threads_finite
#print axioms no_livelock_active
#print axioms no_livelock_uniform
#print axioms no_livelock_run
#print axioms bounded_total_work_with_invocations
#print axioms bounded_total_work_with_invocations_active
#print axioms no_deadlock
#print axioms maximal_run_quiescent
#print axioms run_finite_and_extendable
#print axioms maximal_run_finite_and_quiescent
#print axioms quiescent_run_exists
#print axioms every_operation_returns_within
#print axioms lock_free_some_operation_returns
#print axioms scheduled_often_enough_returns
#print axioms fair_schedule_operation_returns
#print axioms fair_schedule_every_operation_returns
#print axioms fair_schedule_quiescent
#print axioms demo_exec

end Garr.Props.C07LockFree
