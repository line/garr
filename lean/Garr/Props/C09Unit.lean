import Garr.Adder.UnitSum
/-!
# C09 (unit increments) — a concurrent `Sum` of the striped adder is linearizable as an atomic read

The breaker models (`Garr/Breaker/Conc.lean`, `Garr/Breaker/Fine.lean`) treat the two counters of a bucket as
atomic numbers: the buckets receive unit increments only, and for those a striped `Sum` is equivalent to an
atomic read, because the exact total passes through every integer between the bounds.
This file states that argument as theorems about the runs of the pc-level model `M intAlg mc` of the striped
`JDKAdder` (`Garr/Adder/Model.lean`).  The definitions and the theorems for operands `≥ 0` and operands in
`{0, 1}` are in `Garr/Adder/UnitSum.lean` (on top of `Garr/Adder/SumBounds.lean`); unit increments are the
special case.  The argument has three steps, by which the theorems are marked: **(1)** the response of a `Sum`
is `wrap64 n` with `n` between the numbers of updates linearized at its invocation and at its response;
**(2)** the exact total grows by at most one per step, so it equals `n` at some instant inside the call;
**(3)** hence the response is what an atomic read of the counter returns at that instant.

Vocabulary (all of `Garr.Adder.UnitSum`):

* `s : List (Tid × Act)` is a schedule; `NoMaint s`: no `Store` / `Reset` / `SumAndReset` invocation (as in
  `sum_bounds_run`); `UnitOps s` / `ZeroOneOps s` / `NonNegOps s`: every `Add x` invocation of `s` has
  `x = 1` (the model's `Inc`) / `0 ≤ x ≤ 1` / `0 ≤ x`.
* *Instant `k`* is the literal run prefix `s.take k`: `cfgAt M s k` and `logAt M s k` are the configuration and
  the log of `run M (Config.init M) (s.take k)`; *position `k`* is entry `s[k]`, the step from instant `k` to
  instant `k + 1`; disabled entries are skipped (`cfgAt_succ_cases`).
* `StepAt M s k t a g' l' obs`: position `k` is `(t, a)`, it is enabled at instant `k`, and its effect is
  `(g', l', obs)`.
* `SumSpan mc s t i j r`: position `i` is `t`'s invocation of `Sum`, met while `t` is idle; `t` is inside the
  operation at every instant in `(i, j]`; position `j` is a step of `t` that emits the response
  `Obs.ret (some r)`.  `SumSpanG mc s t i j r counted must` is the same on the instrumented machine
  `MG mc`, the response carrying the `Sum` ghosts.
* The *exact abstract total* at an instant is the ghost field `G.applied` of the heap
  (`= base + Σ cells`, `conservation`; `= Σ` operands of the linearization-point markers logged so far,
  `applied_log`; under `UnitOps`, `=` the number `nLp` of those markers, `applied_unit`; on the instrumented
  machine `= tot = Σ xOf u, u ∈ lped`, `applied_eq_tot`).
* `ctrOf log`: the abstract atomic int64 counter of the breaker models (`Bucket.add`: `s := wrap64 (s + 1)`),
  replayed over a log: every marker `lp x` performs `ctr := wrap64 (ctr + x)`; `ctrOf (obsOf (logAt … k))` is
  what an atomic read of that counter returns at instant `k`.
-/
namespace Garr.Props.C09Unit
open Garr Garr.Conc Garr.Adder Garr.Adder.UnitSum

-- `(MG mc).Act` / `(M intAlg mc).Act` are `Act` (etc.) only after unfolding `MG` / `M`
set_option backward.isDefEq.respectTransparency false

variable {mc : Nat}

/-- "Instant `k`" is literally the run on the prefix `s.take k`. -/
theorem instant_is_prefix (M : Machine) (s : List (Tid × M.Act)) (k : Nat) :
    cfgAt M s k = (run M (Config.init M) (s.take k)).1 ∧ logAt M s k = (run M (Config.init M) (s.take k)).2 ∧
    (s.length ≤ k → cfgAt M s k = (run M (Config.init M) s).1 ∧ logAt M s k = (run M (Config.init M) s).2) :=
  ⟨rfl, rfl, fun h => ⟨cfgAt_length s h, logAt_length s h⟩⟩

/-- The plain and the instrumented notion of a `Sum` span agree. -/
theorem span_plain_iff_instrumented {s : List (Tid × Act)} (hm : NoMaint s) {t : Tid} {i j : Nat} {r : Int} :
    SumSpan mc s t i j r ↔ ∃ counted must, SumSpanG mc s t i j r counted must :=
  span_iff hm

/-- The exact total `applied` of instant `k` is `base + Σ cells` of that prefix (`conservation`), the sum of
    the operands of the linearization points logged so far, and what the abstract atomic counter holds
    (modulo 2^64). -/
theorem total_at_instant {s : List (Tid × Act)} (hm : NoMaint s) (k : Nat) :
    G.base (cfgAt (M intAlg mc) s k).g + tableSum (cfgAt (M intAlg mc) s k).g =
      G.applied (cfgAt (M intAlg mc) s k).g ∧
    G.applied (cfgAt (M intAlg mc) s k).g = lpSum (obsOf (logAt (M intAlg mc) s k)) ∧
    ctrOf (obsOf (logAt (M intAlg mc) s k)) = wrap64 (G.applied (cfgAt (M intAlg mc) s k).g) :=
  ⟨conserved_cfgAt s k, applied_log hm k, ctr_cfgAt hm k⟩

/-- Under unit increments the exact total is the number of updates linearized so far. -/
theorem total_is_count {s : List (Tid × Act)} (hm : NoMaint s) (hu : UnitOps s) (k : Nat) :
    G.applied (cfgAt (M intAlg mc) s k).g = (nLp (obsOf (logAt (M intAlg mc) s k)) : Int) :=
  applied_unit hm hu k

/-- On the instrumented machine: the exact total is `Σ xOf u` over the linearized updates, under unit
    increments their number; the plain run is its projection. -/
theorem total_instrumented {s : List (Tid × Act)} (hm : NoMaint s) (k : Nat) :
    projC (cfgAt (MG mc) s k) = cfgAt (M intAlg mc) s k ∧
    G.applied (cfgAt (M intAlg mc) s k).g = tot (cfgAt (MG mc) s k) ∧
    (UnitOps s → tot (cfgAt (MG mc) s k) = ((ghostOf (cfgAt (MG mc) s k)).lped.length : Int)) ∧
    (ghostOf (cfgAt (MG mc) s k)).lped.length = nLp (obsOf (logAt (M intAlg mc) s k)) :=
  ⟨proj_cfgAt hm k, applied_cfgAt hm k, fun hu => tot_unit hu k, (nLp_logAt hm k).symm⟩

/-- One step changes the exact total by the operand of the (at most one) linearization point it emits: from
    one instant to the next the total is unchanged or grows by the operand of one allocated update. -/
theorem total_step (s : List (Tid × Act)) (k : Nat) :
    tot (cfgAt (MG mc) s (k + 1)) = tot (cfgAt (MG mc) s k) ∨
    ∃ u, u < (ghostOf (cfgAt (MG mc) s k)).nupd ∧
      tot (cfgAt (MG mc) s (k + 1)) = tot (cfgAt (MG mc) s k) + (ghostOf (cfgAt (MG mc) s k)).xOf u :=
  tot_succ s k

/-- **Non-negative operands: between the bounds.**  The response is `wrap64 n` with `n` between the exact
    total at the invocation instant and the exact total at the response instant.  (No instant in general:
    `plus2_demo`.) -/
theorem nonneg_sum_between {s : List (Tid × Act)} (hm : NoMaint s) (hs : NonNegOps s) {t : Tid} {i j : Nat}
    {r : Int} (h : SumSpan mc s t i j r) :
    ∃ n : Int, r = wrap64 n ∧ G.applied (cfgAt (M intAlg mc) s i).g ≤ n ∧
      n ≤ G.applied (cfgAt (M intAlg mc) s j).g := by
  obtain ⟨counted, must, hG⟩ := (span_iff hm).1 h
  rw [applied_cfgAt hm i, applied_cfgAt hm j]
  exact ⟨_, sum_between hs hG⟩

/-- **Operands in `{0, 1}`: still an atomic read.**  The response equals an atomic read of the abstract counter
    at an instant `k`, `i < k ≤ j`; the counter then holds the wrapped exact total, which lies between the
    totals at the invocation and at the response instant. -/
theorem zero_one_sum_is_atomic_read {s : List (Tid × Act)} (hm : NoMaint s) (hs : ZeroOneOps s) {t : Tid}
    {i j : Nat} {r : Int} (h : SumSpan mc s t i j r) :
    ∃ k, i < k ∧ k ≤ j ∧ r = ctrOf (obsOf (logAt (M intAlg mc) s k)) ∧
      r = wrap64 (G.applied (cfgAt (M intAlg mc) s k).g) ∧
      G.applied (cfgAt (M intAlg mc) s i).g ≤ G.applied (cfgAt (M intAlg mc) s k).g ∧
      G.applied (cfgAt (M intAlg mc) s k).g ≤ G.applied (cfgAt (M intAlg mc) s j).g := by
  obtain ⟨counted, must, hG⟩ := (span_iff hm).1 h
  obtain ⟨n, k, h1, h2, h3, h4, h5, rfl⟩ := sum_instant hs hG
  simp only [ctr_cfgAt hm, applied_cfgAt hm]
  exact ⟨k, h4, h5, h1, h1, h2, h3⟩

/-- Non-negative operands: the exact total never decreases along the run. -/
theorem nonneg_total_monotone {s : List (Tid × Act)} (hm : NoMaint s) (hs : NonNegOps s) {k k' : Nat}
    (h : k ≤ k') : G.applied (cfgAt (M intAlg mc) s k).g ≤ G.applied (cfgAt (M intAlg mc) s k').g := by
  rw [applied_cfgAt hm k, applied_cfgAt hm k']; exact tot_mono hs h

theorem unit_zero_one {s : List (Tid × Act)} (hu : UnitOps s) : ZeroOneOps s :=
  hu.mono (fun x hx => by subst hx; omega)

theorem unit_nonneg {s : List (Tid × Act)} (hu : UnitOps s) : NonNegOps s :=
  (unit_zero_one hu).mono (fun _ hx => hx.1)

/-- the unit case of `zero_one_sum_is_atomic_read`, in counts: the exact total is then the number `nLp` of
    linearization points logged (`applied_unit`) -/
theorem sum_atomic_unit {s : List (Tid × Act)} (hm : NoMaint s) (hs : UnitOps s)
    {t : Tid} {i j : Nat} {r : Int} (h : SumSpan mc s t i j r) :
    ∃ n k : Nat, r = wrap64 (n : Int) ∧
      nLp (obsOf (logAt (M intAlg mc) s i)) ≤ n ∧ n ≤ nLp (obsOf (logAt (M intAlg mc) s j)) ∧
      i < k ∧ k ≤ j ∧ nLp (obsOf (logAt (M intAlg mc) s k)) = n ∧
      G.applied (cfgAt (M intAlg mc) s k).g = (n : Int) ∧
      r = ctrOf (obsOf (logAt (M intAlg mc) s k)) := by
  obtain ⟨k, h1, h2, h3, h4, h5, h6⟩ := zero_one_sum_is_atomic_read hm (unit_zero_one hs) h
  simp only [applied_unit hm hs] at h4 h5 h6
  exact ⟨_, k, h4, by omega, by omega, h1, h2, rfl, applied_unit hm hs k, h3⟩

/-- **(1), instrumented form.**  Unit increments.  The response of a `Sum` span is `wrap64 n`, where
    `n = counted.length` satisfies
    `(number of updates linearized before position i) ≤ n ≤ (number of updates linearized before position j)`;
    `must` is the list of the former (`sum_bounds` with cardinalities). -/
theorem sum_counts_between_ghost {s : List (Tid × Act)} (hu : UnitOps s) {t : Tid} {i j : Nat} {r : Int}
    {counted must : List Nat} (h : SumSpanG mc s t i j r counted must) :
    must = (ghostOf (cfgAt (MG mc) s i)).lped ∧
    r = wrap64 (counted.length : Int) ∧
    (ghostOf (cfgAt (MG mc) s i)).lped.length ≤ counted.length ∧
    counted.length ≤ (ghostOf (cfgAt (MG mc) s j)).lped.length := by
  obtain ⟨h1, h2, h3⟩ := sum_between (unit_nonneg hu) h
  simp only [lsum_unit (fun u hu' => allP_cfgAt hu j u ((span_bounds h).2.2.2 u hu').2), tot_unit hu] at h1 h2 h3
  exact ⟨span_must h, h1, by omega, by omega⟩

/-- **(1).**  Unit increments, plain machine.  The response `r` of a `Sum` invoked at position `i` and
    returning at position `j` is `wrap64 n` for some `n` with
    `(number of updates linearized before position i) ≤ n ≤ (number of updates linearized before position j)`. -/
theorem sum_counts_between {s : List (Tid × Act)} (hm : NoMaint s) (hu : UnitOps s) {t : Tid} {i j : Nat}
    {r : Int} (h : SumSpan mc s t i j r) :
    ∃ n : Nat, r = wrap64 (n : Int) ∧
      nLp (obsOf (logAt (M intAlg mc) s i)) ≤ n ∧ n ≤ nLp (obsOf (logAt (M intAlg mc) s j)) := by
  obtain ⟨n, _, h1, h2, h3, _⟩ := sum_atomic_unit hm hu h
  exact ⟨n, h1, h2, h3⟩

/-- **Discrete intermediate value.**  A sequence of integers that grows by at most one per step takes every
    value between an earlier and a later term. -/
theorem discrete_intermediate_value (f : Nat → Int) {i j : Nat} (hij : i ≤ j)
    (hstep : ∀ k, i ≤ k → k < j → f (k + 1) ≤ f k + 1) {n : Int} (hlo : f i ≤ n) (hhi : n ≤ f j) :
    ∃ k, i ≤ k ∧ k ≤ j ∧ f k = n :=
  discrete_ivt f hij hstep hlo hhi

/-- **(2).**  Unit increments.  With `n` as in (1), there is a position `k`, `i < k ≤ j` (so in particular
    `i ≤ k ≤ j`), such that the exact abstract total after the first `k` steps of the run -- the number of
    linearized updates, `applied`, `base + Σ cells` of the prefix `s.take k` -- equals `n`. -/
theorem sum_total_at_instant {s : List (Tid × Act)} (hm : NoMaint s) (hu : UnitOps s) {t : Tid} {i j : Nat}
    {r : Int} (h : SumSpan mc s t i j r) :
    ∃ n k : Nat, r = wrap64 (n : Int) ∧
      nLp (obsOf (logAt (M intAlg mc) s i)) ≤ n ∧ n ≤ nLp (obsOf (logAt (M intAlg mc) s j)) ∧
      i < k ∧ k ≤ j ∧
      nLp (obsOf (logAt (M intAlg mc) s k)) = n ∧
      G.applied (cfgAt (M intAlg mc) s k).g = (n : Int) ∧
      G.base (cfgAt (M intAlg mc) s k).g + tableSum (cfgAt (M intAlg mc) s k).g = (n : Int) := by
  obtain ⟨n, k, h1, h2, h3, h4, h5, h6, h7, _⟩ := sum_atomic_unit hm hu h
  exact ⟨n, k, h1, h2, h3, h4, h5, h6, h7, by rw [conserved_cfgAt, h7]⟩

/-- **(2), instrumented form**: the number of linearized updates `lped.length` at instant `k` is `n`. -/
theorem sum_total_at_instant_ghost {s : List (Tid × Act)} (hu : UnitOps s) {t : Tid} {i j : Nat} {r : Int}
    {counted must : List Nat} (h : SumSpanG mc s t i j r counted must) :
    ∃ n k : Nat, r = wrap64 (n : Int) ∧ (ghostOf (cfgAt (MG mc) s i)).lped.length ≤ n ∧
      n ≤ (ghostOf (cfgAt (MG mc) s j)).lped.length ∧
      i < k ∧ k ≤ j ∧ (ghostOf (cfgAt (MG mc) s k)).lped.length = n := by
  obtain ⟨n, k, h1, h2, h3, h4, h5, h6⟩ := sum_instant (unit_zero_one hu) h
  rw [tot_unit hu] at h2 h3 h6
  subst h6
  exact ⟨_, k, h1, by omega, by omega, h4, h5, rfl⟩

/-- **(3).**  Unit increments.  The response of a `Sum` span equals an atomic read of the abstract counter
    performed at an instant `k` between the invocation and the response: `i < k ≤ j`. -/
theorem sum_is_atomic_read {s : List (Tid × Act)} (hm : NoMaint s) (hu : UnitOps s) {t : Tid} {i j : Nat}
    {r : Int} (h : SumSpan mc s t i j r) :
    ∃ k, i < k ∧ k ≤ j ∧ r = ctrOf (obsOf (logAt (M intAlg mc) s k)) := by
  obtain ⟨_, k, _, _, _, h4, h5, _, _, h8⟩ := sum_atomic_unit hm hu h
  exact ⟨k, h4, h5, h8⟩

/-- **Coverage.**  Every value-carrying response logged at position `j` by thread `t` closes exactly one `Sum`
    span: there is a unique earlier position `i` at which `t`, idle, invoked this `Sum`. -/
theorem every_sum_response_has_span {s : List (Tid × Act)} (hm : NoMaint s) {t : Tid} {j : Nat} {r : Int}
    (h : ∃ a g' l' obs, StepAt (M intAlg mc) s j t a g' l' obs ∧ Obs.ret (some r) ∈ obs) :
    ∃ i, SumSpan mc s t i j r ∧ ∀ i' r', SumSpan mc s t i' j r' → i' = i := by
  obtain ⟨i, hi⟩ := span_exists_plain hm h
  exact ⟨i, hi, fun i' r' h' => span_unique h' hi⟩

/-- **(3), every response.**  Unit increments.  In every run (no maintenance operations), every `Sum` response
    `r`, logged at any position `j` by any thread `t`, has its invocation at a position `i < j` and equals an
    atomic read of the abstract counter at an instant `k`, `i < k ≤ j`, at which exactly `n` updates have been
    linearized, `r = wrap64 n`. -/
theorem every_sum_response_is_atomic_read {s : List (Tid × Act)} (hm : NoMaint s) (hu : UnitOps s) {t : Tid}
    {j : Nat} {r : Int}
    (h : ∃ a g' l' obs, StepAt (M intAlg mc) s j t a g' l' obs ∧ Obs.ret (some r) ∈ obs) :
    ∃ i, SumSpan mc s t i j r ∧ ∃ n k : Nat, i < k ∧ k ≤ j ∧ r = wrap64 (n : Int) ∧
      nLp (obsOf (logAt (M intAlg mc) s k)) = n ∧ G.applied (cfgAt (M intAlg mc) s k).g = (n : Int) ∧
      r = ctrOf (obsOf (logAt (M intAlg mc) s k)) := by
  obtain ⟨i, hi⟩ := span_exists_plain hm h
  obtain ⟨n, k, h1, _, _, h4, h5, h6, h7, h8⟩ := sum_atomic_unit hm hu hi
  exact ⟨i, hi, n, k, h4, h5, h1, h6, h7, h8⟩

/-- **(3), every response in the log of the run.**  Unit increments.  Every `Sum` response `(t, ret (some r))` in
    the log of the run of the plain machine on `s` was logged at some position `j` by a `Sum` invoked at some
    position `i < j`, and equals an atomic read of the abstract counter at an instant `k`, `i < k ≤ j`. -/
theorem every_logged_sum_is_atomic_read {s : List (Tid × Act)} (hm : NoMaint s) (hu : UnitOps s) {t : Tid}
    {r : Int} (h : (t, Obs.ret (some r)) ∈ (run (M intAlg mc) (Config.init (M intAlg mc)) s).2) :
    ∃ i j k, SumSpan mc s t i j r ∧ i < k ∧ k ≤ j ∧ j < s.length ∧
      r = ctrOf (obsOf (logAt (M intAlg mc) s k)) ∧
      r = wrap64 (nLp (obsOf (logAt (M intAlg mc) s k)) : Int) := by
  obtain ⟨j, a, g', l', obs, hj, hst, ho⟩ := mem_run_log (M := M intAlg mc) h
  obtain ⟨i, hi, n, k, h1, h2, h3, h4, _, h6⟩ := every_sum_response_is_atomic_read hm hu ⟨a, g', l', obs, hst, ho⟩
  exact ⟨i, j, k, hi, h1, h2, hj, h6, by rw [h4]; exact h3⟩

/-- **(3), monotone reads.**  Unit increments.  If a `Sum` returns (position `j₁`) before another is invoked
    (position `i₂`), they are atomic reads at ordered instants `k₁ < k₂`, each inside its own span, and the
    exact totals read are ordered. -/
theorem sum_reads_monotone {s : List (Tid × Act)} (hm : NoMaint s) (hu : UnitOps s)
    {t1 t2 : Tid} {i1 j1 i2 j2 : Nat} {r1 r2 : Int}
    (h1 : SumSpan mc s t1 i1 j1 r1) (h2 : SumSpan mc s t2 i2 j2 r2) (h12 : j1 < i2) :
    ∃ k1 k2, i1 < k1 ∧ k1 ≤ j1 ∧ i2 < k2 ∧ k2 ≤ j2 ∧ k1 < k2 ∧
      r1 = ctrOf (obsOf (logAt (M intAlg mc) s k1)) ∧ r2 = ctrOf (obsOf (logAt (M intAlg mc) s k2)) ∧
      r1 = wrap64 (G.applied (cfgAt (M intAlg mc) s k1).g) ∧
      r2 = wrap64 (G.applied (cfgAt (M intAlg mc) s k2).g) ∧
      G.applied (cfgAt (M intAlg mc) s k1).g ≤ G.applied (cfgAt (M intAlg mc) s k2).g := by
  obtain ⟨k1, a1, b1, e1, f1, _⟩ := zero_one_sum_is_atomic_read hm (unit_zero_one hu) h1
  obtain ⟨k2, a2, b2, e2, f2, _⟩ := zero_one_sum_is_atomic_read hm (unit_zero_one hu) h2
  have hk : k1 < k2 := Nat.lt_trans (Nat.lt_of_le_of_lt b1 h12) a2
  exact ⟨k1, k2, a1, b1, a2, b2, hk, e1, e2, f1, f2,
    nonneg_total_monotone hm (unit_nonneg hu) (Nat.le_of_lt hk)⟩

/-- ... in particular two `Sum`s of the same thread: the one invoked first has returned before the other is
    invoked, so they read at ordered instants. -/
theorem same_thread_sums_monotone {s : List (Tid × Act)} (hm : NoMaint s) (hu : UnitOps s)
    {t : Tid} {i1 j1 i2 j2 : Nat} {r1 r2 : Int}
    (h1 : SumSpan mc s t i1 j1 r1) (h2 : SumSpan mc s t i2 j2 r2) (h12 : i1 < i2) :
    j1 < i2 ∧ ∃ k1 k2, i1 < k1 ∧ k1 ≤ j1 ∧ i2 < k2 ∧ k2 ≤ j2 ∧ k1 < k2 ∧
      r1 = ctrOf (obsOf (logAt (M intAlg mc) s k1)) ∧ r2 = ctrOf (obsOf (logAt (M intAlg mc) s k2)) ∧
      G.applied (cfgAt (M intAlg mc) s k1).g ≤ G.applied (cfgAt (M intAlg mc) s k2).g := by
  have hd := same_thread_disjoint h1 h2 h12
  obtain ⟨k1, k2, a1, a2, a3, a4, a5, a6, a7, _, _, a10⟩ := sum_reads_monotone hm hu h1 h2 hd
  exact ⟨hd, k1, k2, a1, a2, a3, a4, a5, a6, a7, a10⟩

/-- **(3), monotone reads, instrumented form**: the later `Sum` counts every update the earlier one counted. -/
theorem sum_counted_monotone {s : List (Tid × Act)} (hu : UnitOps s)
    {t1 t2 : Tid} {i1 j1 i2 j2 : Nat} {r1 r2 : Int} {counted1 must1 counted2 must2 : List Nat}
    (h1 : SumSpanG mc s t1 i1 j1 r1 counted1 must1) (h2 : SumSpanG mc s t2 i2 j2 r2 counted2 must2)
    (h12 : j1 < i2) :
    (∀ u ∈ counted1, u ∈ counted2) ∧
    ∃ k1 k2, i1 < k1 ∧ k1 ≤ j1 ∧ i2 < k2 ∧ k2 ≤ j2 ∧ k1 < k2 ∧
      r1 = wrap64 (tot (cfgAt (MG mc) s k1)) ∧ r2 = wrap64 (tot (cfgAt (MG mc) s k2)) ∧
      tot (cfgAt (MG mc) s k1) ≤ tot (cfgAt (MG mc) s k2) := by
  constructor
  · -- counted by the first, so linearized when it returns, so linearized when the second is invoked
    exact fun u hu => (span_bounds h2).2.2.1 u
      ((ext_cfgAt s (Nat.le_of_lt h12)).lped_mono u ((span_bounds h1).2.2.2 u hu).1)
  · obtain ⟨n1, k1, e1, _, _, a1, b1, c1⟩ := sum_instant (unit_zero_one hu) h1
    obtain ⟨n2, k2, e2, _, _, a2, b2, c2⟩ := sum_instant (unit_zero_one hu) h2
    have hk : k1 < k2 := Nat.lt_trans (Nat.lt_of_le_of_lt b1 h12) a2
    exact ⟨k1, k2, a1, b1, a2, b2, hk, by rw [c1]; exact e1, by rw [c2]; exact e2,
      tot_mono (unit_nonneg hu) (Nat.le_of_lt hk)⟩

/-- Five threads, `maxCells = 4`.  Positions `0–16`: `T1` reads `base = 0`; `T0`'s `Inc` lands on `base`; `T1`'s
    CAS fails, it creates the table and lands its `Inc` in a new cell (cell `0`, slot `1`).  Total `2`.
    Position `17`: `T2` invokes `Sum`; positions `18–20`: it reads `base = 1` and slot `0` (empty).
    Positions `21–34`: `T3` runs `Add y`: slot `0` is empty, it attaches a new cell (cell `1`) holding `y`
    (linearization point at position `33`).  Positions `35–40`: `T4` runs `Add x` on slot `1` (cell `0`,
    linearization point at position `40`).  Positions `41–42`: `T2` reads slot `1` and returns: it has seen
    `x` but not `y`, although `y` was linearized first. -/
def demo (y x : Int) : List (Tid × Act) :=
  [ (1, .add 1), (1, .tau), (1, .tau),
    (0, .add 1), (0, .tau), (0, .tau), (0, .tau),
    (1, .tau), (1, .rnd 1),
    (1, .tau), (1, .tau), (1, .tau), (1, .tau), (1, .tau), (1, .tau), (1, .tau), (1, .tau),
    (2, .sum), (2, .tau), (2, .tau), (2, .tau),
    (3, .add y), (3, .tau), (3, .rnd 0), (3, .tau), (3, .rnd 2), (3, .tau), (3, .tau), (3, .tau), (3, .tau),
    (3, .tau), (3, .tau), (3, .tau), (3, .tau), (3, .tau),
    (4, .add x), (4, .tau), (4, .rnd 1), (4, .tau), (4, .tau), (4, .tau),
    (2, .tau), (2, .tau) ]

abbrev totalAt (y x : Int) (k : Nat) : Int := G.applied (cfgAt (M intAlg 4) (demo y x) k).g

abbrev readAt (y x : Int) (k : Nat) : Int := ctrOf (obsOf (logAt (M intAlg 4) (demo y x) k))

abbrev logOf (y x : Int) (k : Nat) : List (Tid × Obs) := logAt (M intAlg 4) (demo y x) k

/-- what is checked at instant `k` of a demo, in one pass over its run (`checkFrom`): the span of `T2`'s `Sum` --
    invoked at position `17`, last step at position `42`, response `r` --, the exact total `2` at instant `17`
    and `n` at instant `42`, and a further property `Q` of the instants -/
abbrev DemoAt (r n : Int) (Q : Nat → Config (M intAlg 4) → List (Tid × Obs) → Prop) (k : Nat)
    (c : Config (M intAlg 4)) (lg : List (Tid × Obs)) : Prop :=
  SpanAt 4 2 17 42 .tau r k c ∧ (k = 17 → G.applied c.g = 2) ∧ (k = 42 → G.applied c.g = n) ∧ Q k c lg

theorem demo_facts {y x r n : Int} {Q : Nat → Config (M intAlg 4) → List (Tid × Obs) → Prop}
    [∀ k c lg, Decidable (Q k c lg)]
    (h : checkFrom (M intAlg 4) (DemoAt r n Q) 0 (Config.init (M intAlg 4)) [] (demo y x) = true) :
    NoMaint (demo y x) ∧ SumSpan 4 (demo y x) 2 17 42 r ∧ totalAt y x 17 = 2 ∧ totalAt y x 42 = n ∧
    ∀ k, Q (min k 43) (cfgAt (M intAlg 4) (demo y x) k) (logAt (M intAlg 4) (demo y x) k) := by
  have H := check_instants (DemoAt r n Q) h
  exact ⟨List.all_eq_true.1 rfl,
    span_of_instants (by decide) rfl rfl (fun k hk => by
      have := (H k).1
      rwa [Nat.min_eq_left (show k ≤ (demo y x).length from Nat.le_succ_of_le hk)] at this),
    (H 17).2.1 rfl, (H 42).2.2.1 rfl, fun k => (H k).2.2.2⟩

/-- **Non-vacuity.**  `demo 1 1` is a run of unit increments in which the `Sum` of `T2` (invoked at position
    `17`, returning at position `42`) overlaps the two `Inc`s of `T3` (positions `21–34`) and `T4` (positions
    `35–40`), which land on different cells (`T3` creates cell `1`, `T4` bumps cell `0`); the exact total is `2`
    when the `Sum` is invoked and `4` when it returns, the `Sum` returns the intermediate value `3`, and `3`
    is the exact total -- and the value of an atomic read -- exactly at the instants `34 … 40`, between `T3`'s
    and `T4`'s linearization points. -/
theorem unit_demo :
    NoMaint (demo 1 1) ∧ UnitOps (demo 1 1) ∧ SumSpan 4 (demo 1 1) 2 17 42 3 ∧
    -- the two overlapping `Inc`s: invoked after the `Sum`, both return before it; different cells
    (demo 1 1)[21]? = some (3, .add 1) ∧ (demo 1 1)[35]? = some (4, .add 1) ∧
    logOf 1 1 17 = [(0, .lp 1), (0, .ret none), (1, .lp 1), (1, .ret none)] ∧
    logOf 1 1 43 =
      [(0, .lp 1), (0, .ret none), (1, .lp 1), (1, .ret none), (3, .lp 1), (3, .ret none), (4, .lp 1),
       (4, .ret none), (2, .ret (some 3))] ∧
    (let g := (cfgAt (M intAlg 4) (demo 1 1) 17).g; (g.base, g.ncell, g.cell 0) = (1, 1, 1)) ∧
    (let g := (cfgAt (M intAlg 4) (demo 1 1) 43).g; (g.base, g.ncell, g.cell 0, g.cell 1) = (1, 2, 2, 1)) ∧
    -- the bounds, and the witness instant
    totalAt 1 1 17 = 2 ∧ totalAt 1 1 42 = 4 ∧ totalAt 1 1 34 = 3 ∧ readAt 1 1 34 = 3 ∧
    (∀ k, k < 44 → (totalAt 1 1 k = 3 ↔ 34 ≤ k ∧ k ≤ 40)) := by
  obtain ⟨hm, hspan, h17, h42, hQ⟩ := demo_facts (y := 1) (x := 1) (r := 3) (n := 4)
    (Q := fun k c lg => (k = 34 → ctrOf (obsOf lg) = 3) ∧ (G.applied c.g = 3 ↔ 34 ≤ k ∧ k ≤ 40)) (by decide +kernel)
  -- the logs and heaps of the instants `17` and `43` are evaluated together: they share the run
  have and4 : ∀ {a b c d r : Prop}, a ∧ b ∧ c ∧ d → r → a ∧ b ∧ c ∧ d ∧ r :=
    fun h hr => ⟨h.1, h.2.1, h.2.2.1, h.2.2.2, hr⟩
  exact ⟨hm, opsP_of_all (by decide +kernel), hspan, rfl, rfl,
    and4 (by decide +kernel) ⟨h17, h42, (hQ 34).2.2 ⟨by decide, by decide⟩, (hQ 34).1 rfl,
      fun k hk => by have := (hQ k).2; rwa [Nat.min_eq_left (Nat.le_of_lt_succ hk)] at this⟩⟩

/-- the theorem applied to the demo: it yields an instant, and any such instant is one of `34 … 40` -/
example : ∃ k, 17 < k ∧ k ≤ 42 ∧ (3 : Int) = readAt 1 1 k :=
  sum_is_atomic_read unit_demo.1 unit_demo.2.1 unit_demo.2.2.1

/-- **The unit hypothesis is needed (operands `-1`, `+1`).**  In `demo (-1) 1` (`T3` runs `Add (-1)`, `T4` runs
    `Inc`) the exact total goes `2 → 1 → 2` while the `Sum` runs; the `Sum` returns `3`: a value the exact
    total never has, at any instant of the run, and that no atomic read could return; it is outside the
    bounds `[2, 2]` as well. -/
theorem signed_demo :
    NoMaint (demo (-1) 1) ∧ OpsP (fun x => x = 1 ∨ x = -1) (demo (-1) 1) ∧ SumSpan 4 (demo (-1) 1) 2 17 42 3 ∧
    totalAt (-1) 1 17 = 2 ∧ totalAt (-1) 1 42 = 2 ∧
    (∀ k, totalAt (-1) 1 k ≠ 3) ∧ (∀ k, readAt (-1) 1 k ≠ 3) := by
  obtain ⟨hm, hspan, h17, h42, hQ⟩ := demo_facts (y := -1) (x := 1) (r := 3) (n := 2)
    (Q := fun _ c lg => G.applied c.g ≠ 3 ∧ ctrOf (obsOf lg) ≠ 3) (by decide +kernel)
  exact ⟨hm, opsP_of_all (by decide +kernel),
    hspan, h17, h42, fun k => (hQ k).1, fun k => (hQ k).2⟩

/-- **The unit hypothesis is needed (operands `+2`, `-1`).**  In `demo 2 (-1)` the exact total goes
    `2 → 4 → 3` while the `Sum` runs; the `Sum` returns `1`, below both bounds, a value the exact total does
    not have at any instant from the invocation on. -/
theorem plus2_minus1_demo :
    NoMaint (demo 2 (-1)) ∧ SumSpan 4 (demo 2 (-1)) 2 17 42 1 ∧
    totalAt 2 (-1) 17 = 2 ∧ totalAt 2 (-1) 34 = 4 ∧ totalAt 2 (-1) 42 = 3 ∧
    (∀ k, 17 ≤ k → totalAt 2 (-1) k ≠ 1) := by
  obtain ⟨hm, hspan, h17, h42, hQ⟩ := demo_facts (y := 2) (x := -1) (r := 1) (n := 3)
    (Q := fun k c _ => (k = 34 → G.applied c.g = 4) ∧ (17 ≤ k → G.applied c.g ≠ 1)) (by decide +kernel)
  exact ⟨hm, hspan, h17, (hQ 34).1 rfl, h42, fun k hk => (hQ k).2 (by omega)⟩

/-- **Non-negative operands give the bounds only (operand `+2`).**  In `demo 1 2` (all operands `≥ 0`, one
    is `2`) the exact total goes `2 → 3 → 5` while the `Sum` runs; the `Sum` returns `4`: between the bounds,
    as `nonneg_sum_between` says, but not the exact total at any instant of the run. -/
theorem plus2_demo :
    NoMaint (demo 1 2) ∧ NonNegOps (demo 1 2) ∧ SumSpan 4 (demo 1 2) 2 17 42 4 ∧
    totalAt 1 2 17 = 2 ∧ totalAt 1 2 42 = 5 ∧ (∀ k, totalAt 1 2 k ≠ 4) ∧ (∀ k, readAt 1 2 k ≠ 4) := by
  obtain ⟨hm, hspan, h17, h42, hQ⟩ := demo_facts (y := 1) (x := 2) (r := 4) (n := 5)
    (Q := fun _ c lg => G.applied c.g ≠ 4 ∧ ctrOf (obsOf lg) ≠ 4) (by decide +kernel)
  exact ⟨hm, opsP_of_all (by decide +kernel),
    hspan, h17, h42, fun k => (hQ k).1, fun k => (hQ k).2⟩

end Garr.Props.C09Unit

#print axioms Garr.Props.C09Unit.instant_is_prefix
#print axioms Garr.Props.C09Unit.span_plain_iff_instrumented
#print axioms Garr.Props.C09Unit.every_logged_sum_is_atomic_read
#print axioms Garr.Props.C09Unit.total_at_instant
#print axioms Garr.Props.C09Unit.total_is_count
#print axioms Garr.Props.C09Unit.total_instrumented
#print axioms Garr.Props.C09Unit.total_step
#print axioms Garr.Props.C09Unit.sum_counts_between_ghost
#print axioms Garr.Props.C09Unit.sum_counts_between
#print axioms Garr.Props.C09Unit.discrete_intermediate_value
#print axioms Garr.Props.C09Unit.sum_total_at_instant
#print axioms Garr.Props.C09Unit.sum_total_at_instant_ghost
#print axioms Garr.Props.C09Unit.sum_is_atomic_read
#print axioms Garr.Props.C09Unit.every_sum_response_has_span
#print axioms Garr.Props.C09Unit.every_sum_response_is_atomic_read
#print axioms Garr.Props.C09Unit.sum_reads_monotone
#print axioms Garr.Props.C09Unit.same_thread_sums_monotone
#print axioms Garr.Props.C09Unit.sum_counted_monotone
#print axioms Garr.Props.C09Unit.nonneg_sum_between
#print axioms Garr.Props.C09Unit.zero_one_sum_is_atomic_read
#print axioms Garr.Props.C09Unit.nonneg_total_monotone
#print axioms Garr.Props.C09Unit.unit_demo
#print axioms Garr.Props.C09Unit.signed_demo
#print axioms Garr.Props.C09Unit.plus2_minus1_demo
#print axioms Garr.Props.C09Unit.plus2_demo
