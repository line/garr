import Garr.Breaker.WindowInv
/-!
# C10 — the sliding-window counter neither invents, double-counts nor loses events (breaker layer)

*Every count the sliding-window counter reports is bounded above by the successes and failures reported so far in
update intervals that began within the sliding window, so no event is invented or counted twice; once concurrent
reporters have returned, the next interval roll reports exactly those events — including events recorded while the
ticker stepped backwards or by reporters that lost the race to roll the bucket — and excludes everything older than
the window.*

**What is proved here, and at which layer.**  The theorems are about `Garr.Breaker.M` (`Garr/Breaker/Conc.lean`), in
which the lower layers (the lock-free queue with its iterator/`Remove` as reservoir, the striped adders as bucket
counters) are used through their sequential specifications, atomically with the breaker-layer access that precedes
them in program order (layered proof; their linearizability is C01/C13 and C02/C09).  AT THIS LAYER equality holds
at *every* roll, quiescent or not (`roll_exact`): the count is exactly the number of events *recorded* so far in
buckets whose interval began within the window; the upper bound (`no_invention`) is its corollary.  Of "once
reporters have returned" only the per-thread part is here: `report_records_exactly_once`, along the own steps of one
report from entry to return (`OpPath`) exactly one `recorded` is emitted; that recorded = reported at quiescence is not
stated.  The full-stack behaviour of the real code is weaker: the roller
can be delayed between swapping the bucket and archiving it, and a concurrent `Sum` may miss in-flight increments —
that is why the property's first sentence is only an upper bound.  For the full stack the upper bound and the
equality after quiescence are proved over the model with the queue internals visible (`Garr/Props/C10Fine.lean`:
`roll_upper_bound`, `solo_roll_exact`) and checked on the real code by monitors; they are NOT consequences of this file.

**Guard.**  `WNoWrap cfg` (`0 < interval ≤ 2^61`, `0 < window ≤ 2^61`) and `SchedOK t1 t2 s` (the constructor's
readings and every `tick` of the schedule within `±2^61`, fewer than `2^61` schedule entries): under it `wrap64` is
the identity on every sum the model forms.  Outside the guard the model (like the code) wraps — finding F7.

**Log.**  `recS w x lg` / `recF w x lg`: number of entries `recorded w stamp true` / `false` of `lg` with
`stamp ≥ x`.  A `rolled w t s f` entry is emitted in the same step as, and BEFORE, the roller's own
`recorded w t succ`; "the log before the roll" therefore excludes the triggering event.
-/
namespace Garr.Props.C10
open Garr Garr.Conc Garr.Breaker

/-- the run of schedule `s` from the constructor's state (`t1`, `t2`: the constructor's two ticker readings) -/
abbrev runOf (cfg : Config) (t1 t2 : Int) (s : List (Tid × Act)) :=
  run (M cfg t1 t2) (Conc.Config.init (M cfg t1 t2)) s

/-- every `rolled` entry of the log of a guarded run is justified by the log before it (`RollOK`): its count is exact and
its tick is at least one interval after the previous roll of its window -/
theorem rolls_ok {cfg : Config} {t1 t2 : Int} {s : List (Tid × Act)} (hcfg : WNoWrap cfg) (hs : SchedOK t1 t2 s) :
    RollsOK cfg (runOf cfg t1 t2 s).2 := by
  obtain ⟨_, _, _, hG, _⟩ := winv_run cfg t1 t2 s hcfg hs
  exact hG.rolls

/-- **Every roll is exact.**  In every guarded run, for every entry `rolled w t sc fc` of the log, with `pre` the log
strictly before it: the reported count is exactly the number of successes / failures recorded so far in window `w`
in buckets with timestamp `≥ t - window` — the triggering event excluded (its `recorded` entry comes after),
everything older excluded, nothing else missing. -/
theorem roll_exact (cfg : Config) (t1 t2 : Int) (s : List (Tid × Act)) (hcfg : WNoWrap cfg) (hs : SchedOK t1 t2 s)
    (pre post : List (Tid × Obs)) (tid : Tid) (w : Nat) (t sc fc : Int)
    (hlog : (runOf cfg t1 t2 s).2 = pre ++ (tid, Obs.rolled w t sc fc) :: post) :
    sc = recS w (t - cfg.window) pre ∧ fc = recF w (t - cfg.window) pre := by
  have := (rolls_ok hcfg hs).at hlog
  exact ⟨this.1, this.2.1⟩

/-- **Roll ticks of one window increase by at least one interval** (consecutive rolls), so the new trim limit is
above the previous one and the counting invariant applies to it -/
theorem roll_ticks_increase (cfg : Config) (t1 t2 : Int) (s : List (Tid × Act)) (hcfg : WNoWrap cfg)
    (hs : SchedOK t1 t2 s) (pre post : List (Tid × Obs)) (tid : Tid) (w : Nat) (t sc fc : Int)
    (hlog : (runOf cfg t1 t2 s).2 = pre ++ (tid, Obs.rolled w t sc fc) :: post) :
    ∀ t', lastRoll w pre = some t' → t' + cfg.interval ≤ t ∧ t' - cfg.window < t - cfg.window := by
  have := ((rolls_ok hcfg hs).at hlog).2.2
  intro t' ht'
  have := this t' ht'
  have := hcfg.1
  omega

theorem rollTick_some {w : Nat} {e : Tid × Obs} {t : Int} (h : rollTick w e = some t) :
    ∃ tid s f, e = (tid, Obs.rolled w t s f) := by
  obtain ⟨tid, o⟩ := e
  cases o <;> simp [rollTick] at h
  obtain ⟨rfl, rfl⟩ := h
  exact ⟨_, _, _, rfl⟩

theorem ticks_le_last {cfg : Config} (hi : 0 < cfg.interval) (w : Nat) :
    ∀ (n : Nat) (lg : List (Tid × Obs)), lg.length = n → RollsOK cfg lg → ∀ t' ∈ lg.filterMap (rollTick w),
      ∃ tl, lastRoll w lg = some tl ∧ t' ≤ tl := by
  intro n
  induction n with
  | zero =>
    intro lg hl _ t' ht'
    have : lg = [] := List.length_eq_zero_iff.mp hl
    subst this; simp at ht'
  | succ n ih =>
    intro lg hl hR t' ht'
    rcases List.eq_nil_or_concat lg with h | ⟨l, e, h⟩
    · subst h; simp at hl
    · rw [List.concat_eq_append] at h
      subst h
      have hl' : l.length = n := by simpa using hl
      rw [List.filterMap_append, List.mem_append] at ht'
      rw [lastRoll_snoc]
      cases hr : rollTick w e with
      | none =>
        rw [Option.none_or]
        rcases ht' with ht' | ht'
        · exact ih l hl' hR.prefix t' ht'
        · simp [hr] at ht'
      | some t =>
        refine ⟨t, rfl, ?_⟩
        rcases ht' with ht' | ht'
        · obtain ⟨tl, h1, h2⟩ := ih l hl' hR.prefix t' ht'
          obtain ⟨tid, s, f, rfl⟩ := rollTick_some hr
          have := (hR.at (post := []) rfl).2.2 tl h1
          omega
        · simp [hr] at ht'
          omega

/-- **The roll ticks of one window strictly increase** (any two rolls, not only consecutive ones), hence so do the
trim limits `t - window`: the last limit is the largest -/
theorem roll_ticks_strictly_increase (cfg : Config) (t1 t2 : Int) (s : List (Tid × Act)) (hcfg : WNoWrap cfg)
    (hs : SchedOK t1 t2 s) (a b c : List (Tid × Obs)) (x y : Tid) (w : Nat) (ta sa fa tb sb fb : Int)
    (hlog : (runOf cfg t1 t2 s).2 = a ++ (x, Obs.rolled w ta sa fa) :: (b ++ (y, Obs.rolled w tb sb fb) :: c)) :
    ta + cfg.interval ≤ tb := by
  have hlog' : (runOf cfg t1 t2 s).2 = (a ++ (x, Obs.rolled w ta sa fa) :: b) ++ (y, Obs.rolled w tb sb fb) :: c := by
    rw [hlog, List.append_assoc]; rfl
  have hR := hlog' ▸ rolls_ok hcfg hs
  have hmem : ta ∈ (a ++ (x, Obs.rolled w ta sa fa) :: b).filterMap (rollTick w) :=
    List.mem_filterMap.mpr ⟨_, List.mem_append_right _ (List.mem_cons_self ..), if_pos rfl⟩
  obtain ⟨tl, h1, h2⟩ := ticks_le_last hcfg.1 w _ _ rfl hR.prefix ta hmem
  have := (hR.at rfl).2.2 tl h1
  omega

theorem recN_anti (w : Nat) (k : Bool) {x y : Int} (h : x ≤ y) (lg : List (Tid × Obs)) : recN w k y lg ≤ recN w k x lg := by
  unfold recN
  apply Int.ofNat_le.mpr
  apply List.countP_mono_left
  intro e _ he
  obtain ⟨t, o⟩ := e
  cases o <;> simp_all [recHit]
  omega

theorem rec_tf_le (w : Nat) (x : Int) (lg : List (Tid × Obs)) :
    lg.countP (recHit w true x) + lg.countP (recHit w false x) ≤ lg.countP (fun e => e.2.isRec) := by
  induction lg with
  | nil => exact Nat.le_refl 0
  | cons e l ih =>
    have : (if recHit w true x e = true then 1 else 0) + (if recHit w false x e = true then 1 else 0) ≤
        (if e.2.isRec = true then 1 else 0) := by
      obtain ⟨t, o⟩ := e
      cases o
      case recorded w' st k' => cases k' <;> simp [recHit, Obs.isRec] <;> split <;> omega
      all_goals exact Nat.le_refl 0
    simp only [List.countP_cons]
    omega

/-- **No invention.**  Every reported count is non-negative and bounded by the number of `recorded` entries so far
in the window with stamp `≥ t - window`; successes and failures together by the number of `recorded` entries at
all.  With `step_emits_at_most_one_recorded` and `report_records_exactly_once` (each `recorded` entry belongs to
exactly one report operation, each report contributes exactly one) no event is invented or counted twice. -/
theorem no_invention (cfg : Config) (t1 t2 : Int) (s : List (Tid × Act)) (hcfg : WNoWrap cfg) (hs : SchedOK t1 t2 s)
    (pre post : List (Tid × Obs)) (tid : Tid) (w : Nat) (t sc fc : Int)
    (hlog : (runOf cfg t1 t2 s).2 = pre ++ (tid, Obs.rolled w t sc fc) :: post) :
    0 ≤ sc ∧ sc ≤ recS w (t - cfg.window) pre ∧ 0 ≤ fc ∧ fc ≤ recF w (t - cfg.window) pre ∧
    sc + fc ≤ nrec pre := by
  obtain ⟨h1, h2⟩ := roll_exact cfg t1 t2 s hcfg hs pre post tid w t sc fc hlog
  subst h1 h2
  refine ⟨recN_nonneg _ _ _ _, Int.le_refl _, recN_nonneg _ _ _ _, Int.le_refl _, ?_⟩
  have := rec_tf_le w (t - cfg.window) pre
  unfold recS recF recN nrec
  omega

/-- **Every step emits at most one `recorded`.** -/
theorem step_emits_at_most_one_recorded {cfg : Config} {t : Tid} {g g' : CG} {l l' : L} {a : Act} {obs : List Obs}
    (hs : step cfg t g l a = some (g', l', obs)) : nrecObs obs ≤ 1 :=
  (recorded_once_step hs).1

/-- **Every report records exactly once.**  Per-thread control flow: along the own steps of one operation (whatever
other threads do to the shared state in between), from the entry `w0` of the window report every path to `idle`
emits exactly one `recorded`. -/
theorem report_records_exactly_once {cfg : Config} {c : Call} {o w : Nat} {obs : List Obs}
    (h : OpPath cfg (.w0 c o w) obs .idle) : nrecObs obs = 1 := by
  have := opPath_conserves h rfl
  simpa [pend] using this

/-- the same for any point of the report: a thread that has not recorded yet (`w0`, `w1`, `w2`) records exactly
once before it is idle again; one that has recorded (`w3`, tripping) records nothing more -/
theorem report_records_rest {cfg : Config} {l : L} {obs : List Obs} (hl : l.isB0 = false)
    (h : OpPath cfg l obs .idle) : nrecObs obs = pend l := by
  have := opPath_conserves h hl
  simpa [pend] using this

/-- **The counting invariant** at the end of every guarded run (every prefix of a schedule is a schedule, so: at
every moment): for every limit `x` at or above the window's last trim limit, the buckets of the window (reservoir
and current) with timestamp `≥ x` hold exactly the `recorded` events with stamp `≥ x` — nothing recorded is missing,
nothing is there twice. -/
theorem window_holds_recorded (cfg : Config) (t1 t2 : Int) (s : List (Tid × Act)) (hcfg : WNoWrap cfg)
    (hs : SchedOK t1 t2 s) :
    let g := (runOf cfg t1 t2 s).1.g
    let lg := (runOf cfg t1 t2 s).2
    ∀ w, w < g.wins.length → ∀ x : Int, (∀ L, lim cfg w lg = some L → L ≤ x) →
      bktS g (inWin g w) x = recS w x lg ∧ bktF g (inWin g w) x = recF w x lg := by
  intro g lg w hw x hx
  obtain ⟨n, _, _, hG, _⟩ := winv_run cfg t1 t2 s hcfg hs
  have hx' : ∀ t, lastRoll w lg = some t → t - cfg.window ≤ x := by
    intro t ht
    exact hx (t - cfg.window) (by simp [lim, lg, ht])
  exact ⟨(hG.win w hw).count true x hx', (hG.win w hw).count false x hx'⟩

/-- before the first roll of a window nothing was trimmed: its buckets hold every recorded event -/
theorem window_holds_all_before_first_roll (cfg : Config) (t1 t2 : Int) (s : List (Tid × Act)) (hcfg : WNoWrap cfg)
    (hs : SchedOK t1 t2 s) :
    let g := (runOf cfg t1 t2 s).1.g
    let lg := (runOf cfg t1 t2 s).2
    ∀ w, w < g.wins.length → lastRoll w lg = none → ∀ x : Int,
      bktS g (inWin g w) x = recS w x lg ∧ bktF g (inWin g w) x = recF w x lg := by
  intro g lg w hw hnone x
  exact window_holds_recorded cfg t1 t2 s hcfg hs w hw x (by simp [lim, lg, hnone])

/-- **Structure**, guarded part: counters are non-negative, timestamps are guarded readings, the current bucket's
timestamp is the tick of the window's last roll -/
theorem buckets_wellformed (cfg : Config) (t1 t2 : Int) (s : List (Tid × Act)) (hcfg : WNoWrap cfg)
    (hs : SchedOK t1 t2 s) :
    let g := (runOf cfg t1 t2 s).1.g
    let lg := (runOf cfg t1 t2 s).2
    (∀ b, 0 ≤ (g.bucket b).s ∧ 0 ≤ (g.bucket b).f ∧ TB (g.bucket b).ts) ∧
    (∀ w, w < g.wins.length → ∀ t, lastRoll w lg = some t → (g.bucket (g.win w).cur).ts = t) := by
  intro g lg
  obtain ⟨n, _, _, hG, _⟩ := winv_run cfg t1 t2 s hcfg hs
  exact ⟨fun b => ⟨(hG.cnt b true).1, (hG.cnt b false).1, hG.ts b⟩, fun w hw => (hG.win w hw).curts⟩

theorem lok_of_run {cfg : Config} {t1 t2 : Int} {s : List (Tid × Act)} (hcfg : WNoWrap cfg) (hs : SchedOK t1 t2 s)
    {tid : Tid} {l : L} (hl : (runOf cfg t1 t2 s).1.l tid = l) : LOk cfg (runOf cfg t1 t2 s).1.g l := by
  obtain ⟨_, _, _, _, hL⟩ := winv_run cfg t1 t2 s hcfg hs
  exact hl ▸ hL tid

/-- **A recorded event is counted by every later roll of its window whose limit does not exceed its stamp**, whoever
recorded it -/
theorem recorded_counted_by_later_roll (cfg : Config) (t1 t2 : Int) (s : List (Tid × Act)) (hcfg : WNoWrap cfg)
    (hs : SchedOK t1 t2 s) (pre mid post : List (Tid × Obs)) (tid tid' : Tid) (w : Nat) (stamp : Int) (k : Bool)
    (t sc fc : Int)
    (hlog : (runOf cfg t1 t2 s).2 = pre ++ (tid, Obs.recorded w stamp k) :: (mid ++ (tid', Obs.rolled w t sc fc) :: post))
    (hin : t - cfg.window ≤ stamp) :
    (if k then sc else fc) = recN w k (t - cfg.window) pre + 1 + recN w k (t - cfg.window) mid ∧
    (if k then fc else sc) = recN w (!k) (t - cfg.window) pre + recN w (!k) (t - cfg.window) mid := by
  have hlog' : (runOf cfg t1 t2 s).2 = (pre ++ (tid, Obs.recorded w stamp k) :: mid) ++ (tid', Obs.rolled w t sc fc) :: post := by
    rw [hlog, List.append_assoc]; rfl
  obtain ⟨h1, h2⟩ := roll_exact cfg t1 t2 s hcfg hs _ post tid' w t sc fc hlog'
  have e1 : ∀ k', recN w k' (t - cfg.window) (pre ++ (tid, Obs.recorded w stamp k) :: mid) =
      recN w k' (t - cfg.window) pre + (if k = k' then 1 else 0) + recN w k' (t - cfg.window) mid := by
    intro k'
    have : (tid, Obs.recorded w stamp k) :: mid = [(tid, Obs.recorded w stamp k)] ++ mid := rfl
    rw [this, recN_append, recN_append]
    rw [recN_one, if_pos rfl, if_pos hin]; omega
  simp only [recS, recF] at h1 h2
  rw [e1] at h1 h2
  cases k <;> simp at h1 h2 ⊢ <;> omega

/-- **Losers and back-in-time reporters are counted.**  `loser_recorded` and `backstep_recorded` below show that a
reporter that loses the CAS at `w2`, or that read a tick before the current bucket's timestamp at `w1`, emits
`recorded w (its own tick) succ` and leaves its fresh bucket in the reservoir (`inWin`); by this theorem (which does
not care who emitted the entry) every later roll of the window whose limit is `≤` that stamp counts it, exactly
once. -/
theorem losers_and_backsteps_counted (cfg : Config) (t1 t2 : Int) (s : List (Tid × Act)) (hcfg : WNoWrap cfg)
    (hs : SchedOK t1 t2 s) (pre mid post : List (Tid × Obs)) (tid tid' : Tid) (w : Nat) (stamp : Int) (k : Bool)
    (t sc fc : Int)
    (hlog : (runOf cfg t1 t2 s).2 = pre ++ (tid, Obs.recorded w stamp k) :: (mid ++ (tid', Obs.rolled w t sc fc) :: post))
    (hin : t - cfg.window ≤ stamp) :
    (if k then sc else fc) = recN w k (t - cfg.window) pre + 1 + recN w k (t - cfg.window) mid ∧
    (if k then fc else sc) = recN w (!k) (t - cfg.window) pre + recN w (!k) (t - cfg.window) mid :=
  recorded_counted_by_later_roll cfg t1 t2 s hcfg hs pre mid post tid tid' w stamp k t sc fc hlog hin

/-- a reporter in a guarded run that is about to lose the CAS (`w2`, the window's current bucket is no longer the
one it loaded) records its event with its own tick as stamp, in a fresh bucket that sits in the reservoir -/
theorem loser_recorded (cfg : Config) (t1 t2 : Int) (s : List (Tid × Act)) (hcfg : WNoWrap cfg) (hs : SchedOK t1 t2 s)
    (tid : Tid) (c : Call) (o w : Nat) (tt : Int) (b : Nat) (g' : CG) (l' : L) (obs : List Obs) :
    let g := (runOf cfg t1 t2 s).1.g
    (runOf cfg t1 t2 s).1.l tid = .w2 c o w tt b → (g.win w).cur ≠ b →
    step cfg tid g (.w2 c o w tt b) .tau = some (g', l', obs) →
    l' = .idle ∧ obs = [.recorded w tt (decide (c = .succ)), .ret none] ∧
    g.buckets.length ∈ inWin g' w ∧ g'.bucket g.buckets.length = mkBucket tt (decide (c = .succ)) := by
  intro g hl hne hstep
  have hw := (lok_of_run hcfg hs hl).1
  cases step_sound hstep
  case w2Lose => exact ⟨rfl, rfl, mem_inWin_push rfl hw, bucket_app_eq rfl⟩
  case w2Win => exact absurd rfl hne

/-- a reporter in a guarded run whose tick is before the current bucket's timestamp (the ticker stepped back)
records its event with its own tick as stamp, in a fresh bucket that sits in the reservoir -/
theorem backstep_recorded (cfg : Config) (t1 t2 : Int) (s : List (Tid × Act)) (hcfg : WNoWrap cfg)
    (hs : SchedOK t1 t2 s) (tid : Tid) (c : Call) (o w : Nat) (tt : Int) (g' : CG) (l' : L) (obs : List Obs) :
    let g := (runOf cfg t1 t2 s).1.g
    (runOf cfg t1 t2 s).1.l tid = .w1 c o w tt → tt < (g.bucket (g.win w).cur).ts →
    step cfg tid g (.w1 c o w tt) .tau = some (g', l', obs) →
    l' = .idle ∧ obs = [.recorded w tt (decide (c = .succ)), .ret none] ∧
    g.buckets.length ∈ inWin g' w ∧ g'.bucket g.buckets.length = mkBucket tt (decide (c = .succ)) := by
  intro g hl hlt hstep
  have hw : w < g.wins.length := (lok_of_run hcfg hs hl).1
  clear_value g  -- so that `cases` can identify `g'` with `g` in the steps that leave the shared state alone
  cases step_sound hstep
  case w1Back => exact ⟨rfl, rfl, mem_inWin_push rfl hw, bucket_app_eq rfl⟩
  all_goals contradiction

/-- **Each bucket is in the reservoir at most once, and the current bucket is not in the reservoir** -/
theorem bucket_at_most_once (cfg : Config) (t1 t2 : Int) (c : Conc.Config (M cfg t1 t2)) (h : Reach (M cfg t1 t2) c)
    (w : Nat) : (c.g.win w).res.Nodup ∧ (c.g.win w).cur ∉ (c.g.win w).res := by
  by_cases hw : w < c.g.wins.length
  · have := (sinv_reach cfg t1 t2 c h).nodup w hw
    simp only [inWin] at this
    rw [List.nodup_append] at this
    exact ⟨this.1, fun hm => this.2.2 _ hm _ (by simp) rfl⟩
  · have : c.g.win w = dfltWin := getD'_ge _ _ _ (by omega)
    rw [this]; simp [dfltWin]

/-- the buckets of a window exist, and different windows share no bucket -/
theorem windows_disjoint (cfg : Config) (t1 t2 : Int) (c : Conc.Config (M cfg t1 t2)) (h : Reach (M cfg t1 t2) c) :
    (∀ w, w < c.g.wins.length → ∀ b ∈ inWin c.g w, b < c.g.buckets.length) ∧
    (∀ w1 w2, w1 < c.g.wins.length → w2 < c.g.wins.length → w1 ≠ w2 → ∀ b, b ∈ inWin c.g w1 → b ∉ inWin c.g w2) :=
  ⟨(sinv_reach cfg t1 t2 c h).rng, (sinv_reach cfg t1 t2 c h).disj⟩

/-- the same for the configurations of runs -/
theorem bucket_at_most_once_run (cfg : Config) (t1 t2 : Int) (s : List (Tid × Act)) (w : Nat) :
    ((runOf cfg t1 t2 s).1.g.win w).res.Nodup ∧
    ((runOf cfg t1 t2 s).1.g.win w).cur ∉ ((runOf cfg t1 t2 s).1.g.win w).res :=
  bucket_at_most_once cfg t1 t2 (runOf cfg t1 t2 s).1 (reach_run (M cfg t1 t2) _ Reach.init s) w

/-- **The snapshot is the roll's count.**  A thread about to store a snapshot (`w3`) carries the count of the last
`rolled` entry it emitted (the roll of the same operation), and its next step stores exactly that count in the
window's `snap`. -/
theorem snapshot_is_last_roll (cfg : Config) (t1 t2 : Int) (s : List (Tid × Act)) (hcfg : WNoWrap cfg)
    (hs : SchedOK t1 t2 s) (tid : Tid) (c : Call) (o w : Nat) (e : Int × Int)
    (hl : (runOf cfg t1 t2 s).1.l tid = .w3 c o w e) :
    lastRollBy tid (runOf cfg t1 t2 s).2 = some (w, e.1, e.2) ∧
    ∀ a g' l' obs, step cfg tid (runOf cfg t1 t2 s).1.g (.w3 c o w e) a = some (g', l', obs) →
      (g'.win w).snap = e := by
  refine ⟨snapInv_run cfg t1 t2 s tid c o w e hl, fun a g' l' obs hstep => ?_⟩
  have hw : w < _ := lok_of_run hcfg hs hl
  cases step_sound hstep <;> rw [win_set_eq rfl hw]

def cfgEx (window : Int) : Config :=
  { thr := .fin false (2^52) (-53), minReq := 10, trial := 3, openW := 10, window := window, interval := 10,
    listeners := 0 }

/-- threads 1 and 2 report on window 0 (first bucket at tick 0): two reports into the first bucket, a race for the
roll at ticks 12/13 (thread 1 wins, thread 2 loses and archives its own bucket), a report by thread 2 whose
ticker reading (4) is before the current bucket's timestamp (12), and a second roll at tick 25 -/
def schedEx : List (Tid × Act) :=
  [ (1, .call .succ), (1, .tau), (1, .tick 5), (1, .tau),        -- success, tick 5: added to the first bucket
    (2, .call .fail), (2, .tau), (2, .tick 3), (2, .tau),        -- failure, tick 3: added to the first bucket
    (1, .call .succ), (1, .tau), (1, .tick 12), (1, .tau),       -- success, tick 12: interval over, now at w2
    (2, .call .fail), (2, .tau), (2, .tick 13), (2, .tau),       -- failure, tick 13: interval over, now at w2
    (1, .tau),                                                   -- thread 1 wins the CAS: the first roll
    (2, .tau),                                                   -- thread 2 loses: own bucket into the reservoir
    (1, .tau),                                                   -- thread 1 stores the snapshot
    (2, .call .fail), (2, .tau), (2, .tick 4), (2, .tau),        -- ticker stepped back: instant bucket
    (1, .call .succ), (1, .tau), (1, .tick 25), (1, .tau), (1, .tau) ]   -- the second roll

def isW (e : Tid × Obs) : Bool := e.2.isRec || e.2.isRolled

/-- window 100: nothing is trimmed; the second roll counts the loser's event (stamp 13) and the back-in-time
event (stamp 4), but not its own triggering event -/
example : (runOf (cfgEx 100) 0 0 schedEx).2.filter isW =
    [ (1, .recorded 0 0 true), (2, .recorded 0 0 false),
      (1, .rolled 0 12 1 1), (1, .recorded 0 12 true),
      (2, .recorded 0 13 false), (2, .recorded 0 4 false),
      (1, .rolled 0 25 2 3), (1, .recorded 0 25 true) ] := by decide +kernel

/-- window 15: the second roll (limit `25 - 15 = 10`) drops the first bucket (stamp 0) and the back-in-time bucket
(stamp 4) and keeps the roller's (12) and the loser's (13) -/
example : (runOf (cfgEx 15) 0 0 schedEx).2.filter isW =
    [ (1, .recorded 0 0 true), (2, .recorded 0 0 false),
      (1, .rolled 0 12 1 1), (1, .recorded 0 12 true),
      (2, .recorded 0 13 false), (2, .recorded 0 4 false),
      (1, .rolled 0 25 1 1), (1, .recorded 0 25 true) ] := by decide +kernel

instance : DecidablePred TB := fun t => by unfold TB; infer_instance

def tickOKb : Act → Bool
  | .tick t => decide (TB t)
  | _ => true

theorem tickOK_of_b {a : Act} (h : tickOKb a = true) : TickOK a := by
  cases a <;> simp [tickOKb, TickOK] at h ⊢
  exact h

theorem noWrap_ex (window : Int) (h : 0 < window ∧ window ≤ 2^61) : WNoWrap (cfgEx window) :=
  ⟨by show (0 : Int) < 10; decide, by show (10 : Int) ≤ 2^61; decide, h.1, h.2⟩

theorem schedOK_ex : SchedOK 0 0 schedEx :=
  ⟨by decide, by decide,
   fun e he => tickOK_of_b (List.all_eq_true.mp (by decide : schedEx.all (fun e => tickOKb e.2) = true) e he),
   by decide⟩

def logEx : List (Tid × Obs) := (runOf (cfgEx 100) 0 0 schedEx).2

/-- the guard is satisfiable and `roll_exact` applies to the example: the second roll's count `2/3` is the number of
`recorded` entries before it with stamp `≥ 25 - 100` -/
example : ∃ pre post, (runOf (cfgEx 100) 0 0 schedEx).2 = pre ++ (1, Obs.rolled 0 25 2 3) :: post ∧
    (2 : Int) = recS 0 (25 - (cfgEx 100).window) pre ∧ (3 : Int) = recF 0 (25 - (cfgEx 100).window) pre := by
  have h : ∃ pre post, logEx = pre ++ (1, Obs.rolled 0 25 2 3) :: post :=
    List.append_of_mem (by decide +kernel : (1, Obs.rolled 0 25 2 3) ∈ logEx)
  obtain ⟨pre, post, h⟩ := h
  exact ⟨pre, post, h, roll_exact (cfgEx 100) 0 0 schedEx (noWrap_ex 100 (by decide)) schedOK_ex pre post 1 0 25 2 3 h⟩

/-- the final state of the example: the reservoir of window 0 holds the old first bucket (id 0), the loser's bucket
(id 2), the back-in-time bucket (id 3) and the first roller's bucket (id 1) once each; the current bucket is the
second roller's (id 4) -/
example : ((runOf (cfgEx 100) 0 0 schedEx).1.g.win 0).res = [0, 2, 3, 1] ∧
    ((runOf (cfgEx 100) 0 0 schedEx).1.g.win 0).cur = 4 := by decide +kernel

#print axioms roll_exact
#print axioms roll_ticks_strictly_increase
#print axioms no_invention
#print axioms report_records_exactly_once
#print axioms window_holds_recorded
#print axioms recorded_counted_by_later_roll
#print axioms losers_and_backsteps_counted
#print axioms loser_recorded
#print axioms backstep_recorded
#print axioms bucket_at_most_once
#print axioms windows_disjoint
#print axioms buckets_wellformed
#print axioms snapshot_is_last_roll
#print axioms Garr.Breaker.bucket_ts_is_reading
end Garr.Props.C10
