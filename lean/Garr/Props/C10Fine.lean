import Garr.Breaker.FineSolo
import Garr.Breaker.FineRun
/-!
# C10 over the full stack: the sliding-window counter with the queue internals visible

Model: `Garr.Breaker.Fine.M cfg t0` (`Garr/Breaker/Fine.lean`) — `onEvent` / `trimAndSum` of
`circuit-breaker/slidingWindowCounter.go`, one step per atomic access, composed with the small-step model `Garr.Queue.M`
of the lock-free queue used as reservoir (every `Offer`, `Iterator()`, `Next`, `Remove` is the unchanged sequence of queue
steps; the traversal is the real weakly consistent iterator).  The CAS winner's `Offer(old)` is a separate sequence of
queue steps after the CAS: **the roller may be delayed arbitrarily between swapping the bucket and archiving it.**
Bucket counters are atomic numbers (unit increments only: `Garr/Adder/UnitSum.lean`).  `Int` timestamps, no wrap-around
(the `int64` wrap is finding F7); the only arithmetic hypothesis used anywhere is `0 ≤ interval`, and only for `solo_roll_exact` and
`removed_only_as_expired`.

Quantifiers: every reachable configuration / every schedule, any number of threads, any ticker readings (advancing,
standing still, stepping back), any window / interval.

Ghost log `c.g.w.log : List (Tid × Ev)` (= the `ev` observations of the run, `ghost_log_is_run_log`):
`added tick succ b stamp` (a report's `add` took effect on bucket `b` with timestamp `stamp`), `swapped old new`,
`lost b`, `linked b pos` (`Offer(b)` linearized: node `pos`), `iterStart tick n0`, `cntS b n` / `cntF b n` (the traversal
read `n` from bucket `b`), `removed b lim`, `rolled tick s f n0 kl` (the count of `trimAndSum(tick)`, emitted by the step
that leaves the loop; `kl` = ghost list of the buckets counted).
-/
namespace Garr.Props.C10Fine
open Garr Garr.Conc Garr.Breaker.Fine

/-! ## (P) Projection onto the queue model -/

/-- **Projection (runs).**  The queue component of any run of the composed machine, from any configuration, is a run of
`Garr.Queue.M`: same queue states, same queue pcs, same queue observations in the same order. -/
theorem projection_run {cfg : Cfg} {t0 : Int} (c : Config (M cfg t0)) (s : List (Tid × (M cfg t0).Act)) :
    ∃ s' : List (Tid × Queue.M.Act),
      run Queue.M (proj c) s' = (proj (run (M cfg t0) c s).1, qlog (run (M cfg t0) c s).2) :=
  proj_run s c

theorem projection_reach {cfg : Cfg} {t0 : Int} (c : Config (M cfg t0)) (h : Reach (M cfg t0) c) :
    Reach Queue.M (proj c) := (reach_base c h).qreach

/-- a transferred theorem, as an example: the accounting of `Garr/Queue/Iter.lean` for the reservoir of any run —
offered = still queued + polled + removed -/
theorem queue_accounting_transfers {cfg : Cfg} {t0 : Int} (s : List (Tid × (M cfg t0).Act)) :
    let r := run (M cfg t0) (Config.init (M cfg t0)) s
    Queue.offered (qlog r.2) = Queue.liveCount r.1.g.q + Queue.polled (qlog r.2) + Queue.removed (qlog r.2) ∧
    r.1.g.q.n = Queue.offered (qlog r.2) + 1 :=
  run_transfer (P := fun r => Queue.offered r.2 = Queue.liveCount r.1.g + Queue.polled r.2 + Queue.removed r.2 ∧
    r.1.g.n = Queue.offered r.2 + 1) Queue.accounting s

/-- the ghost log of a run is the sequence of its `ev` observations -/
theorem ghost_log_is_run_log {cfg : Cfg} {t0 : Int} (s : List (Tid × (M cfg t0).Act)) :
    (run (M cfg t0) (Config.init (M cfg t0)) s).1.g.w.log = elog (run (M cfg t0) (Config.init (M cfg t0)) s).2 :=
  run_log_init s

/-! ## (U) Upper bound, no invention, no double count -/

/-- **(U) Every count is bounded by the adds that have taken effect so far inside the window.**  For every `rolled`
entry of the log of a reachable configuration, with `pre` the log before it: `s` / `f` are at most the number of success /
failure reports whose `add` has taken effect so far on a bucket with timestamp `≥ t - window`; more precisely at most the
adds so far on the buckets `kl` actually counted, which are pairwise distinct (no bucket contributes twice) and each of
which had been archived (`linked`) before. -/
theorem roll_upper_bound {cfg : Cfg} {t0 : Int} (c : Config (M cfg t0)) (h : Reach (M cfg t0) c)
    (pre post : List (Tid × Ev)) (tid : Tid) (t : Int) (s f n0 : Nat) (kl : List Nat)
    (hlog : c.g.w.log = pre ++ (tid, Ev.rolled t s f n0 kl) :: post) :
    s ≤ cntAdds true (t - cfg.window) pre ∧ f ≤ cntAdds false (t - cfg.window) pre ∧
    s ≤ sumAdds true kl pre ∧ f ≤ sumAdds false kl pre ∧ kl.Nodup ∧
    (∀ b ∈ kl, ∃ u pos, (u, Ev.linked b pos) ∈ pre) := by
  have : RollOK cfg pre tid t s f n0 kl := (reach_entry h hlog).1
  exact ⟨this.upperS, this.upperF, this.tightS, this.tightF, this.nodup, this.linked⟩

/-- the same for runs from the constructor's state, on the observation log -/
theorem roll_upper_bound_run {cfg : Cfg} {t0 : Int} (sch : List (Tid × (M cfg t0).Act))
    (pre post : List (Tid × Ev)) (tid : Tid) (t : Int) (s f n0 : Nat) (kl : List Nat)
    (hlog : elog (run (M cfg t0) (Config.init (M cfg t0)) sch).2 = pre ++ (tid, Ev.rolled t s f n0 kl) :: post) :
    s ≤ cntAdds true (t - cfg.window) pre ∧ f ≤ cntAdds false (t - cfg.window) pre := by
  have h := roll_upper_bound _ (reach_run _ _ Reach.init sch) pre post tid t s f n0 kl (by rw [run_log_init]; exact hlog)
  exact ⟨h.1, h.2.1⟩

/-- **(U) A bucket is offered to the reservoir at most once** (by the CAS winner for the swapped-out bucket, by a loser
or a back-stepper for its own fresh bucket — `Own`, `nothing_lost`), and the nodes of the reservoir carry pairwise
different buckets; with `Garr.Queue.traversal_nodup` (one traversal returns each node at most once; here: `kl.Nodup` in
`roll_upper_bound`) no event is counted twice. -/
theorem bucket_offered_at_most_once {cfg : Cfg} {t0 : Int} (c : Config (M cfg t0)) (h : Reach (M cfg t0) c) (b : Nat) :
    c.g.w.log.countP (isLinkOf b) ≤ 1 ∧
    (∀ p p', 1 ≤ p → p < c.g.q.n → 1 ≤ p' → p' < c.g.q.n → c.g.q.val p = c.g.q.val p' → p = p') := by
  obtain ⟨_, hf, _⟩ := reach_inv c h
  refine ⟨?_, hf.own.res_inj⟩
  rcases Nat.eq_zero_or_pos (c.g.w.log.countP (isLinkOf b)) with h0 | h0
  · rw [h0]; exact Nat.zero_le 1
  -- there is a `linked b pos0`, and every other one is at the same node: it carries the same bucket
  obtain ⟨⟨u0, ev⟩, hm0, hp0⟩ := List.countP_pos_iff.1 h0
  cases ev <;> simp [isLinkOf] at hp0
  rename_i b0 pos0
  obtain ⟨a1, a2, a3⟩ := hf.log.link.sound u0 b0 pos0 hm0
  refine countP_le_one_of_nodup (f := linkPos) (x := pos0) (fun e he hp => ?_) hf.log.link.uniq
  obtain ⟨u, ev⟩ := e
  cases ev <;> simp [isLinkOf] at hp
  rename_i b' pos
  obtain ⟨b1, b2, b3⟩ := hf.log.link.sound u b' pos he
  simp [linkPos, hf.own.res_inj pos pos0 b1 b2 a1 a2 (by rw [a3, b3, hp, hp0])]

/-- **(U) The traversal's reads are atomic reads of archived buckets.**  Every value `n` a traversal reads from the
success (failure) counter of bucket `b` is exactly the number of success (failure) adds on `b` that have taken effect so
far, and `b` had been archived (`linked`) before — a bucket not yet offered is in nobody's count. -/
theorem count_reads_are_atomic_and_of_archived_buckets {cfg : Cfg} {t0 : Int} (c : Config (M cfg t0))
    (h : Reach (M cfg t0) c) (pre post : List (Tid × Ev)) (tid : Tid) (b n : Nat) :
    (c.g.w.log = pre ++ (tid, Ev.cntS b n) :: post →
      n = cntAddsTo true b pre ∧ ∃ u pos, (u, Ev.linked b pos) ∈ pre) ∧
    (c.g.w.log = pre ++ (tid, Ev.cntF b n) :: post →
      n = cntAddsTo false b pre ∧ ∃ u pos, (u, Ev.linked b pos) ∈ pre) :=
  ⟨fun hlog => (reach_entry h hlog).1, fun hlog => (reach_entry h hlog).1⟩

/-! ## (E) Exactness after quiescence -/

/-- **(E) Exactness of a solo roll from quiescence** (`Garr.Breaker.Fine.solo_exact`).  `c` reachable with every thread
idle; `tid` alone runs one `onEvent(succ)` with ticker reading `t` (the call, the reading, then any number `rest` of own
steps — every prefix of the operation is covered).  Then nobody else has moved, and

* every `rolled` entry logged since `c` is at tick `t` and its count is EXACTLY the number of success / failure reports
  logged at `c` — all reports so far, whoever made them: the current bucket's, the instant buckets of back-steps and of
  CAS losers — whose bucket timestamp is `≥ t - window`, and nothing older.  The triggering event itself is EXCLUDED: the
  code adds it to `nextBucket`, which becomes `cur` and is not in the reservoir.
* at `snapshot.Store(e)`, `e` is that count, and every live node of the reservoir is inside the window: the older buckets
  have been removed;
* once the operation has returned, either it did not roll, or the snapshot is that count. -/
theorem solo_roll_exact {cfg : Cfg} (h0 : 0 ≤ cfg.interval) {t0 : Int} (c : Config (M cfg t0)) (hc : Reach (M cfg t0) c)
    (hq : ∀ u, (c.l u).w = .idle) (tid : Tid) (succ : Bool) (t : Int)
    (rest : List (Tid × (M cfg t0).Act)) (hrest : ∀ e ∈ rest, e.1 = tid ∧ (e.2 = Act.b ∨ e.2 = Act.q)) :
    let c' := (run (M cfg t0) c ((tid, Act.call succ) :: (tid, Act.tick t) :: rest)).1
    let A := fun k => cntAdds k (t - cfg.window) c.g.w.log
    (∀ u, u ≠ tid → c'.l u = c.l u) ∧
    (∃ ext, c'.g.w.log = c.g.w.log ++ tagE tid ext ∧ ∀ t' s f n0 kl, Ev.rolled t' s f n0 kl ∈ ext →
      t' = t ∧ s = A true ∧ f = A false) ∧
    (∀ e, (c'.l tid).w = .store e → e = (A true, A false) ∧
      ∀ p, 1 ≤ p → p < c'.g.q.n → c'.g.q.live p = true → t - cfg.window ≤ c'.g.w.ts (c'.g.q.val p)) ∧
    ((c'.l tid).w = .idle →
      (∃ ext, c'.g.w.log = c.g.w.log ++ tagE tid ext ∧ ∀ e ∈ ext, e.isRolled = false) ∨
      (c'.g.w.snap = (A true, A false) ∧
        ∀ p, 1 ≤ p → p < c'.g.q.n → c'.g.q.live p = true → t - cfg.window ≤ c'.g.w.ts (c'.g.q.val p))) :=
  solo_exact h0 c hc hq tid succ t rest hrest

/-- **(E, any roll) The sandwich.**  For every `rolled` entry of tid (log before it: `pre`) there is the `iterStart` entry of
its traversal (`pre = p1 ++ iterStart :: p2`) such that, on the buckets `kl` it counts, the count lies between the adds
that had taken effect when the traversal STARTED and the adds that have taken effect when it ENDS; and `kl` contains
every bucket archived before the traversal started that has not been removed as expired by its end. -/
theorem roll_sandwich {cfg : Cfg} {t0 : Int} (c : Config (M cfg t0)) (h : Reach (M cfg t0) c)
    (pre post : List (Tid × Ev)) (tid : Tid) (t : Int) (s f n0 : Nat) (kl : List Nat)
    (hlog : c.g.w.log = pre ++ (tid, Ev.rolled t s f n0 kl) :: post) :
    ∃ p1 p2, pre = p1 ++ (tid, Ev.iterStart t n0) :: p2 ∧
      sumAdds true kl p1 ≤ s ∧ s ≤ sumAdds true kl pre ∧ sumAdds false kl p1 ≤ f ∧ f ≤ sumAdds false kl pre ∧
      (∀ u b pos, (u, Ev.linked b pos) ∈ p1 → (∀ u' lim, (u', Ev.removed b lim) ∉ pre) → b ∈ kl) := by
  obtain ⟨hr, p1, p2, e, l1, l2⟩ : RollOK cfg pre tid t s f n0 kl ∧ LowEntry pre (tid, Ev.rolled t s f n0 kl) := reach_entry h hlog
  refine ⟨p1, p2, e, l1, hr.tightS, l2, hr.tightF, fun u b pos hl hnr => ?_⟩
  have hpos : pos < n0 :=
    (reach_entry h (e := (tid, Ev.iterStart t n0)) (post := p2 ++ (tid, Ev.rolled t s f n0 kl) :: post)
      (by rw [hlog, e]; simp)).1 u b pos hl
  exact hr.compl u b pos (by rw [e]; exact List.mem_append_left _ hl) hpos hnr

/-- **(E, non-overlapped) A roll whose traversal is not overlapped by adds on the buckets it counts is exact on them** —
for any number of concurrent threads doing anything else (offering, rolling, adding to the current bucket). -/
theorem roll_exact_if_not_overlapped {cfg : Cfg} {t0 : Int} (c : Config (M cfg t0)) (h : Reach (M cfg t0) c)
    (pre post : List (Tid × Ev)) (tid : Tid) (t : Int) (s f n0 : Nat) (kl : List Nat)
    (hlog : c.g.w.log = pre ++ (tid, Ev.rolled t s f n0 kl) :: post)
    (hno : ∀ p1 p2, pre = p1 ++ (tid, Ev.iterStart t n0) :: p2 → ∀ b ∈ kl, ∀ k, cntAddsTo k b p1 = cntAddsTo k b pre) :
    s = sumAdds true kl pre ∧ f = sumAdds false kl pre := by
  obtain ⟨p1, p2, e, a1, a2, a3, a4, _⟩ := roll_sandwich c h pre post tid t s f n0 kl hlog
  have hk : ∀ k, sumAdds k kl p1 = sumAdds k kl pre := by
    intro k
    unfold sumAdds; congr 1
    exact List.map_congr_left (fun b hb => hno p1 p2 e b hb k)
  rw [hk] at a1 a3
  omega

/-- **The snapshot (what `Count()` loads) is the initial `0/0` or the count of some roll in the log** — so
`roll_upper_bound` and `roll_sandwich` speak about every count the counter ever reports, through `onEvent` or `Count()`. -/
theorem snapshot_is_some_roll {cfg : Cfg} {t0 : Int} (c : Config (M cfg t0)) (h : Reach (M cfg t0) c) :
    c.g.w.snap = (0, 0) ∨ ∃ u t n0 kl, (u, Ev.rolled t c.g.w.snap.1 c.g.w.snap.2 n0 kl) ∈ c.g.w.log :=
  (reach_inv c h).2.2.2.2.snap

/-- … and the count a thread is about to store (and return) is the count of its own roll -/
theorem stored_count_is_own_roll {cfg : Cfg} {t0 : Int} (c : Config (M cfg t0)) (h : Reach (M cfg t0) c) (tid : Tid)
    (e : Nat × Nat) (hw : (c.l tid).w = .store e) : ∃ t n0 kl, (tid, Ev.rolled t e.1 e.2 n0 kl) ∈ c.g.w.log := by
  have := (reach_inv c h).2.2.2.2.pcs tid
  simpa [storeOK, hw] using this

/-- the count a roll returns is the one it stores: the only step that responds `some e` is `snapshot.Store(e)` -/
theorem returned_count_is_stored {cfg : Cfg} {tid : Tid} {g g' : G} {l l' : L} {a : Act} {obs : List Obs} {e : Nat × Nat}
    (hs : step cfg tid g l a = some (g', l', obs)) (hm : Obs.ret (some e) ∈ obs) :
    l.w = .store e ∧ g'.w.snap = e ∧ l'.w = .idle :=
  step_ret_some hs hm


/-! ## (D) The delayed roller is harmless -/

/-- **(D) The swapped-out bucket was never offered before the swap.** -/
theorem swapped_bucket_not_offered_before {cfg : Cfg} {t0 : Int} (c : Config (M cfg t0)) (h : Reach (M cfg t0) c)
    (pre post : List (Tid × Ev)) (tid : Tid) (b nw : Nat) (hlog : c.g.w.log = pre ++ (tid, Ev.swapped b nw) :: post) :
    ∀ u pos, (u, Ev.linked b pos) ∉ pre :=
  (reach_entry h hlog).1

/-- **(D) Whatever happens in between**, the winner `tid` of the CAS that swapped out bucket `b` is either still inside its
`Offer(b)` before the linking CAS, holding `b`, or it has linked `b` itself. -/
theorem swapped_bucket_held_or_offered_by_winner {cfg : Cfg} {t0 : Int} (c : Config (M cfg t0)) (h : Reach (M cfg t0) c)
    (tid : Tid) (b nw : Nat) (hm : (tid, Ev.swapped b nw) ∈ c.g.w.log) :
    (∃ t, (c.l tid).w = .winOffer t b ∧ held (c.l tid) = some b) ∨ ∃ pos, (tid, Ev.linked b pos) ∈ c.g.w.log :=
  (reach_inv c h).2.2.1 tid b nw hm

/-- **(D) The swapped-out bucket is offered exactly once, by that winner**: every `linked b` entry is the winner's (and
there is at most one: `bucket_offered_at_most_once`; and it comes after the swap: `swapped_bucket_not_offered_before`). -/
theorem swapped_bucket_offered_only_by_winner {cfg : Cfg} {t0 : Int} (c : Config (M cfg t0)) (h : Reach (M cfg t0) c)
    (tid u : Tid) (b nw pos : Nat) (hs : (tid, Ev.swapped b nw) ∈ c.g.w.log) (hl : (u, Ev.linked b pos) ∈ c.g.w.log) :
    u = tid := by
  obtain ⟨_, hf, hsw, _⟩ := reach_inv c h
  obtain ⟨a1, a2, a3⟩ := hf.log.link.sound u b pos hl
  rcases hsw tid b nw hs with ⟨t, _, hh⟩ | ⟨pos', hl'⟩
  · exact absurd (by rw [a3]; exact hh) ((hf.own.res_lt pos a1 a2).2.2 tid)
  · exact (Prod.mk.inj (eq_of_countP_le_one (bucket_offered_at_most_once c h b).1 hl hl' (by simp [isLinkOf])
      (by simp [isLinkOf]))).1

/-- **(D) Until it is offered, the bucket is in nobody's count.**  While a thread `tid` holds bucket `b` (in particular the
CAS winner between `casCurrent` and the linking CAS of its `Offer`, however long it is delayed there): `b` is not the
current bucket, not a node of the reservoir, nobody else holds it, no traversal has read its counters and no count
computed so far includes it — concurrent rolls can only under-count (consistent with `roll_upper_bound`). -/
theorem delayed_bucket_in_nobodys_count {cfg : Cfg} {t0 : Int} (c : Config (M cfg t0)) (h : Reach (M cfg t0) c)
    (tid : Tid) (b : Nat) (hh : held (c.l tid) = some b) :
    b ≠ c.g.w.cur ∧ ¬ InRes c.g b ∧ (∀ u, held (c.l u) = some b → u = tid) ∧
    (∀ u pos, (u, Ev.linked b pos) ∉ c.g.w.log) ∧
    (∀ u n, (u, Ev.cntS b n) ∉ c.g.w.log ∧ (u, Ev.cntF b n) ∉ c.g.w.log) ∧
    (∀ u t s f n0 kl, (u, Ev.rolled t s f n0 kl) ∈ c.g.w.log → b ∉ kl) := by
  obtain ⟨_, hf, _⟩ := reach_inv c h
  have hnl : ∀ u pos, (u, Ev.linked b pos) ∉ c.g.w.log := by
    intro u pos hm
    obtain ⟨a1, a2, a3⟩ := hf.log.link.sound u b pos hm
    exact (hf.own.res_lt pos a1 a2).2.2 tid (by rw [a3]; exact hh)
  have hpre : ∀ {pre e post}, c.g.w.log = pre ++ e :: post → ∀ u pos, (u, Ev.linked b pos) ∉ pre :=
    fun hlog u pos hm => hnl u pos (by rw [hlog]; exact List.mem_append_left _ hm)
  refine ⟨(hf.own.held_lt tid b hh).2, ?_, fun u hu => hf.own.held_inj u tid b hu hh, hnl, fun u n => ⟨?_, ?_⟩, ?_⟩
  · rintro ⟨p, p1, p2, p3⟩
    exact (hf.own.res_lt p p1 p2).2.2 tid (by rw [p3]; exact hh)
  · intro hm
    obtain ⟨pre, post, hlog⟩ := List.append_of_mem hm
    obtain ⟨_, u', pos, hl⟩ : CntOK pre true b n := (reach_entry h hlog).1
    exact hpre hlog u' pos hl
  · intro hm
    obtain ⟨pre, post, hlog⟩ := List.append_of_mem hm
    obtain ⟨_, u', pos, hl⟩ : CntOK pre false b n := (reach_entry h hlog).1
    exact hpre hlog u' pos hl
  · intro u t s f n0 kl hm hb
    obtain ⟨pre, post, hlog⟩ := List.append_of_mem hm
    have hr : RollOK cfg pre u t s f n0 kl := (reach_entry h hlog).1
    obtain ⟨u', pos, hl⟩ := hr.linked b hb
    exact hpre hlog u' pos hl

/-- **(D) Afterwards it is counted by every later complete traversal while it is in the reservoir.**  If bucket `b` was
linked before a traversal started (before an `iterStart` entry with the traversal's `n0`; the roll's own `iterStart` is
in `pre`: last conjunct) and has not been removed (as expired) when the traversal ends, the traversal counts it. -/
theorem archived_bucket_counted_by_later_traversal {cfg : Cfg} {t0 : Int} (c : Config (M cfg t0)) (h : Reach (M cfg t0) c)
    (pre post : List (Tid × Ev)) (tid : Tid) (t : Int) (s f n0 : Nat) (kl : List Nat)
    (hlog : c.g.w.log = pre ++ (tid, Ev.rolled t s f n0 kl) :: post) :
    (∀ p1 p2 v t' u b pos, pre = p1 ++ (v, Ev.iterStart t' n0) :: p2 → (u, Ev.linked b pos) ∈ p1 →
      (∀ u' lim, (u', Ev.removed b lim) ∉ pre) → b ∈ kl) ∧
    (tid, Ev.iterStart t n0) ∈ pre := by
  have hr : RollOK cfg pre tid t s f n0 kl := (reach_entry h hlog).1
  refine ⟨fun p1 p2 v t' u b pos hpre hl hnr => ?_, hr.started⟩
  have hpos : pos < n0 :=
    (reach_entry h (e := (v, Ev.iterStart t' n0)) (post := p2 ++ (tid, Ev.rolled t s f n0 kl) :: post)
      (by rw [hlog, hpre]; simp)).1 u b pos hl
  exact hr.compl u b pos (by rw [hpre]; exact List.mem_append_left _ hl) hpos hnr

/-! ## (L) Nothing is lost -/

/-- **(L) Nothing is lost.**  In every reachable configuration, for every report whose `add` has taken effect (entry
`added tick succ b stamp`): bucket `b` exists, has timestamp `stamp`, its counter is exactly the number of logged adds on
it (the event is there, once), and `b` is in EXACTLY ONE of these places: it is the current bucket; one thread (exactly
one) holds it and is about to offer it; it is a live node (exactly one) of the reservoir; it is a dead node of the
reservoir, removed as expired by a roll whose limit `t - window` exceeded its timestamp. -/
theorem nothing_lost {cfg : Cfg} {t0 : Int} (c : Config (M cfg t0)) (h : Reach (M cfg t0) c)
    (u : Tid) (tick : Int) (succ : Bool) (b : Nat) (stamp : Int) (hm : (u, Ev.added tick succ b stamp) ∈ c.g.w.log) :
    b < c.g.w.nb ∧ c.g.w.ts b = stamp ∧ c.g.w.sel succ b = cntAddsTo succ b c.g.w.log ∧ 1 ≤ cntAddsTo succ b c.g.w.log ∧
    ((b = c.g.w.cur ∧ (∀ t, held (c.l t) ≠ some b) ∧ ¬ InRes c.g b) ∨
     ((∃ t, held (c.l t) = some b ∧ ∀ t', held (c.l t') = some b → t' = t) ∧ b ≠ c.g.w.cur ∧ ¬ InRes c.g b) ∨
     (∃ p, 1 ≤ p ∧ p < c.g.q.n ∧ c.g.q.val p = b ∧ (∀ p', 1 ≤ p' → p' < c.g.q.n → c.g.q.val p' = b → p' = p) ∧
        b ≠ c.g.w.cur ∧ (∀ t, held (c.l t) ≠ some b) ∧
        (c.g.q.live p = true ∨
         (c.g.q.live p = false ∧ ∃ v lim, (v, Ev.removed b lim) ∈ c.g.w.log ∧ stamp < lim)))) := by
  obtain ⟨_, hf, _⟩ := reach_inv c h
  obtain ⟨hb, hts⟩ := hf.cnt.stamp u tick succ b stamp hm
  have hone : 1 ≤ cntAddsTo succ b c.g.w.log := by
    unfold cntAddsTo
    exact List.countP_pos_iff.2 ⟨_, hm, by simp [isAddTo]⟩
  refine ⟨hb, hts, hf.cnt.per succ b, hone, ?_⟩
  have hres : ∀ p, 1 ≤ p → p < c.g.q.n → c.g.q.val p = b → b ≠ c.g.w.cur ∧ ∀ t, held (c.l t) ≠ some b := by
    intro p p1 p2 p3
    have := hf.own.res_lt p p1 p2
    rw [p3] at this; exact ⟨this.2.1, this.2.2⟩
  rcases hf.own.cover b hb with hc | ⟨t, ht⟩ | ⟨p, p1, p2, p3⟩
  · refine Or.inl ⟨hc, fun t ht => (hf.own.held_lt t b ht).2 hc, ?_⟩
    rintro ⟨p, p1, p2, p3⟩
    exact (hres p p1 p2 p3).1 hc
  · refine Or.inr (Or.inl ⟨⟨t, ht, fun t' ht' => hf.own.held_inj t' t b ht' ht⟩, (hf.own.held_lt t b ht).2, ?_⟩)
    rintro ⟨p, p1, p2, p3⟩
    exact (hres p p1 p2 p3).2 t ht
  · refine Or.inr (Or.inr ⟨p, p1, p2, p3, fun p' q1 q2 q3 => hf.own.res_inj p' p q1 q2 p1 p2 (by rw [q3, p3]),
      (hres p p1 p2 p3).1, (hres p p1 p2 p3).2, ?_⟩)
    cases hl : c.g.q.live p with
    | true => exact Or.inl rfl
    | false =>
      obtain ⟨v, lim, hrm⟩ := hf.log.dead.dead p p1 p2 hl
      rw [p3] at hrm
      have := (hf.log.dead.removed v b lim hrm).1
      exact Or.inr ⟨rfl, v, lim, hrm, by rw [← hts]; exact this⟩

/-- **(L), the removed ones.**  A bucket is removed from the reservoir only as expired: by a roll whose limit exceeded its
timestamp; with `0 ≤ interval` that limit is below every later limit (`≤ cur.timestamp - window`), so no later roll would
have counted it either. -/
theorem removed_only_as_expired {cfg : Cfg} (h0 : 0 ≤ cfg.interval) {t0 : Int} (c : Config (M cfg t0))
    (h : Reach (M cfg t0) c) (u : Tid) (b : Nat) (lim : Int) (hm : (u, Ev.removed b lim) ∈ c.g.w.log) :
    c.g.w.ts b < lim ∧ lim + cfg.window ≤ c.g.w.ts c.g.w.cur ∧
    ∃ p, 1 ≤ p ∧ p < c.g.q.n ∧ c.g.q.val p = b ∧ c.g.q.live p = false := by
  obtain ⟨_, hf, hmono⟩ := reach_mono h0 c h
  exact ⟨(hf.log.dead.removed u b lim hm).1, hmono.removed u b lim hm, (hf.log.dead.removed u b lim hm).2⟩


/-! ## Non-vacuity -/

/-- window 100, interval 10 -/
def cfgEx : Cfg := ⟨100, 10⟩
/-- the constructor reads tick 0 -/
abbrev MEx := M cfgEx 0
abbrev runEx (s : List (Tid × Act)) := run MEx (Config.init MEx) s

/-- `n` own steps of thread `t`: a window-layer and a queue-layer access alternately (the one that is not enabled is skipped) -/
def own (t : Tid) (n : Nat) : List (Tid × Act) := (List.replicate n [(t, Act.b), (t, Act.q)]).flatten
def start (t : Tid) (succ : Bool) (tick : Int) : List (Tid × Act) := [(t, .call succ), (t, .tick tick)]

def rolls (lg : List (Tid × Ev)) : List (Tid × Ev) := lg.filter (fun e => e.2.isRolled)
def adds (lg : List (Tid × Ev)) : List (Tid × Ev) := lg.filter (fun e => e.2.isAdded)

/-- **(a)** success at tick 5 and failure at tick 3 into the first bucket; threads 1 and 2 race on the roll at ticks
12 / 13 (both load `cur`, both allocate and add, thread 1 wins the CAS, thread 2 loses; the loser's `Offer`, the winner's
`Offer` and traversal interleave); thread 2 reports at tick 4 — the ticker stepped back; everybody returns. -/
def phaseA : List (Tid × Act) :=
  start 1 true 5 ++ own 1 2 ++ start 2 false 3 ++ own 2 2 ++
  start 1 true 12 ++ start 2 false 13 ++ own 1 2 ++ own 2 2 ++
  own 1 1 ++ own 2 1 ++
  own 2 2 ++ own 1 3 ++ own 2 4 ++ own 1 20 ++
  start 2 false 4 ++ own 2 8

/-- … then thread 3 alone reports a success at tick 25 and rolls -/
def soloA : List (Tid × Act) := start 3 true 25 ++ own 3 40

/-- (a): the race was a race (thread 1 `swapped`, thread 2 `lost`), the first roll's count `1/2` already contains the
loser's bucket; after the concurrent phase the threads are idle; five reports have taken effect (2 successes, 3 failures);
the solo roll at tick 25 reports exactly `2/3` — everything, including the loser's bucket (id 2) and the back-step's
instant bucket (id 3) — and the triggering success (tick 25) is not in it -/
example :
    rolls (runEx phaseA).1.g.w.log = [(1, .rolled 12 1 2 3 [0, 2])] ∧
    (1, Ev.swapped 0 1) ∈ (runEx phaseA).1.g.w.log ∧ (2, Ev.lost 2) ∈ (runEx phaseA).1.g.w.log ∧
    [1, 2, 3].map (fun t => ((runEx phaseA).1.l t).w) = [.idle, .idle, .idle] ∧
    adds (runEx phaseA).1.g.w.log =
      [(1, .added 5 true 0 0), (2, .added 3 false 0 0), (1, .added 12 true 1 12), (2, .added 13 false 2 13),
       (2, .added 4 false 3 4)] ∧
    cntAdds true (25 - cfgEx.window) (runEx phaseA).1.g.w.log = 2 ∧
    cntAdds false (25 - cfgEx.window) (runEx phaseA).1.g.w.log = 3 ∧
    rolls (runEx (phaseA ++ soloA)).1.g.w.log = [(1, .rolled 12 1 2 3 [0, 2]), (3, .rolled 25 2 3 5 [1, 3, 0, 2])] ∧
    (runEx (phaseA ++ soloA)).1.g.w.snap = (2, 3) ∧
    ((runEx (phaseA ++ soloA)).1.l 3).w = .idle := by decide +kernel

/-- (a): the hypotheses of `solo_roll_exact` are satisfiable — it applies to the configuration after `phaseA` -/
example : ∃ ext, (run MEx (runEx phaseA).1 soloA).1.g.w.log = (runEx phaseA).1.g.w.log ++ tagE 3 ext ∧
    ∀ t' s f n0 kl, Ev.rolled t' s f n0 kl ∈ ext → t' = 25 ∧
      s = cntAdds true (25 - cfgEx.window) (runEx phaseA).1.g.w.log ∧
      f = cntAdds false (25 - cfgEx.window) (runEx phaseA).1.g.w.log := by
  have h12 : ((runEx phaseA).1.l 1).w = .idle ∧ ((runEx phaseA).1.l 2).w = .idle := by decide +kernel
  have hsch : ∀ e ∈ phaseA, e.1 = 1 ∨ e.1 = 2 := by decide +kernel
  -- the theorem is applied to the configuration as a variable: unifying its statement with the explicit run would
  -- evaluate the run
  generalize hc : (runEx phaseA).1 = c at h12 ⊢
  have hq : ∀ u, (c.l u).w = .idle := by
    intro u
    by_cases h : u = 1 ∨ u = 2
    · rcases h with rfl | rfl
      · exact h12.1
      · exact h12.2
    · rw [← hc, run_other u phaseA _ (fun e he hu => h (hu ▸ hsch e he))]
      rfl
  exact (solo_roll_exact (cfg := cfgEx) (by decide) c (hc ▸ reach_run _ _ Reach.init _) hq 3 true 25 (own 3 40)
    (by show ∀ e ∈ (own 3 40 : List (Tid × Act)), e.1 = 3 ∧ (e.2 = Act.b ∨ e.2 = Act.q); decide +kernel)).2.1

/-- **(b)** two reports into the first bucket; thread 1 rolls at tick 12 and is frozen right after its `casCurrent`,
before the first step of `reservoir.Offer(old)` -/
def freezeB : List (Tid × Act) :=
  start 1 true 5 ++ own 1 2 ++ start 2 false 3 ++ own 2 2 ++
  start 1 true 12 ++ [(1, .b), (1, .b), (1, .b)]
/-- thread 2 rolls the next interval (tick 25) completely while thread 1 is frozen -/
def overtakeB : List (Tid × Act) := start 2 false 25 ++ own 2 30
/-- thread 1 resumes and finishes; then thread 3 rolls at tick 40 -/
def resumeB : List (Tid × Act) := own 1 30 ++ start 3 true 40 ++ own 3 40

/-- (b): thread 1 is frozen holding the swapped-out bucket 0 (1 success, 1 failure in it); thread 2's roll counts only
`1/0` although 2 successes and 1 failure (without its own triggering failure) have taken effect inside the window — an
under-count, allowed by `roll_upper_bound`, bucket 0 is in nobody's count; after thread 1 has resumed, its own (late)
traversal and the later roll at tick 40 count bucket 0: `2/2` is everything -/
example :
    ((runEx freezeB).1.l 1).w = .winOffer 12 0 ∧ held ((runEx freezeB).1.l 1) = some 0 ∧
    (1, Ev.swapped 0 1) ∈ (runEx freezeB).1.g.w.log ∧
    held ((runEx (freezeB ++ overtakeB)).1.l 1) = some 0 ∧
    rolls (runEx (freezeB ++ overtakeB)).1.g.w.log = [(2, .rolled 25 1 0 2 [1])] ∧
    adds (runEx (freezeB ++ overtakeB)).1.g.w.log =
      [(1, .added 5 true 0 0), (2, .added 3 false 0 0), (1, .added 12 true 1 12), (2, .added 25 false 2 25)] ∧
    rolls (runEx (freezeB ++ overtakeB ++ resumeB)).1.g.w.log =
      [(2, .rolled 25 1 0 2 [1]), (1, .rolled 12 2 1 3 [0, 1]), (3, .rolled 40 2 2 4 [2, 0, 1])] ∧
    (1, Ev.linked 0 2) ∈ (runEx (freezeB ++ overtakeB ++ resumeB)).1.g.w.log ∧
    [1, 2, 3].map (fun t => ((runEx (freezeB ++ overtakeB ++ resumeB)).1.l t).w) = [.idle, .idle, .idle] := by
  decide +kernel

/-- (b): the configurations are reachable, so the theorems apply, e.g. (D) to the frozen configuration: bucket 0 is in
nobody's count -/
example : ∀ u t s f n0 kl, (u, Ev.rolled t s f n0 kl) ∈ (runEx (freezeB ++ overtakeB)).1.g.w.log → 0 ∉ kl := by
  have hh : held ((runEx (freezeB ++ overtakeB)).1.l 1) = some 0 := by decide +kernel
  generalize hc : (runEx (freezeB ++ overtakeB)).1 = c at hh ⊢
  exact (delayed_bucket_in_nobodys_count c (hc ▸ reach_run _ _ Reach.init _) 1 0 hh).2.2.2.2.2

#print axioms projection_run
#print axioms projection_reach
#print axioms queue_accounting_transfers
#print axioms ghost_log_is_run_log
#print axioms roll_upper_bound
#print axioms roll_upper_bound_run
#print axioms bucket_offered_at_most_once
#print axioms count_reads_are_atomic_and_of_archived_buckets
#print axioms solo_roll_exact
#print axioms returned_count_is_stored
#print axioms snapshot_is_some_roll
#print axioms stored_count_is_own_roll
#print axioms roll_sandwich
#print axioms roll_exact_if_not_overlapped
#print axioms swapped_bucket_not_offered_before
#print axioms swapped_bucket_held_or_offered_by_winner
#print axioms swapped_bucket_offered_only_by_winner
#print axioms delayed_bucket_in_nobodys_count
#print axioms archived_bucket_counted_by_later_traversal
#print axioms nothing_lost
#print axioms removed_only_as_expired

end Garr.Props.C10Fine
