import Garr.Disc.Theory
import Garr.Disc.Table
/-!
# C14 — concurrent-safe APIs are free of data races

The argument has three layers.

1. **Decidable check, per run** (`harness/facts` + `Garr/Disc/Model.lean`): every syntactic access to a
   struct field of the five packages is extracted from the CURRENT source (`Fact`), and Lean decides
   `Disciplined table facts = true` against the hand-written class `table`.  `disciplined_iff` says
   what that Boolean means: every fact is about a classified field and satisfies `okFact` for its class.

2. **Bridge** (this file; assumptions stated as definitions, nothing is axiomatised).  A dynamic memory
   access `e : Garr.Disc.Ev` of an execution *realizes* a syntactic fact `f` (`Realizes`) when
   * `f.kind = atomic` ↦ `e` is an atomic access (`sync/atomic` load/store/CAS/add);
     `read` ↦ plain read; `write` ↦ plain write; `addr` ↦ not a write of the field
     (taking the address of a field / using it as a method receiver does not store to it);
   * `f.kind = init` (field of a composite literal / of an object allocated in the same function) or
     `isCtor f.fn` (the enclosing function is a constructor) ↦ `e.priv`: the object is still private;
   * every lock that is syntactically held at the access (`f.locks`, e.g. `("q.mutex", W)`) whose
     expression ends in the lock name `m` the table gives for the field is dynamically held in that
     mode: `(lockId m, md) ∈ e.held`.  (`holds f m needW` is exactly "some syntactically held lock
     ends in `m`, in write mode if `needW`".)  This is where "the `mutex` field of the same object as
     the accessed field" is assumed; both mutex variants have one lock field per object.
   `absClass` maps the table's classes to the abstract ones (`prePublication`, `sync` and `receiver`
   are `immutable` after publication: the pre-publication writers run while the object is private;
   a sync object / embedded receiver field is never re-assigned, its internal words belong to the
   `sync` package resp. are classified separately).
   `Side` lists what `okFact` does NOT check and must come from elsewhere:
   * `confined` — the documentation's "one goroutine only" (iterators, builders);
   * `prePub` — the listed pre-publication functions really run before publication;
   * `locked_no_atomic` — `okFact (.locked m)` accepts an `atomic`-kind access without the lock; the
     abstract class does not (mixing it with plain locked writes would race).  No regenerated fact
     uses this case (the two locked fields `MutexLinkedQueue.l`, `MutexAdder.value` have only plain
     accesses); `strictOK` is a decidable form of it, which no check evaluates;
   * `atomic_is_read` — an `atomic`-kind fact about a NON-`atomicOnly` field (in the regenerated facts
     only `RandomCellAdder.cells`: `atomic.AddInt64(&a.cells[i].v, x)`) reads the field (the slice
     header) to compute the address of the word that is accessed atomically; it does not store to
     the field.
   `obeys_of_okFact`: `okFact c f` + `Realizes` + `Side` ⟹ the per-access obligation `Obeys`.

3. **Theory** (`Garr/Disc/Theory.lean`): `disciplined_drf` — in every abstract execution (happens-before
   with program order, lock edges, publication edges), accesses that all obey their location's class
   never race.  `C14_drf_of_table` chains 1–3.

What remains outside Lean: the extractor sees every access (go/types; `Covered` guards against
fields silently disappearing), every dynamic access is an instance of a syntactic one, and the abstract
`Exec` fields are a faithful reading of the Go memory model.  The harness complements this with
race-detector workloads.
-/
namespace Garr.Props.C14
open Garr.Disc

theorem disciplined_iff (table : List (String × Class)) (facts : List Fact) :
    Disciplined table facts = true ↔
      ∀ f ∈ facts, ∃ c, classOf table f.field = some c ∧ okFact c f = true := by
  unfold Disciplined offending
  rw [List.isEmpty_iff, List.filter_eq_nil_iff]
  refine forall₂_congr fun f _ => ?_
  cases classOf table f.field <;> simp

/-- the abstract class of a table class; `lockId` names the abstract lock a lock field denotes -/
def absClass (lockId : String → Nat) : Class → LocClass
  | .atomicOnly => .atomicOnly
  | .locked m => .locked (lockId m)
  | .immutable => .immutable
  | .confined _ => .confined
  | .prePublication _ _ => .immutable
  | .sync => .immutable
  | .receiver => .immutable

/-- the dynamic access `e` is an execution instance of the syntactic fact `f` -/
structure Realizes (lockId : String → Nat) (f : Fact) (e : Ev) : Prop where
  kind_atomic : f.kind = .atomic → e.acc.isPlain = false
  kind_read : f.kind = .read → e.acc = .plainR
  kind_write : f.kind = .write → e.acc = .plainW
  kind_addr : f.kind = .addr → e.acc.isWrite = false
  kind_init : f.kind = .init → e.priv = true
  ctor : isCtor f.fn = true → e.priv = true
  locks : ∀ l md m, (l, md) ∈ f.locks → l.endsWith m = true → (lockId m, md) ∈ e.held

/-- what `okFact` does not check (see the module docstring) -/
structure Side (D : Discipline) (c : Class) (f : Fact) (e : Ev) : Prop where
  confined : ∀ why, c = .confined why → e.tid = D.owner e.loc
  prePub : ∀ fns why, c = .prePublication fns why → fns.contains f.fn = true → e.priv = true
  locked_no_atomic : ∀ m, c = .locked m → f.kind ≠ .atomic
  atomic_is_read : c ≠ .atomicOnly → f.kind = .atomic → e.acc.isWrite = false

/-- decidable form of `Side.locked_no_atomic` -/
def strictOK (c : Class) (f : Fact) : Bool :=
  match c with
  | .locked _ => f.kind != .atomic
  | _ => true

theorem locked_no_atomic_of_strictOK {c : Class} {f : Fact} (h : strictOK c f = true) :
    ∀ m, c = .locked m → f.kind ≠ .atomic := by
  intro m hc hk
  subst hc
  simp [strictOK, hk] at h

theorem holds_elim {lockId : String → Nat} {f : Fact} {e : Ev} (hr : Realizes lockId f e) {m : String}
    {needW : Bool} (h : holds f m needW = true) :
    ∃ md, (lockId m, md) ∈ e.held ∧ (needW = true → md = .W) := by
  unfold holds at h
  rw [List.any_eq_true] at h
  obtain ⟨⟨l, md⟩, hmem, hp⟩ := h
  simp only [Bool.and_eq_true, Bool.or_eq_true, Bool.not_eq_eq_eq_not, Bool.not_true,
    beq_iff_eq] at hp
  refine ⟨md, hr.locks l md m hmem hp.1, fun hn => ?_⟩
  rcases hp.2 with h2 | h2
  · rw [hn] at h2; cases h2
  · exact h2

/-- **Bridge**: a fact that passes the table check, realized by a dynamic access, yields the
abstract obligation of that access -/
theorem obeys_of_okFact (lockId : String → Nat) (D : Discipline) (c : Class) (f : Fact) (e : Ev)
    (hc : D.cls e.loc = absClass lockId c) (hr : Realizes lockId f e) (hs : Side D c f e)
    (hok : okFact c f = true) : Obeys D e := by
  unfold Obeys
  rw [hc]
  by_cases hp : e.priv = true
  · cases c with
    | confined why => exact hs.confined why rfl
    | _ => exact Or.inl hp
  · -- a published access is neither an initialisation nor made in a constructor
    have hi : f.kind ≠ .init := fun h => hp (hr.kind_init h)
    have hct : isCtor f.fn = false := Bool.eq_false_iff.2 fun h => hp (hr.ctor h)
    have hread : f.kind = .read → e.acc.isWrite = false := fun hk => by rw [hr.kind_read hk]; rfl
    cases c <;> simp only [okFact, hct, hi, Bool.or_false, Bool.false_or, Bool.or_eq_true, Bool.and_eq_true,
      beq_iff_eq, or_false, false_or] at hok
    case atomicOnly => exact Or.inr (hr.kind_atomic hok)
    case locked m =>
      right
      cases hkind : f.kind with
      | write =>
        rw [hkind] at hok
        obtain ⟨md, hmem, hW⟩ := holds_elim hr hok
        exact ⟨md, hmem, fun _ => hW rfl⟩
      | read =>
        rw [hkind] at hok
        obtain ⟨md, hmem, _⟩ := holds_elim hr hok
        exact ⟨md, hmem, fun hw => by rw [hread hkind] at hw; cases hw⟩
      | atomic => exact absurd hkind (hs.locked_no_atomic m rfl)
      | init => exact absurd hkind hi
      | addr => rw [hkind] at hok; cases hok
    case immutable => exact Or.inr (hok.elim hread (hs.atomic_is_read nofun))
    case confined why => exact hs.confined why rfl
    case prePublication fns why =>
      exact hok.elim (fun hk => Or.inr (hread hk)) fun hk => absurd (hs.prePub fns why rfl hk.2) hp
    case sync | receiver => exact Or.inr (hok.elim hread hr.kind_addr)

/-- **C14 (abstract model).**  In every abstract execution — any number of threads, any happens-before
relation satisfying the `Exec` fields — whose accesses all obey the synchronisation class of their
location, there is no data race. -/
theorem C14_disciplined_drf (E : Exec) (D : Discipline) (h : ∀ e ∈ E.evs, Obeys D e) :
    ∀ i j, ¬ Race E i j :=
  disciplined_drf E D h

/-- **C14 (chained).**  If the regenerated facts pass the table check, and every access of an
execution realizes one of the facts (about a field whose table class is the class of the accessed
location, with the side conditions), the execution has no data race. -/
theorem C14_drf_of_table (lockId : String → Nat) (table : List (String × Class)) (facts : List Fact)
    (hdisc : Disciplined table facts = true) (E : Exec) (D : Discipline)
    (hreal : ∀ e ∈ E.evs, ∃ f ∈ facts, ∃ c, classOf table f.field = some c ∧
      D.cls e.loc = absClass lockId c ∧ Realizes lockId f e ∧ Side D c f e) :
    ∀ i j, ¬ Race E i j := by
  apply disciplined_drf E D
  intro e he
  obtain ⟨f, hf, c, hcls, hc, hr, hs⟩ := hreal e he
  obtain ⟨c', hcls', hok⟩ := (disciplined_iff table facts).mp hdisc f hf
  rw [hcls] at hcls'
  cases hcls'
  exact obeys_of_okFact lockId D c f e hc hr hs hok

/-- the write of `MutexAdder.value` in `Add`, as the extractor reports it -/
def sampleFact : Fact :=
  ⟨"adder/MutexAdder.value", "*MutexAdder.Add", .write, [("a.lock", .W)], "adder/mutexAdder.go"⟩

example : (match classOf table sampleFact.field with | some (.locked "lock") => true | _ => false) = true := by
  decide +kernel
example : okFact (.locked "lock") sampleFact = true := by decide +kernel
/-- the same write without the lock, or under the read lock, is rejected -/
example : okFact (.locked "lock") { sampleFact with locks := [] } = false := by decide +kernel
example : okFact (.locked "lock") { sampleFact with locks := [("a.lock", .R)] } = false := by decide +kernel
/-- a plain read of an `atomicOnly` field outside constructors is rejected -/
example : okFact .atomicOnly ⟨"queue/JDKLinkedQueue.h", "*JDKLinkedQueue.Poll", .read, [], ""⟩ = false := by
  decide +kernel

end Garr.Props.C14
