import Garr.Queue.Quiescent
import Garr.Props.C01
/-!
# C15 — sequentially, and after every concurrent phase, the queue is a plain FIFO list

In any single-goroutine sequence of `Offer`, `Poll`, `Peek`, `Size`, `IsEmpty` and iterator calls the
queue returns exactly what a simple FIFO list would; after any concurrent phase has finished (all
threads at rest), `Size`, a full iteration and a drain all agree with the elements offered and not yet
removed.

Property theorems only; definitions and lemmas live in `Garr/Queue/Quiescent.lean`.

* A *solo call* of thread `t` from configuration `c` is `run M c (soloSched t a k)`: the invocation `a`
  followed by `k` own steps of `t`, `k ≥ bound c = 16·n + 15` (C07; own steps of a thread at rest are
  disabled and skipped).  `seqSched t k ops` chains solo calls with one `k` for all of them; a call
  links at most one node, so `k ≥ 16·(n + |ops|) + 15` is at least `bound` throughout.  `iterSched t k m`
  is `Iterator()`, `m` rounds of `HasNext(); Next()`, and a final `HasNext()`.
* `c` is any reachable configuration — in particular any configuration reached by any concurrent
  phase — in which `t` is idle.  `Quiet c` ("all threads at rest", `atRest`: `idle`, or `idleIt`
  owning a private iterator) is carried through every theorem to show that the observer leaves the
  system quiescent; the results themselves do not depend on it: they hold as soon as the other threads do
  not move, wherever they are suspended (the lemmas of `Quiescent.lean` are stated that way).
* `abs g` is the abstract queue (values of the live nodes in link order), `absS g` the specification
  state (the same with stable handles = node positions), `fifoApply`/`runFifo` the plain FIFO list.
* `Offer(nil)` is not modelled: the model's `offer v` always carries a value.
-/
namespace Garr.Props.C15
open Garr.Conc Garr.Queue
open Garr.Props.C01 (plain runSpec polledVals queueSpec)

/-! ## 1. One operation, run alone, is one step of the sequential specification -/

/-- **C15.1 (general form).**  From a reachable quiescent configuration, an idle thread `t` invokes the
specification operation `op` (`Offer v`, `Poll`, `Peek`, `IsEmpty`) by `a` and runs alone.  It ends
idle (the configuration is quiescent again, nobody else moved); the log consists of one LP marker
and one response, both carrying the result `specApply` computes from the abstract state at `c`;
the abstract state has become the one `specApply` computes. -/
theorem solo_op_matches_spec {c : Config M} (hc : Reach M c) (hq : Quiet c) {t : Tid} (ht : c.l t = .idle)
    {a : Act} {op : Op} (hop : invOp .idle a = some op) {k : Nat} (hk : bound c ≤ k) :
    Reach M (run M c (soloSched t a k)).1 ∧ Quiet (run M c (soloSched t a k)).1 ∧
    (run M c (soloSched t a k)).1.l = c.l ∧
    absS (run M c (soloSched t a k)).1.g = (specApply (absS c.g) op).1 ∧
    ∃ lg, (run M c (soloSched t a k)).2 = tag t lg ∧
      marks lg = [.lp (specApply (absS c.g) op).2, .res (specApply (absS c.g) op).2] ∧
      resps lg = [(specApply (absS c.g) op).2] := by
  obtain ⟨h1, h2, h3, h4⟩ := Garr.Queue.solo_op_matches_spec hc ht hop hk
  exact ⟨h1, Quiet_of_l_eq h2 hq, h2, h3, h4⟩

/-- **C15.1 (plain list form).**  The same against the plain FIFO list: the response is what
`fifoApply` returns on `abs c.g`, and the abstract queue becomes what `fifoApply` produces. -/
theorem solo_op_fifo {c : Config M} (hc : Reach M c) (hq : Quiet c) {t : Tid} (ht : c.l t = .idle)
    {a : Act} {op : Op} (hop : invOp .idle a = some op) {k : Nat} (hk : bound c ≤ k) :
    Reach M (run M c (soloSched t a k)).1 ∧ Quiet (run M c (soloSched t a k)).1 ∧
    abs (run M c (soloSched t a k)).1.g = (fifoApply (abs c.g) op).1 ∧
    ∃ lg, (run M c (soloSched t a k)).2 = tag t lg ∧ rets lg = [(fifoApply (abs c.g) op).2] := by
  obtain ⟨h1, h2, _, h3, lg, h4, h5, _⟩ := solo_op_matches_spec hc hq ht hop hk
  obtain ⟨hp, _⟩ := invoke_plain (t := t) (g := c.g) hop
  obtain ⟨e1, e2⟩ := specApply_fifo (absS c.g) hp
  refine ⟨h1, h2, ?_, lg, h4, ?_⟩
  · rw [abs_eq_items, h3, e1, ← abs_eq_items]
  · rw [rets_marks, h5, e2, ← abs_eq_items]; rfl

/-- **`Poll`, run alone**, removes and returns the head of the abstract queue; on the empty queue it
returns nil and the queue stays empty. -/
theorem solo_poll {c : Config M} (hc : Reach M c) (hq : Quiet c) {t : Tid} (ht : c.l t = .idle)
    {k : Nat} (hk : bound c ≤ k) :
    Reach M (run M c (soloSched t .poll k)).1 ∧ Quiet (run M c (soloSched t .poll k)).1 ∧
    ∃ lg, (run M c (soloSched t .poll k)).2 = tag t lg ∧
      (∀ v tl, abs c.g = v :: tl →
        rets lg = [.val v] ∧ abs (run M c (soloSched t .poll k)).1.g = tl) ∧
      (abs c.g = [] → rets lg = [.nil] ∧ abs (run M c (soloSched t .poll k)).1.g = []) := by
  obtain ⟨h1, h2, h3, lg, h4, h5⟩ := solo_op_fifo hc hq ht (a := .poll) (op := .poll) rfl hk
  refine ⟨h1, h2, lg, h4, fun v tl e => ?_, fun e => ?_⟩ <;> rw [e] at h3 h5 <;> exact ⟨h5, h3⟩

/-- **`Peek`, run alone**, returns the head of the abstract queue (nil if empty) and changes nothing. -/
theorem solo_peek {c : Config M} (hc : Reach M c) (hq : Quiet c) {t : Tid} (ht : c.l t = .idle)
    {k : Nat} (hk : bound c ≤ k) :
    Reach M (run M c (soloSched t .peek k)).1 ∧ Quiet (run M c (soloSched t .peek k)).1 ∧
    abs (run M c (soloSched t .peek k)).1.g = abs c.g ∧
    ∃ lg, (run M c (soloSched t .peek k)).2 = tag t lg ∧
      (∀ v tl, abs c.g = v :: tl → rets lg = [.val v]) ∧ (abs c.g = [] → rets lg = [.nil]) := by
  obtain ⟨h1, h2, h3, lg, h4, h5⟩ := solo_op_fifo hc hq ht (a := .peek) (op := .peek) rfl hk
  refine ⟨h1, h2, ?_, lg, h4, fun v tl e => ?_, fun e => ?_⟩
  · rw [h3]; cases abs c.g <;> rfl
  · rw [e] at h5; exact h5
  · rw [e] at h5; exact h5

/-- **`Offer v`, run alone**, appends `v` at the end of the abstract queue. -/
theorem solo_offer {c : Config M} (hc : Reach M c) (hq : Quiet c) {t : Tid} (ht : c.l t = .idle) (v : Nat)
    {k : Nat} (hk : bound c ≤ k) :
    Reach M (run M c (soloSched t (.offer v) k)).1 ∧ Quiet (run M c (soloSched t (.offer v) k)).1 ∧
    abs (run M c (soloSched t (.offer v) k)).1.g = abs c.g ++ [v] ∧
    ∃ lg, (run M c (soloSched t (.offer v) k)).2 = tag t lg ∧ rets lg = [.unit] :=
  solo_op_fifo hc hq ht (a := .offer v) (op := .offer v) rfl hk

/-- **`IsEmpty`, run alone**, returns whether the abstract queue is empty, and changes nothing. -/
theorem solo_isEmpty {c : Config M} (hc : Reach M c) (hq : Quiet c) {t : Tid} (ht : c.l t = .idle)
    {k : Nat} (hk : bound c ≤ k) :
    Reach M (run M c (soloSched t .isEmpty k)).1 ∧ Quiet (run M c (soloSched t .isEmpty k)).1 ∧
    abs (run M c (soloSched t .isEmpty k)).1.g = abs c.g ∧
    ∃ lg, (run M c (soloSched t .isEmpty k)).2 = tag t lg ∧ rets lg = [.bool (decide (abs c.g = []))] :=
  solo_op_fifo hc hq ht (a := .isEmpty) (op := .isEmpty) rfl hk

/-! ## 2. A sequence of operations by one thread -/

/-- **C15.2.**  One thread executes the plain operations `ops` one after the other from a reachable
quiescent configuration: the responses are those of the sequential specification run from the abstract
state at `c` (`runSpec`), and so is the final abstract state. -/
theorem seq_refines_list {c : Config M} (hc : Reach M c) (hq : Quiet c) {t : Tid} (ht : c.l t = .idle)
    (ops : List Op) (hp : ∀ op ∈ ops, plain op) {k : Nat} (hk : 16 * (c.g.n + ops.length) + 15 ≤ k) :
    Reach M (run M c (seqSched t k ops)).1 ∧ Quiet (run M c (seqSched t k ops)).1 ∧
    absS (run M c (seqSched t k ops)).1.g = (runSpec (absS c.g) ops).1 ∧
    ∃ lg, (run M c (seqSched t k ops)).2 = tag t lg ∧
      marks lg = seqMarks (runSpec (absS c.g) ops).2 ∧
      rets lg = (runSpec (absS c.g) ops).2.map (·.2) := by
  obtain ⟨h1, h2, h3, lg, h4, h5, _⟩ := Garr.Queue.seq_refines_list ops hp hc ht hk
  exact ⟨h1, Quiet_of_l_eq h2 hq, h3, lg, h4, h5, rets_seqMarks h5⟩

/-- **C15.2 (plain list form): sequentially the queue behaves like a plain FIFO list.**  The responses
are exactly those of `runFifo` on the list `abs c.g`, and the abstract queue ends as `runFifo` says. -/
theorem seq_behaves_like_fifo_list {c : Config M} (hc : Reach M c) (hq : Quiet c) {t : Tid}
    (ht : c.l t = .idle) (ops : List Op) (hp : ∀ op ∈ ops, plain op) {k : Nat}
    (hk : 16 * (c.g.n + ops.length) + 15 ≤ k) :
    Reach M (run M c (seqSched t k ops)).1 ∧ Quiet (run M c (seqSched t k ops)).1 ∧
    abs (run M c (seqSched t k ops)).1.g = (runFifo (abs c.g) ops).1 ∧
    ∃ lg, (run M c (seqSched t k ops)).2 = tag t lg ∧ rets lg = (runFifo (abs c.g) ops).2 := by
  obtain ⟨h1, h2, h3, lg, h4, _, h5⟩ := seq_refines_list hc hq ht ops hp hk
  obtain ⟨e1, e2⟩ := runSpec_fifo (absS c.g) ops hp
  refine ⟨h1, h2, ?_, lg, h4, ?_⟩
  · rw [abs_eq_items, h3, e1, ← abs_eq_items]
  · rw [h5, e2, ← abs_eq_items]

/-- **FIFO order.**  One thread executes `ops` from the initial (empty) queue: the values returned by the
successful polls, followed by the values still queued, are exactly the offered values in the order
they were offered (`Garr.Props.C01.spec_poll_fifo` transported to the implementation). -/
theorem seq_fifo_order {t : Tid} (ops : List Op) (hp : ∀ op ∈ ops, plain op) {k : Nat}
    (hk : 16 * (1 + ops.length) + 15 ≤ k) :
    ∃ lg, (run M (Config.init M) (seqSched t k ops)).2 = tag t lg ∧ (rets lg).length = ops.length ∧
      polledVals (ops.zip (rets lg)) ++ abs (run M (Config.init M) (seqSched t k ops)).1.g =
        Garr.Props.C01.offeredVals ops := by
  obtain ⟨_, _, h3, lg, h4, _, h5⟩ :=
    seq_refines_list (c := Config.init M) Reach.init (fun _ => rfl) (t := t) rfl ops hp hk
  have hs : absS (Config.init M).g = queueSpec.init := rfl
  rw [hs] at h3 h5
  have hfst := (Garr.Props.C01.runSpec_legal queueSpec.init ops).2.2
  have hzip : (runSpec queueSpec.init ops).2 = ops.zip (rets lg) := List.zip_of_prod hfst h5.symm
  refine ⟨lg, h4, ?_, ?_⟩
  · rw [h5, List.length_map, ← List.length_map (f := (·.1)), hfst]
  · rw [← hzip, abs_eq_items, h3]
    exact Garr.Props.C01.spec_poll_fifo ops hp

/-- **C15, first sentence.**  In any single-threaded sequence of `Offer`, `Poll`, `Peek`, `IsEmpty`, `Size`
calls and full iterations (`Iterator()`, `HasNext(); Next()` until `HasNext()` is false), started in a
reachable quiescent configuration, the responses — all of them, in order — are exactly those of the plain
FIFO list `runCalls` started with `abs c.g`: `Poll`/`Peek` on the empty list return nil, `Size` is the number
of elements (saturating at `maxInt32`), `IsEmpty` is `Size == 0`, an iteration returns the elements in
order.  The abstract queue ends as the plain list does, and the configuration is quiescent again. -/
theorem single_thread_sequence {c : Config M} (hc : Reach M c) (hq : Quiet c) {t : Tid} (ht : c.l t = .idle)
    (cls : List Call) (hp : ∀ cl ∈ cls, cl.plain) {k : Nat} (hk : 16 * (c.g.n + cls.length) + 15 ≤ k) :
    Reach M (run M c (callsSched t k (abs c.g) cls)).1 ∧
    Quiet (run M c (callsSched t k (abs c.g) cls)).1 ∧
    abs (run M c (callsSched t k (abs c.g) cls)).1.g = (runCalls (abs c.g) cls).1 ∧
    ∃ lg, (run M c (callsSched t k (abs c.g) cls)).2 = tag t lg ∧ resps lg = (runCalls (abs c.g) cls).2 := by
  obtain ⟨h1, h2, h3, h4⟩ := calls_behave_like_fifo_list cls hp hc ht rfl hk
  exact ⟨h1, Quiet_of_l_eq h2 hq, h3, h4⟩

/-- the same from the initial (empty) queue -/
theorem single_thread_sequence_init {t : Tid} (cls : List Call) (hp : ∀ cl ∈ cls, cl.plain) {k : Nat}
    (hk : 16 * (1 + cls.length) + 15 ≤ k) :
    abs (run M (Config.init M) (callsSched t k [] cls)).1.g = (runCalls [] cls).1 ∧
    ∃ lg, (run M (Config.init M) (callsSched t k [] cls)).2 = tag t lg ∧ resps lg = (runCalls [] cls).2 := by
  obtain ⟨_, _, h3, h4⟩ :=
    single_thread_sequence (c := Config.init M) Reach.init (fun _ => rfl) (t := t) rfl cls hp hk
  exact ⟨h3, h4⟩

/-! ## 3./4. `Size` and `IsEmpty` -/

/-- **C15.3.**  `Size`, run alone from a reachable quiescent configuration, returns the number of
elements of the abstract queue (saturating at `maxInt32`, as the code does) and leaves it unchanged. -/
theorem solo_size {c : Config M} (hc : Reach M c) (hq : Quiet c) {t : Tid} (ht : c.l t = .idle) {k : Nat}
    (hk : bound c ≤ k) :
    Reach M (run M c (soloSched t .size k)).1 ∧ Quiet (run M c (soloSched t .size k)).1 ∧
    abs (run M c (soloSched t .size k)).1.g = abs c.g ∧
    (run M c (soloSched t .size k)).2 = [(t, .retAux (.int (min (abs c.g).length maxInt32)))] := by
  obtain ⟨h1, h2, h3, h4⟩ := solo_size_run hc ht hk
  exact ⟨h1, Quiet_of_l_eq h2 hq, by rw [abs_eq_items, h3, ← abs_eq_items], h4⟩

/-- … in particular exactly the number of elements below the saturation point -/
theorem solo_size_exact {c : Config M} (hc : Reach M c) (hq : Quiet c) {t : Tid} (ht : c.l t = .idle)
    {k : Nat} (hk : bound c ≤ k) (hlt : (abs c.g).length < maxInt32) :
    (run M c (soloSched t .size k)).2 = [(t, .retAux (.int (abs c.g).length))] := by
  rw [(solo_size hc hq ht hk).2.2.2, Nat.min_eq_left (Nat.le_of_lt hlt)]

/-- **C15.4.**  `IsEmpty` is `Size == 0`: from the same reachable quiescent configuration, a solo `Size`
returns `n` and a solo `IsEmpty` returns `b` with `b = true ↔ n = 0`. -/
theorem size_zero_iff_empty {c : Config M} (hc : Reach M c) (hq : Quiet c) {t : Tid} (ht : c.l t = .idle)
    {k : Nat} (hk : bound c ≤ k) :
    ∃ n b lg, (run M c (soloSched t .size k)).2 = [(t, .retAux (.int n))] ∧
      (run M c (soloSched t .isEmpty k)).2 = tag t lg ∧ rets lg = [.bool b] ∧ (b = true ↔ n = 0) := by
  obtain ⟨_, _, _, lg, h1, h2⟩ := solo_isEmpty hc hq ht hk
  refine ⟨_, _, lg, (solo_size hc hq ht hk).2.2.2, h1, h2, ?_⟩
  rw [decide_eq_true_iff, ← List.length_eq_zero_iff, Nat.min_eq_zero_iff]
  exact ⟨.inl, fun h => h.resolve_right (by decide)⟩

/-! ## 5. A full iteration -/

/-- **C15.5.**  From a reachable quiescent configuration, the solo sequence `Iterator()`,
`(HasNext(); Next())` once per element, `HasNext()`: the `Next()` calls return exactly the elements
of the abstract queue in order — `(position, value)` pairs `absP c.g`, values `abs c.g` —, every
`HasNext()` before is true and the last one is false; the abstract queue is unchanged. -/
theorem solo_iteration {c : Config M} (hc : Reach M c) (hq : Quiet c) {t : Tid} (ht : c.l t = .idle)
    {k : Nat} (hk : bound c ≤ k) :
    Reach M (run M c (iterSched t k (abs c.g).length)).1 ∧
    Quiet (run M c (iterSched t k (abs c.g).length)).1 ∧
    abs (run M c (iterSched t k (abs c.g).length)).1.g = abs c.g ∧
    ∃ lg, (run M c (iterSched t k (abs c.g).length)).2 = tag t lg ∧
      lg = .retAux .unit :: iterLoopObs c.g (liveIdx c.g.n c.g.live) ∧
      lg.filterMap Obs.itPair = absP c.g ∧
      (lg.filterMap Obs.itPair).map (·.2) = abs c.g ∧
      lg.filterMap Obs.auxRet =
        .unit :: ((abs c.g).flatMap (fun v => [Ret.bool true, Ret.val v]) ++ [Ret.bool false]) := by
  obtain ⟨hr, it, h3, _⟩ := solo_iteration_run hc ht hk
  have hq' : Quiet (run M c (iterSched t k (abs c.g).length)).1 :=
    Quiet_of_others hr.others (by rw [h3]; rfl) hq
  have e1 : (Obs.retAux .unit :: iterLoopObs c.g (liveIdx c.g.n c.g.live)).filterMap Obs.itPair = absP c.g := by
    rw [List.filterMap_cons]; exact iterLoopObs_itNext c.g _
  refine ⟨hr.reach, hq', by rw [abs_eq_items, hr.absS_eq, ← abs_eq_items], _, hr.log, rfl, e1, ?_, ?_⟩
  · rw [e1]; exact (abs_eq_items c.g).symm
  · rw [List.filterMap_cons]
    show Ret.unit :: List.filterMap Obs.auxRet (iterLoopObs c.g (liveIdx c.g.n c.g.live)) = _
    rw [iterLoopObs_results _ (fun _ => rfl) (fun _ _ => rfl), ← abs_eq_map_liveIdx]

/-! ## 6. Draining -/

/-- **C15.6.**  Repeated solo `Poll` until nil, from a reachable quiescent configuration, returns exactly
the abstract queue in order (then nil), and leaves the queue empty. -/
theorem solo_drain {c : Config M} (hc : Reach M c) (hq : Quiet c) {t : Tid} (ht : c.l t = .idle) {k : Nat}
    (hk : 16 * (c.g.n + ((abs c.g).length + 1)) + 15 ≤ k) :
    Reach M (run M c (seqSched t k (List.replicate ((abs c.g).length + 1) Op.poll))).1 ∧
    Quiet (run M c (seqSched t k (List.replicate ((abs c.g).length + 1) Op.poll))).1 ∧
    abs (run M c (seqSched t k (List.replicate ((abs c.g).length + 1) Op.poll))).1.g = [] ∧
    ∃ lg, (run M c (seqSched t k (List.replicate ((abs c.g).length + 1) Op.poll))).2 = tag t lg ∧
      rets lg = (abs c.g).map Ret.val ++ [Ret.nil] := by
  have hp : ∀ op ∈ List.replicate ((abs c.g).length + 1) Op.poll, plain op := fun op ho => by
    rw [List.eq_of_mem_replicate ho]; trivial
  obtain ⟨a1, a2, a3, lg, a4, _, a5⟩ :=
    seq_refines_list hc hq ht _ hp (by rw [List.length_replicate]; exact hk)
  have e := runSpec_drain (absS c.g) (abs_length c.g)
  refine ⟨a1, a2, by rw [abs_eq_items, a3, e]; rfl, lg, a4, ?_⟩
  rw [a5, e, abs_eq_items, List.map_append, List.map_map, List.map_map]
  rfl

/-! ## 7. After any concurrent phase -/

/-- there is always a thread available to observe with: only finitely many threads have ever moved -/
theorem observer_exists {c : Config M} (hc : Reach M c) : ∃ t, c.l t = .idle := by
  obtain ⟨N, hN⟩ := finite_support hc
  exact ⟨N, hN N (Nat.le_refl _)⟩

/-- **C15.7.**  Let `c` be the configuration after ANY schedule `s` from the initial state — any client
program, any number of threads, any interleaving — and suppose the concurrent phase is over: all
threads are at rest.  Then for any idle thread `t` observing alone:

* `Size` returns the number of elements of `abs c.g` (saturating at `maxInt32`);
* a full iteration returns exactly `abs c.g`, in order;
* a drain (`Poll` until nil) returns exactly `abs c.g`, in order;

and `abs c.g` is "offered and not yet removed": it consists of the offered values at the live positions
(a sub-sequence of the values offered during `s`, in offer order), and its length is the number of offers
minus the number of successful polls and effective removes.  Each observation leaves the system
quiescent. -/
theorem quiescent_agree (s : List (Tid × M.Act)) {c : Config M} (hcs : (run M (Config.init M) s).1 = c)
    (hq : Quiet c) {t : Tid} (ht : c.l t = .idle) {k : Nat}
    (hk : 16 * (c.g.n + ((abs c.g).length + 1)) + 15 ≤ k) :
    -- Size
    ((run M c (soloSched t .size k)).2 = [(t, .retAux (.int (min (abs c.g).length maxInt32)))] ∧
      Quiet (run M c (soloSched t .size k)).1) ∧
    -- full iteration
    (∃ lg, (run M c (iterSched t k (abs c.g).length)).2 = tag t lg ∧
      (lg.filterMap Obs.itPair).map (·.2) = abs c.g ∧
      Quiet (run M c (iterSched t k (abs c.g).length)).1) ∧
    -- drain
    (∃ lg, (run M c (seqSched t k (List.replicate ((abs c.g).length + 1) Op.poll))).2 = tag t lg ∧
      rets lg = (abs c.g).map Ret.val ++ [Ret.nil] ∧
      Quiet (run M c (seqSched t k (List.replicate ((abs c.g).length + 1) Op.poll))).1) ∧
    -- offered and not yet removed
    abs c.g = (liveIdx c.g.n c.g.live).filterMap
      (fun i => (0 :: Garr.Queue.offeredVals (run M (Config.init M) s).2)[i]?) ∧
    (abs c.g).Sublist (Garr.Queue.offeredVals (run M (Config.init M) s).2) ∧
    (abs c.g).length + polled (run M (Config.init M) s).2 + removed (run M (Config.init M) s).2 =
      offered (run M (Config.init M) s).2 := by
  have hk1 : bound c ≤ k := by simp only [bound]; omega
  subst hcs
  have hc := reach_run M _ Reach.init s
  obtain ⟨_, a2, _, a4⟩ := solo_size hc hq ht hk1
  obtain ⟨_, b2, _, lg1, b4, _, _, b7, _⟩ := solo_iteration hc hq ht hk1
  obtain ⟨_, d2, _, lg2, d4, d5⟩ := solo_drain hc hq ht hk
  refine ⟨⟨a4, a2⟩, ⟨lg1, b4, b7, b2⟩, ⟨lg2, d4, d5, d2⟩, ?_, ?_, ?_⟩
  · exact abs_at_live_positions s
  · exact abs_sublist_offered s
  · exact abs_length_accounting s

/-! ## Non-vacuity -/

def demoCalls : List Call :=
  [.op (.offer 7), .op (.offer 8), .size, .op .poll, .iterate, .op .isEmpty, .op .poll, .op .poll]

/-- what the plain FIFO list answers -/
example : runCalls [] demoCalls =
    ([], [.unit, .unit, .int 2, .val 7, .unit, .bool true, .val 8, .bool false, .bool false, .val 8, .nil]) := by
  decide +kernel

/-- the machine, executing the schedule of `single_thread_sequence_init` (here with 20 own steps per call,
which suffices for this small queue), answers the same -/
example : resps ((run M (Config.init M) (callsSched 0 20 [] demoCalls)).2.map (·.2)) =
    (runCalls [] demoCalls).2 := by decide +kernel

/-- a concurrent phase (thread 0 offers 7 while thread 1 offers 8, interleaved), then thread 2 observes:
the configuration is quiescent and `Size` returns 2 -/
def demoPhase : List (Tid × M.Act) :=
  [(0, .offer 7), (1, .offer 8), (0, .tau), (1, .tau), (0, .tau), (1, .tau), (0, .tau), (1, .tau),
   (1, .tau), (1, .tau), (1, .tau), (1, .tau), (1, .tau), (1, .tau)]

example : abs (run M (Config.init M) demoPhase).1.g = [7, 8] ∧
    atRest ((run M (Config.init M) demoPhase).1.l 0) = true ∧
    atRest ((run M (Config.init M) demoPhase).1.l 1) = true ∧
    resps ((run M (run M (Config.init M) demoPhase).1 (soloSched 2 .size 20)).2.map (·.2)) = [.int 2] := by
  decide +kernel

end Garr.Props.C15
