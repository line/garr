import Garr.Lin
import Garr.Locked.Inv
/-!
# C19 — the mutex-based queue and adder are linearizable over their whole API

`Garr.Locked.M P` models an object whose every method is ONE critical section of an `RWMutex`
(`acq → rd → (wr) → rel → retn`, the read of the guarded state and the write-back being separate
steps).  For every program table `P` whose read-locked methods are pure (`Prog.ReadsPure`),
`locked_disciplined` and `locked_refines` are the two hypotheses of `Garr.Lin.linearizable_of_refines`
(linearization point of a writer = its write-back step, where `loc = g.st` by the lock invariant
`Garr.Locked.lockInv_reach`; linearization point of a reader = its read step).  `sar_conservation` is stated
for the sequential adder; with linearizability it gives "the values returned by concurrent `SumAndReset` calls
plus the final `Sum` add up to exactly the total added".
-/
namespace Garr.Props.C19
open Garr.Conc Garr.Lin Garr.Locked

variable {S Op Ret : Type}

/-- how steps of the locked machine are read as history events: `call op` from `idle` is the
invocation, the `lp` observation the linearization point, the `ret` observation the response -/
def lockedView (P : Prog S Op Ret) : View (M P) Op Ret where
  invOf := fun (l : LL S Op Ret) (a : LAct Op) =>
    match l, a with
    | .idle, .call op => some op
    | _, _ => none
  lpOf := fun (_ : LL S Op Ret) (o : LObs Ret) => match o with | .lp r => some r | _ => none
  resOf := fun (_ : LL S Op Ret) (o : LObs Ret) => match o with | .ret r => some r | _ => none
  ph := fun (l : LL S Op Ret) =>
    match l with
    | .idle => .idle
    | .acq _ => .pending
    | .rd _ => .pending
    | .wr _ _ => .pending
    | .rel _ r => .done r
    | .retn r => .done r
  curOp := fun (l : LL S Op Ret) =>
    match l with
    | .acq op => some op
    | .rd op => some op
    | .wr op _ => some op
    | _ => none

/-- the linearization-point discipline: one LP marker per call, between invocation and response,
and the response carries the result fixed at the LP -/
theorem locked_disciplined (P : Prog S Op Ret) : Disciplined (M P) (lockedView P) where
  idle0 := rfl
  not_both := by
    intro l o
    cases o with
    | lp r => exact .inr rfl
    | _ => exact .inl rfl
  idle_step := by
    intro t g l a g' l' obs hs hph
    replace hs := stepK_of_step hs
    induction hs with
    | call op => exact ⟨rfl, nofun, fun _ e => ⟨rfl, e⟩⟩
    | _ => cases hph
  pending_step := by
    intro t g l a g' l' obs hs hph
    replace hs := stepK_of_step hs
    induction hs with
    | lock | rlock | copy => exact ⟨rfl, .inl ⟨rfl, rfl, rfl⟩⟩
    | read | write => exact ⟨rfl, .inr (.inl ⟨_, rfl, rfl⟩)⟩
    | _ => cases hph
  done_step := by
    intro t g l a g' l' obs r hs hph
    replace hs := stepK_of_step hs
    induction hs with
    | unlock | runlock => cases hph; exact ⟨rfl, .inl ⟨rfl, rfl⟩⟩
    | ret => cases hph; exact ⟨rfl, .inr ⟨rfl, rfl⟩⟩
    | _ => cases hph

section
variable {P : Prog S Op Ret} {g g' : LG S} {x x' : LL S Op Ret} {a : LAct Op} {obs : List (LObs Ret)}

theorem st_eq_of_no_lp (hk : StepK P g x a g' x' obs) (hno : ∀ r, Mk.lp r ∉ (lockedView P).evs x obs) :
    g'.st = g.st := by
  induction hk with
  | write => exact absurd List.mem_cons_self (hno _)
  | _ => rfl

/-- a step with LP marker `lp r` performs the thread's operation with result `r`: a reader's read step
because read-locked methods are pure, a writer's write-back step if its copy is still the guarded state -/
theorem apply_of_lp (hP : P.ReadsPure) (hk : StepK P g x a g' x' obs) (hwr : ∀ op loc, x = .wr op loc → loc = g.st)
    {r : Ret} {op : Op} (hlp : Mk.lp r ∈ (lockedView P).evs x obs) (hcur : (lockedView P).curOp x = some op) :
    P.apply g.st op = (g'.st, r) := by
  induction hk with
  | read op' hwop =>
    cases hcur; cases List.mem_singleton.mp hlp
    exact Prod.ext (hP g.st op hwop) rfl
  | write op' loc =>
    cases hcur; cases List.mem_singleton.mp hlp
    rw [hwr op loc rfl]
  | ret => cases hcur
  | _ => cases hlp

end

/-- forward simulation with `abs g = g.st`: only the LP steps change the guarded state, and they
change it as the sequential method does; a writer's copy `loc` is still `g.st` by the lock invariant
(mutual exclusion) -/
theorem locked_refines (P : Prog S Op Ret) (hP : P.ReadsPure) :
    Refines (M P) (lockedView P) ⟨P.init, P.apply⟩ (fun (g : LG S) => g.st) (Inv P) where
  init := rfl
  no_lp := fun _ _ _ _ _ _ _ hs hno => st_eq_of_no_lp (stepK_of_step hs) hno
  lp := fun _ t _ _ _ _ _ _ hI hs hlp hcur =>
    apply_of_lp hP (stepK_of_step hs) (fun op loc hx => (hI.wr_ok t op loc hx).2) hlp hcur

/-- **C19 (generic).**  For every program table `P` whose read-locked methods are pure, every history
of every schedule of `M P` — every client program over all of `P`'s operations, every number of
threads, every interleaving of the individual lock/read/write/unlock steps — is linearizable w.r.t.
the sequential object `⟨P.init, P.apply⟩`.  (`fun _ => 0`: at the start no thread has completed a call.) -/
theorem locked_linearizable (P : Prog S Op Ret) (hP : P.ReadsPure) [Inhabited Op] [Inhabited Ret]
    (s : List (Tid × LAct Op)) :
    Garr.Lin.Linearizable ⟨P.init, P.apply⟩
      (Garr.Lin.hist (lockedView P) (Config.init (M P)) (fun _ => 0) s) :=
  linearizable_of_refines (locked_disciplined P) (locked_refines P hP) (lockInv_reach P) s

instance : Inhabited QOp := ⟨.poll⟩
instance : Inhabited QRet := ⟨.unit⟩
instance : Inhabited AOp := ⟨.sum⟩

/-- the sequential queue: `offer`/`poll`/`peek`/`size`/`isEmpty` on a list -/
def mutexQueueSpec : Spec QOp QRet (List Nat) := ⟨queueProg.init, queueProg.apply⟩

/-- the sequential int64 counter: `add`/`sum`/`reset`/`sumAndReset`/`store` -/
def mutexAdderSpec : Spec AOp (Option Int) Int := ⟨adderProg.init, adderProg.apply⟩

/-- **C19, queue** (also the mutex half of C01).  Every history of `MutexLinkedQueue` — any client
program mixing `Offer`, `Poll`, `Peek`, `Size` and `IsEmpty` from any number of goroutines, any
interleaving — is linearizable w.r.t. the sequential FIFO queue; in particular `Size` and `IsEmpty`
are as atomic as the other three. -/
theorem C19_mutex_queue_linearizable (s : List (Tid × LAct QOp)) :
    Linearizable mutexQueueSpec
      (hist (lockedView queueProg) (Config.init (M queueProg)) (fun _ => 0) s) :=
  locked_linearizable queueProg queueProg_readsPure s

/-- **C19, adder.**  Every history of `MutexAdder` — any client program mixing `Add`, `Sum`, `Reset`,
`SumAndReset` and `Store` from any number of goroutines, any interleaving — is linearizable w.r.t.
the sequential wrapping int64 counter. -/
theorem C19_mutex_adder_linearizable (s : List (Tid × LAct AOp)) :
    Linearizable mutexAdderSpec
      (hist (lockedView adderProg) (Config.init (M adderProg)) (fun _ => 0) s) :=
  locked_linearizable adderProg adderProg_readsPure s

def offered : List (QOp × QRet) → List Nat
  | [] => []
  | (.offer v, _) :: tr => v :: offered tr
  | _ :: tr => offered tr

def polled : List (QOp × QRet) → List Nat
  | [] => []
  | (.poll, .val v) :: tr => v :: polled tr
  | _ :: tr => polled tr

theorem queue_fifo_from (q : List Nat) (tr : List (QOp × QRet)) (hl : legal mutexQueueSpec q tr) :
    polled tr ++ exec mutexQueueSpec q tr = q ++ offered tr := by
  induction tr generalizing q with
  | nil => exact (List.append_nil q).symm
  | cons x tr ih =>
    obtain ⟨op, r⟩ := x
    obtain ⟨h1, h2⟩ := hl
    have ih' := ih _ h2
    cases op with
    | offer v => exact ih'.trans (List.append_assoc q [v] _)
    | poll =>
      cases q with
      | nil => subst h1; exact ih'
      | cons v q => subst h1; exact congrArg (v :: ·) ih'
    | peek => cases q <;> (subst h1; exact ih')
    | size | isEmpty => subst h1; exact ih'

/-- **FIFO.**  Along any legal sequential trace of the mutex queue's specification (such as the one
a linearization provides), the polled values followed by the values still queued are exactly the
offered values, in order. -/
theorem queue_fifo (tr : List (QOp × QRet)) (hl : legal mutexQueueSpec mutexQueueSpec.init tr) :
    polled tr ++ exec mutexQueueSpec mutexQueueSpec.init tr = offered tr :=
  queue_fifo_from _ tr hl

/-- `Size` returns the number of queued values and `IsEmpty` says whether there are none, in the
very state in which they take effect -/
theorem queue_size_isEmpty (q : List Nat) :
    mutexQueueSpec.apply q .size = (q, .int q.length) ∧
    mutexQueueSpec.apply q .isEmpty = (q, .bool q.isEmpty) := ⟨rfl, rfl⟩

def addedSum : List (AOp × Option Int) → Int
  | [] => 0
  | (.add x, _) :: tr => x + addedSum tr
  | _ :: tr => addedSum tr

def sarSum : List (AOp × Option Int) → Int
  | [] => 0
  | (.sumAndReset, some v) :: tr => v + sarSum tr
  | _ :: tr => sarSum tr

/-- `add`, `sumAndReset`, `sum` (no `store`/`reset`, which discard value on purpose) -/
def conserving : AOp → Prop
  | .add _ => True
  | .sumAndReset => True
  | .sum => True
  | _ => False

theorem sar_conservation_from (s : Int) (tr : List (AOp × Option Int))
    (hl : legal mutexAdderSpec s tr) (hc : ∀ x ∈ tr, conserving x.1) :
    wrap64 (sarSum tr + exec mutexAdderSpec s tr) = wrap64 (s + addedSum tr) := by
  induction tr generalizing s with
  | nil => exact congrArg wrap64 ((Int.zero_add s).trans (Int.add_zero s).symm)
  | cons x tr ih =>
    obtain ⟨op, r⟩ := x
    obtain ⟨h1, h2⟩ := hl
    have ih' := ih _ h2 (fun y hy => hc y (List.mem_cons_of_mem _ hy))
    have hop := hc _ (List.mem_cons_self ..)
    cases op with
    | add x => exact ih'.trans ((wrap64_add (s + x) _).trans (congrArg wrap64 (Int.add_assoc s x _)))
    | sum => subst h1; exact ih'
    | sumAndReset =>
      subst h1
      show wrap64 (s + sarSum tr + exec mutexAdderSpec 0 tr) = _
      rw [Int.add_assoc]
      exact wrap64_add_congr' _ (ih'.trans (congrArg wrap64 (Int.zero_add _)))
    | reset | store => exact hop.elim

/-- **Conservation.**  Along any legal sequential trace of `add x` / `sumAndReset` / `sum`
operations of the adder (from 0), the values returned by the `sumAndReset` calls plus the final value
equal the total added, modulo 2^64 (both sides wrapped into int64). -/
theorem sar_conservation (tr : List (AOp × Option Int))
    (hl : legal mutexAdderSpec mutexAdderSpec.init tr) (hc : ∀ x ∈ tr, conserving x.1) :
    wrap64 (sarSum tr + exec mutexAdderSpec mutexAdderSpec.init tr) = wrap64 (addedSum tr) :=
  (sar_conservation_from _ tr hl hc).trans (congrArg wrap64 (Int.zero_add _))

/-- Linearizability + conservation: every concurrent history of `MutexAdder` has a linearization
(`l`, with `opOf`/`retOf` agreeing with every invocation and response of the history and respecting
real-time order) along which — if the history uses only `Add`/`SumAndReset`/`Sum` — the values
returned by the `SumAndReset` calls plus the final value are exactly the total added (mod 2^64). -/
theorem C19_adder_concurrent_conservation (s : List (Tid × LAct AOp)) :
    ∃ (l : List (Nat × Nat)) (opOf : Nat × Nat → AOp) (retOf : Nat × Nat → Option Int),
      let h := hist (lockedView adderProg) (Config.init (M adderProg)) (fun _ => 0) s
      let tr := l.map (fun k => (opOf k, retOf k))
      l.Nodup ∧ (∀ k, k ∈ l → Ev.inv k (opOf k) ∈ h) ∧
      (∀ k r, Ev.res k r ∈ h → k ∈ l ∧ retOf k = r) ∧
      (∀ k1 k2, k1 ∈ l → k2 ∈ l → precedes h k1 k2 → before l k1 k2) ∧
      legal mutexAdderSpec mutexAdderSpec.init tr ∧
      ((∀ k op, Ev.inv k op ∈ h → conserving op) →
        wrap64 (sarSum tr + exec mutexAdderSpec mutexAdderSpec.init tr) = wrap64 (addedSum tr)) := by
  obtain ⟨l, opOf, retOf, h1, h2, h3, h4, h5⟩ := C19_mutex_adder_linearizable s
  refine ⟨l, opOf, retOf, h1, h2, h3, h4, h5, fun hc => sar_conservation _ h5 ?_⟩
  intro x hx
  obtain ⟨k, hk, rfl⟩ := List.mem_map.mp hx
  exact hc k (opOf k) (h2 k hk)

/-! ## Negative witness: "ONE critical section" matters

`Sum(); Reset()` — a read-locked section followed by a write-locked section — is not an atomic
`SumAndReset`: an `Add(5)` that slips between the two sections is lost. -/

instance decLegal {Op Ret S : Type} [DecidableEq Ret] (sp : Spec Op Ret S) :
    ∀ (s : S) (tr : List (Op × Ret)), Decidable (legal sp s tr)
  | _, [] => isTrue trivial
  | s, (op, r) :: rest =>
    have := decLegal sp (sp.apply s op).1 rest
    inferInstanceAs (Decidable ((sp.apply s op).2 = r ∧ legal sp (sp.apply s op).1 rest))

/-- the broken composite, at the level of the sequential object: `sum` (first critical section),
then the operations `between` of other threads, then `reset` (second critical section); returns
the composite's result and the final state -/
def brokenSumAndReset (s : Int) (between : List AOp) : Option Int × Int :=
  let r := (adderProg.apply s .sum).2
  let s1 := between.foldl (fun st op => (adderProg.apply st op).1) (adderProg.apply s .sum).1
  (r, (adderProg.apply s1 .reset).1)

/-- with `add 5` in between: the composite returns 0 and the final value is 0 — the 5 is lost -/
example : brokenSumAndReset 0 [.add 5] = (some 0, 0) := by decide

/-- no sequential run of the atomic adder explains these results (`sumAndReset ↦ 0`, `add 5`,
final `sum ↦ 0`), in either order of the two calls … -/
example :
    ¬ legal mutexAdderSpec 0 [(.sumAndReset, some 0), (.add 5, none), (.sum, some 0)] ∧
    ¬ legal mutexAdderSpec 0 [(.add 5, none), (.sumAndReset, some 0), (.sum, some 0)] := by decide

/-- … and conservation fails: (Σ sumAndReset results) + final = 0 + 0 ≠ 5 = Σ added -/
example : wrap64 (0 + (brokenSumAndReset 0 [.add 5]).2) ≠ wrap64 5 := by decide

/-- the same at the level of the machine: thread 0 calls `Sum()` and then `Reset()` (two critical
sections of `M adderProg`), thread 1's complete `Add(5)` runs in between, thread 2 reads the final sum -/
def brokenSchedule : List (Tid × LAct AOp) :=
  [(0, .call .sum), (0, .tau), (0, .tau), (0, .tau), (0, .tau),
   (1, .call (.add 5)), (1, .tau), (1, .tau), (1, .tau), (1, .tau), (1, .tau),
   (0, .call .reset), (0, .tau), (0, .tau), (0, .tau), (0, .tau), (0, .tau),
   (2, .call .sum), (2, .tau), (2, .tau), (2, .tau), (2, .tau)]

/-- `Sum()` returned 0, `Add(5)` completed, `Reset()` completed, and the final `Sum()` is 0: as a
history of four atomic calls this is linearizable (by `C19_mutex_adder_linearizable`), but read as
"`SumAndReset` returned 0" it violates conservation — the 5 was added and never reported -/
example : hist (lockedView adderProg) (Config.init (M adderProg)) (fun _ => 0) brokenSchedule =
    [.inv (0, 0) .sum, .lp (0, 0) (some 0), .res (0, 0) (some 0),
     .inv (1, 0) (.add 5), .lp (1, 0) none, .res (1, 0) none,
     .inv (0, 1) .reset, .lp (0, 1) none, .res (0, 1) none,
     .inv (2, 0) .sum, .lp (2, 0) (some 0), .res (2, 0) (some 0)] := by decide +kernel

/-- `Add(5)` (thread 0) ∥ `SumAndReset()` (thread 1), overlapping: both are invoked, thread 0 takes
the lock, thread 1's `Lock` attempt (4th entry) is disabled and skipped, thread 0 copies, writes back
(LP) and unlocks, thread 1 locks, copies 5, writes back 0 (LP, result 5), unlocks and returns -/
def demo : List (Tid × LAct AOp) :=
  [(0, .call (.add 5)), (1, .call .sumAndReset), (0, .tau), (1, .tau), (0, .tau), (0, .tau), (0, .tau),
   (1, .tau), (0, .tau), (1, .tau), (1, .tau), (1, .tau), (1, .tau)]

example : hist (lockedView adderProg) (Config.init (M adderProg)) (fun _ => 0) demo =
    [.inv (0, 0) (.add 5), .inv (1, 0) .sumAndReset, .lp (0, 0) none, .res (0, 0) none,
     .lp (1, 0) (some 5), .res (1, 0) (some 5)] := by decide +kernel

/-- the final guarded value is 0, the lock is free -/
example : (run (M adderProg) (Config.init (M adderProg)) demo).1.g.st = 0 ∧
    (run (M adderProg) (Config.init (M adderProg)) demo).1.g.writer = false ∧
    (run (M adderProg) (Config.init (M adderProg)) demo).1.g.readers = 0 := by decide +kernel

/-- while thread 0 holds the write lock (after the first three entries), thread 1's `Lock` is disabled -/
example :
    let c := (run (M adderProg) (Config.init (M adderProg)) (demo.take 3)).1
    c.g.writer = true ∧ (M adderProg).step 1 c.g (c.l 1) .tau = none := by decide +kernel

/-- mutex queue: `Offer(7)` ∥ `Size()` ∥ `Poll()` — the read-locked `Size` runs between the two writers -/
def demoQueue : List (Tid × LAct QOp) :=
  [(0, .call (.offer 7)), (1, .call .size), (2, .call .poll),
   (0, .tau), (0, .tau), (0, .tau), (0, .tau), (0, .tau),
   (1, .tau), (2, .tau), (1, .tau), (1, .tau), (1, .tau),
   (2, .tau), (2, .tau), (2, .tau), (2, .tau), (2, .tau)]

example : hist (lockedView queueProg) (Config.init (M queueProg)) (fun _ => 0) demoQueue =
    [.inv (0, 0) (.offer 7), .inv (1, 0) .size, .inv (2, 0) .poll,
     .lp (0, 0) .unit, .res (0, 0) .unit,
     .lp (1, 0) (.int 1), .res (1, 0) (.int 1),
     .lp (2, 0) (.val 7), .res (2, 0) (.val 7)] := by decide +kernel

end Garr.Props.C19
