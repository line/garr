import Garr.Retry.Lemmas
import Garr.Validate.Model
import Garr.Num.F64Order
/-!
# C20 — constructors accept exactly their documented parameter domain

`F64.lt`/`F64.le` are the IEEE comparisons of the exact binary64 model (false whenever an operand is NaN).
The domain predicates below are explicit about NaN.

The first group of theorems phrases the float part of each domain with the model's own `F64.lt`/`F64.le`.
The second group (suffix `_sem`, section "Documented domains") restates them with the *mathematical*
order of the represented extended reals (`Garr/Num/F64Order.lean`): `F64.ext x` is `value x · 2^1074`
in `ℤ ∪ {-∞,+∞}` (an order embedding, independent of how `lt`/`le` are computed), and
`EInt.ofInt n` is the integer `n` on that scale (`F64.ext F64.one = EInt.ofInt 1`, etc.).
-/
namespace Garr.Props.C20
open Garr Garr.Retry Garr.Validate

theorem lt_nan_left (x : F64) : F64.lt .nan x = false := F64.lt_nan_left x

/-- fixed: accepted ⇔ delay ≥ 0 -/
theorem fixed_accept_iff (d : Int) : (mkFixed d).isSome ↔ 0 ≤ d := by
  simp only [Option.isSome_iff_exists, mkFixed_iff, exists_eq_right]

/-- random: accepted ⇔ 0 ≤ min ≤ max -/
theorem random_accept_iff (lo hi : Int) : (mkRandom lo hi).isSome ↔ (0 ≤ lo ∧ lo ≤ hi) := by
  simp only [Option.isSome_iff_exists, mkRandom_iff, ← and_assoc, exists_eq_right]

/-- exponential: accepted ⇔ multiplier is a number > 1, initial ≥ 0, initial ≤ max -/
theorem expo_accept_iff (i m : Int) (mu : F64) :
    (mkExpo i m mu).isSome ↔ (mu ≠ .nan ∧ F64.lt F64.one mu = true ∧ 0 ≤ i ∧ i ≤ m) := by
  simp only [Option.isSome_iff_exists, mkExpo_iff, ← and_assoc, exists_eq_right,
    and_iff_right_of_imp fun h => (ne_nan_of_lt (a := F64.one) (b := mu) h).2]

/-- NaN multiplier is rejected: the test in `NewExponentialBackoff` is `!(multiplier > 1)` -/
theorem expo_rejects_nan (i m : Int) : mkExpo i m .nan = none :=
  Option.not_isSome_iff_eq_none.1 fun h => ((expo_accept_iff i m .nan).1 h).1 rfl

/-- jitter: accepted ⇔ delegate present, both rates are numbers in [-1, 1], min ≤ max -/
theorem jitter_accept_iff (b : Option Backoff) (lo hi : F64) :
    (mkJitter b lo hi).isSome ↔
      (b.isSome ∧ lo ≠ .nan ∧ hi ≠ .nan ∧
       F64.le (F64.neg F64.one) lo = true ∧ F64.le lo F64.one = true ∧
       F64.le (F64.neg F64.one) hi = true ∧ F64.le hi F64.one = true ∧ F64.lt hi lo = false) := by
  cases b with
  | none => exact ⟨fun h => (nomatch h), fun h => (nomatch h.1)⟩
  | some bb =>
    exact Option.isSome_iff_exists.trans
      ⟨fun ⟨j, h⟩ => let ⟨a1, a2, b1, b2, c, _⟩ := (mkJitter_iff bb j lo hi).1 h
        ⟨rfl, (ne_nan_of_le a1).2, (ne_nan_of_le b1).2, a1, a2, b1, b2, c⟩,
       fun ⟨_, _, _, a1, a2, b1, b2, c⟩ => ⟨_, (mkJitter_iff bb _ lo hi).2 ⟨a1, a2, b1, b2, c, rfl⟩⟩⟩

theorem jitter_rejects_nan (b : Option Backoff) (x : F64) :
    mkJitter b .nan x = none ∧ mkJitter b x .nan = none :=
  ⟨Option.not_isSome_iff_eq_none.1 fun h => ((jitter_accept_iff b .nan x).1 h).2.1 rfl,
   Option.not_isSome_iff_eq_none.1 fun h => ((jitter_accept_iff b x .nan).1 h).2.2.1 rfl⟩

/-- limit: accepted ⇔ delegate present and limit > 0 -/
theorem limit_accept_iff (b : Option Backoff) (k : Int) : (mkLimit b k).isSome ↔ (b.isSome ∧ 0 < k) := by
  cases b with
  | none => exact ⟨fun h => (nomatch h), fun h => (nomatch h.1)⟩
  | some bb =>
    simp only [Option.isSome_iff_exists, mkLimit_iff, exists_eq_right, Option.isSome_some, true_and]

theorem ite_false_eq_true {p : Prop} [Decidable p] {q : Bool} :
    (if p then false else q) = true ↔ ¬ p ∧ q = true := by
  split <;> simp [*]

/-- breaker configuration: accepted ⇔ threshold is a number with 0 < thr ≤ 1, every duration positive,
window longer than the update interval -/
theorem config_accept_iff (c : Config) :
    valid c = true ↔ (c.thr ≠ .nan ∧ F64.lt (F64.zero false) c.thr = true ∧ F64.le c.thr F64.one = true ∧
      0 < c.trial ∧ 0 < c.openW ∧ 0 < c.window ∧ 0 < c.interval ∧ c.interval < c.window) := by
  simp only [valid, ite_false_eq_true, Bool.not_eq_true, Bool.not_eq_false', Bool.and_eq_true,
    Int.not_le, and_true, and_assoc]
  exact ⟨fun h => ⟨(ne_nan_of_lt h.1).2, h⟩, fun h => h.2⟩

theorem config_rejects_nan (c : Config) (h : c.thr = .nan) : valid c = false :=
  Bool.eq_false_iff.2 fun hv => ((config_accept_iff c).1 hv).1 h

-- non-vacuity: a concrete valid configuration (threshold 0.5) and a concrete accepted multiplier (2.0)
example : valid { thr := .fin false (2^52) (-53), minReq := 10, trial := 3, openW := 10, window := 20, interval := 1 } = true := by
  decide +kernel
example : (mkExpo 200 10000 (.fin false (2^52) (-51))).isSome = true := by decide +kernel

/-! ## Documented domains, with the mathematical order (`_sem`)

Inputs are canonical (`F64.IsF64`: what decoding any 64 raw bits gives).  Reading guide:
`EInt.ofInt 1 < F64.ext mu` is "value(mu) > 1", `F64.ext x ≤ EInt.ofInt 1` is "value(x) ≤ 1", ...;
`x ≠ .nan` is "x is a number". -/
section Sem
open Garr.F64 (ext EInt IsF64)

/-- exponential: accepted ⇔ the multiplier is a number with value > 1 (this includes `+∞`, which the Go
constructor `!(multiplier > 1)` also accepts), initial ≥ 0, initial ≤ max -/
theorem expo_accept_iff_sem (i m : Int) (mu : F64) (hmu : IsF64 mu) :
    (mkExpo i m mu).isSome ↔ (mu ≠ .nan ∧ EInt.ofInt 1 < ext mu ∧ 0 ≤ i ∧ i ≤ m) := by
  rw [expo_accept_iff]
  refine and_congr_right fun n => ?_
  rw [F64.lt_iff_ext F64.isF64_one hmu (by decide) n, F64.ext_one_eq_ofInt]

/-- the same, with the constant written as the model's `1.0` -/
theorem expo_accept_iff_sem' (i m : Int) (mu : F64) (hmu : IsF64 mu) :
    (mkExpo i m mu).isSome ↔ (mu ≠ .nan ∧ ext F64.one < ext mu ∧ 0 ≤ i ∧ i ≤ m) := by
  rw [expo_accept_iff_sem i m mu hmu, F64.ext_one_eq_ofInt]

/-- jitter: accepted ⇔ delegate present, both rates are numbers, -1 ≤ min ≤ 1, -1 ≤ max ≤ 1, min ≤ max -/
theorem jitter_accept_iff_sem (b : Option Backoff) (lo hi : F64) (hlo : IsF64 lo) (hhi : IsF64 hi) :
    (mkJitter b lo hi).isSome ↔
      (b.isSome ∧ lo ≠ .nan ∧ hi ≠ .nan ∧
       EInt.ofInt (-1) ≤ ext lo ∧ ext lo ≤ EInt.ofInt 1 ∧
       EInt.ofInt (-1) ≤ ext hi ∧ ext hi ≤ EInt.ofInt 1 ∧ ext lo ≤ ext hi) := by
  rw [jitter_accept_iff]
  refine and_congr_right fun _ => and_congr_right fun n1 => and_congr_right fun n2 => ?_
  have nm1 : F64.neg F64.one ≠ .nan := by decide
  have n1' : F64.one ≠ .nan := by decide
  rw [F64.le_iff_ext F64.isF64_neg_one hlo nm1 n1, F64.le_iff_ext hlo F64.isF64_one n1 n1',
    F64.le_iff_ext F64.isF64_neg_one hhi nm1 n2, F64.le_iff_ext hhi F64.isF64_one n2 n1',
    F64.lt_eq_false_iff hhi hlo n2 n1, F64.ext_neg_one_eq_ofInt, F64.ext_one_eq_ofInt]

/-- breaker configuration: accepted ⇔ the threshold is a number with 0 < value ≤ 1, every duration
positive, window longer than the update interval -/
theorem config_accept_iff_sem (c : Config) (hthr : IsF64 c.thr) :
    valid c = true ↔ (c.thr ≠ .nan ∧ EInt.ofInt 0 < ext c.thr ∧ ext c.thr ≤ EInt.ofInt 1 ∧
      0 < c.trial ∧ 0 < c.openW ∧ 0 < c.window ∧ 0 < c.interval ∧ c.interval < c.window) := by
  rw [config_accept_iff]
  refine and_congr_right fun n => ?_
  rw [F64.lt_iff_ext (F64.isF64_zero false) hthr (by decide) n,
    F64.le_iff_ext hthr F64.isF64_one n (by decide), F64.ext_zero_eq_ofInt, F64.ext_one_eq_ofInt]

/-- a threshold whose value is not in `(0, 1]` is rejected -/
theorem config_rejects_of {c : Config} {t : F64} (h : c.thr = t) (ht : IsF64 t)
    (hbad : EInt.ofInt 0 < ext t → ¬ ext t ≤ EInt.ofInt 1) : valid c = false :=
  Bool.eq_false_iff.2 fun hv => by
    have := (config_accept_iff_sem c (h ▸ ht)).1 hv
    rw [h] at this
    exact hbad this.2.1 this.2.2.1

/-- a threshold that is a number with value in `(0, 1]` is accepted (given the integer conditions) -/
theorem config_accepts_of {c : Config} {t : F64} (h : c.thr = t) (ht : IsF64 t) (hn : t ≠ .nan)
    (h0 : EInt.ofInt 0 < ext t) (h1 : ext t ≤ EInt.ofInt 1) :
    valid c = true ↔
      (0 < c.trial ∧ 0 < c.openW ∧ 0 < c.window ∧ 0 < c.interval ∧ c.interval < c.window) := by
  rw [config_accept_iff_sem c (h ▸ ht), h]
  exact ⟨fun h => h.2.2.2, fun h => ⟨hn, h0, h1, h⟩⟩

/-- `±∞` threshold is rejected -/
theorem config_rejects_inf (c : Config) (s : Bool) (h : c.thr = .inf s) : valid c = false :=
  config_rejects_of h trivial (by cases s <;> simp [ext])

/-- `+0` and `-0` thresholds are rejected -/
theorem config_rejects_zero (c : Config) (s : Bool) (h : c.thr = F64.zero s) : valid c = false :=
  config_rejects_of h (F64.isF64_zero s) fun h0 => absurd (F64.ext_zero_eq_ofInt s ▸ h0) (EInt.lt_irrefl _)

/-- a negative threshold (any negative finite number, `-0` included) is rejected -/
theorem config_rejects_negative (c : Config) (m : Nat) (e : Int) (h : c.thr = .fin true m e)
    (hc : F64.Canon m e) : valid c = false :=
  config_rejects_of h hc fun h0 => by
    simp only [ext, EInt.ofInt, F64.num, EInt.fin_lt_fin, Int.zero_mul, if_true] at h0
    have hp : (0 : Int) < 2 ^ (e + 1074).toNat := Int.pow_pos (by decide)
    exact absurd h0 (Int.not_lt.2 (Int.mul_nonpos_of_nonpos_of_nonneg
      (Int.neg_nonpos_of_nonneg (Int.natCast_nonneg m)) (Int.le_of_lt hp)))

/-- the smallest positive subnormal `2^-1074` is an accepted threshold (given the integer conditions) -/
theorem config_accepts_min_subnormal (c : Config) (h : c.thr = .fin false 1 (-1074)) :
    valid c = true ↔
      (0 < c.trial ∧ 0 < c.openW ∧ 0 < c.window ∧ 0 < c.interval ∧ c.interval < c.window) :=
  config_accepts_of h (by decide) nofun (by decide +kernel) (by decide +kernel)

/-- threshold exactly `1.0` is accepted (given the integer conditions); `nextUp(1.0)` is rejected -/
theorem config_accepts_one (c : Config) (h : c.thr = F64.one) :
    valid c = true ↔
      (0 < c.trial ∧ 0 < c.openW ∧ 0 < c.window ∧ 0 < c.interval ∧ c.interval < c.window) := by
  refine config_accepts_of h F64.isF64_one (by decide) ?_ ?_ <;> rw [F64.ext_one_eq_ofInt]
  · exact (EInt.ofInt_lt_ofInt 0 1).2 (by decide)
  · exact EInt.le_refl _

theorem config_rejects_above_one (c : Config) (h : c.thr = .fin false (2^52 + 1) (-52)) :
    valid c = false :=
  config_rejects_of h (by decide) fun _ => by decide +kernel

/-- a multiplier whose value is not above 1 is rejected -/
theorem expo_rejects_of (i m : Int) {mu : F64} (hmu : IsF64 mu) (h1 : ¬ EInt.ofInt 1 < ext mu) :
    mkExpo i m mu = none :=
  Option.not_isSome_iff_eq_none.1 fun h => h1 ((expo_accept_iff_sem i m mu hmu).1 h).2.1

/-- a multiplier that is a number with value above 1 is accepted (given the integer conditions) -/
theorem expo_accepts_of (i m : Int) {mu : F64} (hmu : IsF64 mu) (hn : mu ≠ .nan) (h1 : EInt.ofInt 1 < ext mu) :
    (mkExpo i m mu).isSome ↔ (0 ≤ i ∧ i ≤ m) := by
  rw [expo_accept_iff_sem i m mu hmu]
  exact ⟨fun h => h.2.2, fun h => ⟨hn, h1, h⟩⟩

/-- multiplier exactly `1.0` is rejected -/
theorem expo_rejects_one (i m : Int) : mkExpo i m F64.one = none :=
  expo_rejects_of i m F64.isF64_one (F64.ext_one_eq_ofInt ▸ EInt.lt_irrefl _)

/-- multiplier `nextUp(1.0) = 1 + 2^-52` is accepted (given the integer conditions) -/
theorem expo_accepts_next_up_one (i m : Int) :
    (mkExpo i m (.fin false (2^52 + 1) (-52))).isSome ↔ (0 ≤ i ∧ i ≤ m) :=
  expo_accepts_of i m (by decide) nofun (by decide +kernel)

/-- multiplier `+∞` is accepted (as by the Go code: `+Inf > 1`), `-∞` is rejected -/
theorem expo_accepts_pos_inf (i m : Int) : (mkExpo i m (.inf false)).isSome ↔ (0 ≤ i ∧ i ≤ m) :=
  expo_accepts_of i m trivial nofun trivial

theorem expo_rejects_neg_inf (i m : Int) : mkExpo i m (.inf true) = none :=
  expo_rejects_of i m trivial (EInt.not_lt_negInf _)

/-- an infinite jitter rate is rejected -/
theorem jitter_rejects_inf (b : Option Backoff) (x : F64) (hx : IsF64 x) (s : Bool) :
    mkJitter b (.inf s) x = none ∧ mkJitter b x (.inf s) = none := by
  constructor <;> refine Option.not_isSome_iff_eq_none.1 fun h => ?_
  · have := (jitter_accept_iff_sem b (.inf s) x trivial hx).1 h
    cases s
    · exact absurd this.2.2.2.2.1 (by simp [ext])
    · exact absurd this.2.2.2.1 (by simp [ext])
  · have := (jitter_accept_iff_sem b x (.inf s) hx trivial).1 h
    cases s
    · exact absurd this.2.2.2.2.2.2.1 (by simp [ext])
    · exact absurd this.2.2.2.2.2.1 (by simp [ext])

-- concrete instances, evaluated by the kernel on the executable model
example : valid { thr := .nan, minReq := 10, trial := 3, openW := 10, window := 20, interval := 1 } = false := by
  decide +kernel
example : valid { thr := .inf false, minReq := 10, trial := 3, openW := 10, window := 20, interval := 1 } = false := by
  decide +kernel
example : valid { thr := .inf true, minReq := 10, trial := 3, openW := 10, window := 20, interval := 1 } = false := by
  decide +kernel
example : valid { thr := F64.zero false, minReq := 10, trial := 3, openW := 10, window := 20, interval := 1 } = false := by
  decide +kernel
example : valid { thr := F64.zero true, minReq := 10, trial := 3, openW := 10, window := 20, interval := 1 } = false := by
  decide +kernel
example : valid { thr := .fin false 1 (-1074), minReq := 10, trial := 3, openW := 10, window := 20, interval := 1 } = true := by
  decide +kernel
example : valid { thr := F64.one, minReq := 10, trial := 3, openW := 10, window := 20, interval := 1 } = true := by
  decide +kernel
example : valid { thr := .fin false (2^52 + 1) (-52), minReq := 10, trial := 3, openW := 10, window := 20, interval := 1 } = false := by
  decide +kernel
example : mkExpo 200 10000 F64.one = none := by decide +kernel
example : (mkExpo 200 10000 (.fin false (2^52 + 1) (-52))).isSome = true := by decide +kernel
example : (mkExpo 200 10000 (.inf false)).isSome = true := by decide +kernel
-- jitter rates -1 and 1 (the closed ends) are accepted, nextUp(1) is not
example : (mkJitter (some (.fixed 5)) (F64.neg F64.one) F64.one).isSome = true := by decide +kernel
example : mkJitter (some (.fixed 5)) (F64.neg F64.one) (.fin false (2^52 + 1) (-52)) = none := by decide +kernel
example : mkJitter (some (.fixed 5)) F64.one (F64.neg F64.one) = none := by decide +kernel

end Sem

end Garr.Props.C20
