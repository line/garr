import Garr.Pool.Progress
/-!
# Worker pool: C12 (no panic), C04 (exactly once), C17 (TryDo / cancellation), C08 (Stop drains), C11 (cap)

All statements are about `Garr.Pool.M P` (`Garr/Pool/Model.lean`, which names the commits of `worker-pool/pool.go` it follows), for every parameter
set `P`, every client program and every schedule (`Reach`).  The invariants are in `Garr/Pool/{Lock,Tasks,Inv}.lean`.

C08 (`stop_drains`) holds unconditionally because `Start` holds the read side of `submitLock` across its CAS and its
`wg.Add`; for the code before that fix the property is false — the kernel-checked counterexample schedule is
`Garr.Pool.Old.start_stop_race_witness` in `Garr/Pool/OldStartRace.lean`.
-/
namespace Garr.Props.Pool
open Garr.Conc Garr.Pool

variable {P : Params}

/-! ## C12: submitting around Start / Stop never panics -/

theorem no_panic (c : Config (M P)) (h : Reach (M P) c) : c.g.panics = 0 ∧ ∀ t, c.l t ≠ .panicked :=
  ⟨(pinv_reach P c h).lock.panics, (pinv_reach P c h).lock.nopanic⟩

/-- the two sending panic sites (`dsel`, case 2 of `push`/`tsel`): a thread that may still send on the task queue
sees it open (`inner` = `dsel dres dspawn dundo push tsel`, and `st1`: a `Start` between its CAS and its `wg.Add`) -/
theorem no_send_on_closed (c : Config (M P)) (h : Reach (M P) c) (t : Tid) (hi : inner (c.l t) = true) :
    c.g.closed = false :=
  (pinv_reach P c h).lock.inner_open t hi

/-- the third panic site (`sp3c`): the queue is closed at most once -/
theorem close_once (c : Config (M P)) (h : Reach (M P) c) (t : Tid) (hl : c.l t = .sp3c) : c.g.closed = false :=
  (pinv_reach P c h).lock.preclose t (by rw [hl]; rfl)

/-- the lock discipline behind it: the read lock is held by exactly `readers` threads, the write lock excludes them,
at most one `Stop` caller ever wins the state CAS -/
theorem lock_discipline (c : Config (M P)) (h : Reach (M P) c) :
    Counts holdsR c.l c.g.readers ∧ (c.g.writer = true → ∀ t, holdsR (c.l t) = false) ∧
    (∀ t t', stopper (c.l t) = true → stopper (c.l t') = true → t = t') :=
  ⟨(pinv_reach P c h).lock.readers, (pinv_reach P c h).lock.writer_excl, (pinv_reach P c h).lock.stop_uniq⟩

/-! ## C04: every task is executed at most once, gets at most one result, executed XOR refused -/

theorem exec_at_most_once (c : Config (M P)) (h : Reach (M P) c) (u : Nat) : (c.g.task u).exec ≤ 1 :=
  ((pinv_reach P c h).task.ok u).exec_le

/-- shape of the result channel history: nothing yet, or the executor's value (then `exec = 1`), or one error
(then `exec = 0`) -/
theorem result_shape (c : Config (M P)) (h : Reach (M P) c) (u : Nat) :
    (c.g.task u).results = [] ∨ ((c.g.task u).results = [.val] ∧ (c.g.task u).exec = 1) ∨
    (∃ r, r ≠ .val ∧ (c.g.task u).results = [r] ∧ (c.g.task u).exec = 0) :=
  ((pinv_reach P c h).task.ok u).res

theorem result_at_most_once (c : Config (M P)) (h : Reach (M P) c) (u : Nat) : (c.g.task u).results.length ≤ 1 := by
  rcases result_shape c h u with h | ⟨h, _⟩ | ⟨r, _, h, _⟩ <;> simp [h]

/-- a worker that has run the executor finds the (capacity-1) result channel empty: its send never blocks -/
theorem worker_send_enabled (c : Config (M P)) (h : Reach (M P) c) (t : Tid) (u : Nat)
    (hl : c.l t = .wsend u ∨ c.l t = .esend u) :
    (c.g.task u).results = [] ∧ ∃ g' l' obs, (M P).step t c.g (c.l t) .tau = some (g', l', obs) := by
  have hr : role (c.l t) = some (.run, u) := by rcases hl with hl | hl <;> rw [hl] <;> rfl
  have h0 := (((pinv_reach P c h).task.ok u).run t hr).2.2
  refine ⟨h0, ?_⟩
  rcases hl with hl | hl <;> rw [hl]
  · exact ⟨_, _, _, (Trans.wsend (P := P) _ _ h0).step_eq t⟩
  · exact ⟨_, _, _, (Trans.esend (P := P) _ _ h0).step_eq t⟩

/-- `exec = 1` exactly when a worker is between taking the task and delivering, or the value was delivered -/
theorem executed_iff (c : Config (M P)) (h : Reach (M P) c) (u : Nat) :
    (c.g.task u).exec = 1 ↔ (∃ t, role (c.l t) = some (.run, u)) ∨ (c.g.task u).results = [.val] := by
  have hk := (pinv_reach P c h).task.ok u
  constructor
  · intro hx; exact (hk.exec_one hx).2
  · rintro (⟨t, ht⟩ | hv)
    · exact (hk.run t ht).2.1
    · rcases hk.res with h | ⟨_, h⟩ | ⟨r, hr, h, _⟩
      · rw [h] at hv; cases hv
      · exact h
      · rw [h] at hv; cases hv; exact absurd rfl hr

/-- an accepted task is somewhere: in the queue, with a worker, being drained by `Stop`, or has its result -/
theorem enq_located (c : Config (M P)) (h : Reach (M P) c) (u : Nat) (he : (c.g.task u).enq = true) :
    u ∈ c.g.q ∨ (∃ t, role (c.l t) = some (.run, u)) ∨ (∃ t, c.l t = .sp5s u) ∨ (c.g.task u).results ≠ [] := by
  rcases ((pinv_reach P c h).task.ok u).located he with h | h | ⟨t, ht⟩ | h
  · exact Or.inl h
  · exact Or.inr (Or.inl h)
  · exact Or.inr (Or.inr (Or.inl ⟨t, role_drain ht⟩))
  · exact Or.inr (Or.inr (Or.inr h))

/-- conversely, whatever is queued, held by a worker, being drained, or has a value result, was accepted -/
theorem enq_of_located (c : Config (M P)) (h : Reach (M P) c) (u : Nat)
    (hl : u ∈ c.g.q ∨ (∃ t, role (c.l t) = some (.run, u)) ∨ (∃ t, role (c.l t) = some (.drain, u)) ∨
      Res.val ∈ (c.g.task u).results) : (c.g.task u).enq = true := by
  have hk := (pinv_reach P c h).task.ok u
  rcases hl with h1 | ⟨t, h1⟩ | ⟨t, h1⟩ | h1
  · exact (hk.queued h1).1
  · exact (hk.run t h1).1
  · exact (hk.drain t h1).1
  · rcases hk.res with h2 | ⟨_, h2⟩ | ⟨r, hr, h2, _⟩
    · rw [h2] at h1; cases h1
    · exact (hk.exec_one h2).1
    · rw [h2] at h1; simp at h1; exact absurd h1.symm hr

theorem queue_nodup (c : Config (M P)) (h : Reach (M P) c) : c.g.q.Nodup := by
  have := (pinv_reach P c h).task.qlen
  cases hq : c.g.q with
  | nil => exact List.nodup_nil
  | cons a as =>
    rw [hq] at this
    cases as with
    | nil => simp
    | cons b bs => simp at this

/-- a submitter before its hand-over owns a fresh task: not accepted, no result, not executed; and it is the only one -/
theorem submitter_owns (c : Config (M P)) (h : Reach (M P) c) (t : Tid) (u : Nat) (hr : role (c.l t) = some (.pre, u)) :
    u < c.g.tasks.length ∧ (c.g.task u).enq = false ∧ (c.g.task u).exec = 0 ∧ (c.g.task u).results = [] ∧
    ∀ t', role (c.l t') = some (.pre, u) → t' = t := by
  have hk := (pinv_reach P c h).task.ok u
  obtain ⟨a, b, d⟩ := hk.pre t hr
  exact ⟨hk.len (Or.inr ⟨t, _, hr⟩), a, b, d, fun t' h' => hk.uniq t' t _ h' hr⟩

/-- executed XOR refused, as a state fact: an error result means not executed, not queued, with no worker -/
theorem exec_xor_refused (c : Config (M P)) (h : Reach (M P) c) (u : Nat) (r : Res)
    (hr : r ∈ (c.g.task u).results) (hne : r ≠ .val) :
    (c.g.task u).exec = 0 ∧ u ∉ c.g.q ∧ ∀ t, role (c.l t) ≠ some (.run, u) := by
  have hk := (pinv_reach P c h).task.ok u
  have hnil : (c.g.task u).results ≠ [] := fun e => by rw [e] at hr; cases hr
  refine ⟨?_, fun hq => hnil (hk.queued hq).2.2, fun t ht => hnil (hk.run t ht).2.2⟩
  rcases hk.res with h | ⟨h, _⟩ | ⟨_, _, _, h⟩
  · exact absurd h hnil
  · rw [h] at hr; simp at hr; exact absurd hr hne
  · exact h

/-- … and for ever: once an error result was delivered, the task is never executed -/
theorem error_result_never_executed (c c' : Config (M P)) (h : Reach (M P) c) (u : Nat) (r : Res)
    (hr : r ∈ (c.g.task u).results) (hne : r ≠ .val) (hs : Steps (M P) c c') : (c'.g.task u).exec = 0 :=
  (exec_xor_refused c' (hs.reach h) u r ((TaskMono.steps hs).results u r hr) hne).1

/-- a task that was not accepted and that no submitter is working on any more (e.g. `TryDo` returned `false`
through `default`) is never accepted and never executed -/
theorem refused_never_executed (c c' : Config (M P)) (h : Reach (M P) c) (u : Nat) (hr : Refused c.g c.l u)
    (hs : Steps (M P) c c') : Refused c'.g c'.l u ∧ (c'.g.task u).exec = 0 :=
  ⟨hr.steps hs, (hr.steps hs).exec (pinv_reach P c' (hs.reach h)).task⟩

/-! ## C17: `TryDo` never blocks; saturation; cancellation releases a blocked `Do` -/

def inTry : L → Bool
  | .t1 _ | .t2 _ | .t3 _ _ | .tsel _ | .t9 _ _ => true
  | _ => false

/-- own steps that `TryDo` still has to take, at most -/
def tryRank : L → Nat
  | .t1 _ => 4 | .t2 _ => 3 | .tsel _ => 2 | .t3 _ true => 2 | .t3 _ false => 1 | .t9 _ _ => 1
  | _ => 0

theorem tryRank_le (l : L) : tryRank l ≤ 4 := by
  unfold tryRank
  split <;> omega

theorem buffer_le_one (c : Config (M P)) (h : Reach (M P) c) : c.g.q.length ≤ 1 :=
  (pinv_reach P c h).task.qlen

/-- a thread inside `TryDo` always has an enabled step (it never waits for anybody) -/
theorem trydo_enabled (c : Config (M P)) (h : Reach (M P) c) (t : Tid) (hin : inTry (c.l t) = true) :
    ∃ a g' l' obs, (M P).step t c.g (c.l t) a = some (g', l', obs) := by
  have hnb : Progress.blockedAt c.g (c.l t) = false := by
    obtain ⟨l, hl⟩ : ∃ l : L, c.l t = l := ⟨_, rfl⟩
    rw [hl] at hin ⊢
    unfold inTry at hin
    split at hin <;> first | rfl | cases hin
  obtain ⟨a, g', l', obs, _, hs⟩ := Progress.enabled_of_not_blocked (pinv_reach P c h) t hnb
  exact ⟨a, g', l', obs, hs⟩

/-- every own step of a thread inside `TryDo` brings it closer to the return (rank ≤ 4, strictly decreasing, never
leaves `TryDo` except by returning): `TryDo` returns within 4 own steps -/
theorem trydo_progress (c : Config (M P)) (h : Reach (M P) c) (t : Tid) (hin : inTry (c.l t) = true)
    (a : Act) (g' : G) (l' : L) (obs : List Obs) (hs : (M P).step t c.g (c.l t) a = some (g', l', obs)) :
    tryRank l' < tryRank (c.l t) ∧ (l' = .idle ∨ inTry l' = true) := by
  have hopen := (pinv_reach P c h).lock.inner_open t
  have ht := step_trans (t := t) hs
  generalize c.l t = l at hin ht hopen
  induction ht <;> cases hin
  case tselPanic hc => rw [hc] at hopen; exact nomatch hopen rfl
  case t3free | t9 => exact ⟨Nat.le_of_ble_eq_true rfl, Or.inl rfl⟩
  all_goals exact ⟨Nat.le_of_ble_eq_true rfl, Or.inr rfl⟩

/-- saturated queue, nothing cancelled: the only enabled step of `TryDo`'s `select` is `default`; it leaves the
state unchanged and the call returns `false` -/
theorem trydo_false_when_saturated (c : Config (M P)) (h : Reach (M P) c) (t : Tid) (u : Nat)
    (hl : c.l t = .tsel u) (hq : c.g.q.length = 1) (hp : c.g.ctxDone = false) (hd : taskCtxDone c.g u = false) :
    (M P).step t c.g (c.l t) (.choose 3) = some (c.g, .t9 u false, []) ∧
    (∀ a g' l' obs, (M P).step t c.g (c.l t) a = some (g', l', obs) →
      a = .choose 3 ∧ g' = c.g ∧ l' = .t9 u false ∧ obs = []) ∧
    (M P).step t c.g (.t9 u false) .tau = some ({ c.g with readers := c.g.readers - 1 }, .idle, [.retTry u false]) := by
  have hcl : c.g.closed = false := (pinv_reach P c h).lock.inner_open t (by rw [hl]; rfl)
  have hqn : ¬ c.g.q.length < 1 := by omega
  have h0 : selCase c.g u 0 = none := by simp [selCase, hp]
  have h1 : selCase c.g u 1 = none := by simp [selCase, hd]
  have h2 : selCase c.g u 2 = none := by simp [selCase, hcl, hqn]
  have hstep : (M P).step t c.g (c.l t) (.choose 3) = some (c.g, .t9 u false, []) := by
    rw [hl]; exact (Trans.tselDefault (P := P) _ _ h0 h1 h2).step_eq t
  refine ⟨hstep, ?_, rfl⟩
  intro a g' l' obs hs
  rw [hl] at hs hstep
  have ht := step_trans (t := t) hs
  cases ht
  case tselDefault => rw [hstep] at hs; cases hs; exact ⟨rfl, rfl, rfl, rfl⟩
  case tselPool hc _ => rw [hp] at hc; cases hc
  case tselTask hc _ => rw [hd] at hc; cases hc
  case tselPanic hc => rw [hcl] at hc; cases hc
  case tselEnq _ hq' => rw [hq'] at hq; cases hq

/-- … and by C04 a task refused that way is never accepted and never executed -/
theorem trydo_false_never_executed (c c' : Config (M P)) (h : Reach (M P) c) (t : Tid) (u : Nat)
    (hl : c.l t = .tsel u) (g' : G) (l' : L) (obs : List Obs)
    (hs : (M P).step t c.g (c.l t) (.choose 3) = some (g', l', obs))
    (hsteps : Steps (M P) ⟨g', upd c.l t l'⟩ c') :
    (c'.g.task u).enq = false ∧ (c'.g.task u).exec = 0 := by
  have hown := submitter_owns c h t u (by rw [hl]; rfl)
  have ht := step_trans (t := t) hs
  rw [hl] at ht
  obtain ⟨rfl, rfl⟩ : g' = c.g ∧ l' = .t9 u false := by cases ht; exact ⟨rfl, rfl⟩
  have href : Refused c.g (upd c.l t (.t9 u false)) u := by
    refine ⟨hown.1, hown.2.1, fun a ha => ?_⟩
    rcases upd_eq_or c.l t (.t9 u false) a with ⟨_, ea⟩ | ⟨na, ea⟩
    · exact nomatch (congrArg role ea).symm.trans ha
    · exact na (hown.2.2.2.2 a ((congrArg role ea).symm.trans ha))
  have := refused_never_executed _ c' (Reach.step h hs) u href hsteps
  exact ⟨this.1.2.1, this.2⟩

/-- a `Do` blocked in `push` is released by cancellation: the matching `select` case is enabled, delivers exactly one
error result, and the task was not (and, by `error_result_never_executed`, will never be) executed -/
theorem cancel_releases (c : Config (M P)) (h : Reach (M P) c) (t : Tid) (u : Nat) (hl : c.l t = .push u)
    (hd : c.g.ctxDone = true ∨ taskCtxDone c.g u = true) :
    ∃ k r, (k = 0 ∨ k = 1) ∧ r ≠ Res.val ∧
      (M P).step t c.g (c.l t) (.choose k) = some (c.g.send u r, .d9 u, []) ∧
      ((c.g.send u r).task u).results = [r] ∧ ((c.g.send u r).task u).exec = 0 := by
  revert c; rintro ⟨(g : G), (ls : Tid → L)⟩ h hl hd
  dsimp only at *
  obtain ⟨hlen, _, hx, hr, _⟩ := submitter_owns _ h t u (by dsimp only; rw [hl]; rfl)
  dsimp only at *
  have hfin : ∀ r, ((g.send u r).task u).results = [r] ∧ ((g.send u r).task u).exec = 0 := fun r =>
    ⟨by simp [send_task, hlen], by rw [send_exec]; exact hx⟩
  rw [hl]
  rcases hd with hd | hd
  · exact ⟨0, .errPool, Or.inl rfl, by decide, (Trans.pushPool (P := P) _ _ hd hr).step_eq t, hfin _⟩
  · exact ⟨1, .errTask, Or.inr rfl, by decide, (Trans.pushTask (P := P) _ _ hd hr).step_eq t, hfin _⟩

/-! ## C08: `Stop` drains -/

theorem run_role_worker {l : L} {u : Nat} (h : role l = some (.run, u)) : fixedLive l = true ∨ expPre l = true := by
  rcases role_run h with h | h | h | h <;> rw [h] <;> first | exact Or.inl rfl | exact Or.inr rfl

/-- first half of C08 (does not need the wait group): after `Stop` returned the queue is closed and empty, no submission
(and no `Start`) is in flight past its not-stopped check, and every accepted task either has its result or is in the
hands of a worker -/
theorem stop_returned_general (c : Config (M P)) (h : Reach (M P) c) (hs : stopReturned c) :
    c.g.q = [] ∧ c.g.closed = true ∧ (∀ t, inner (c.l t) = false) ∧
    ∀ u, (c.g.task u).enq = true →
      (c.g.task u).results.length = 1 ∨ ∃ t, role (c.l t) = some (.run, u) := by
  have hp := pinv_reach P c h
  obtain ⟨hq, hc⟩ := hp.stop hs.1 hs.2
  refine ⟨hq, hc, fun t => Bool.eq_false_iff.2 fun hi => ?_, fun u he => ?_⟩
  · have := hp.lock.inner_open t hi; rw [hc] at this; cases this
  · rcases (hp.task.ok u).located he with h1 | h1 | ⟨t, ht⟩ | h1
    · rw [hq] at h1; cases h1
    · exact Or.inr h1
    · have hst := hs.2 t
      rw [role_drain ht] at hst; cases hst
    · exact Or.inl (results_length_one hp h1)

/-- C08: when `Stop` has returned, every accepted task has exactly one result, the wait group is at zero, no worker
(fixed or expanded) is alive before its `wg.Done` (a worker thread can only be at `wdone`, `eexit2` — the deferred
`expanded` decrement after `wg.Done` — or `exited`), no spawned goroutine is pending, nobody holds a task, the queue is
closed and empty -/
theorem stop_drains (c : Config (M P)) (h : Reach (M P) c) (hs : stopReturned c) :
    (∀ u, (c.g.task u).enq = true → (c.g.task u).results.length = 1) ∧ c.g.wg = 0 ∧
    (∀ t, fixedLive (c.l t) = false ∧ expPre (c.l t) = false) ∧ c.g.spawnFixed = 0 ∧ c.g.spawnExp = 0 ∧
    (∀ t u, role (c.l t) ≠ some (.run, u)) ∧ c.g.q = [] ∧ c.g.closed = true := by
  have hp := pinv_reach P c h
  have hnw : ∀ t, preWait (c.l t) = false := none_of_sub stopper_of_preWait hs.2
  have hwg : c.g.wg = 0 := hp.wait hs.1 hnw
  obtain ⟨f, e, hf, he, hcount⟩ := hp.count.wg
  rw [hwg] at hcount
  have hf0 : f = 0 := by omega
  have he0 : e = 0 := by omega
  subst hf0 he0
  obtain ⟨hq, hc, _, htasks⟩ := stop_returned_general c h hs
  have hnorun : ∀ t u, role (c.l t) ≠ some (.run, u) := by
    intro t u ht
    rcases run_role_worker ht with h2 | h2
    · rw [hf.zero t] at h2; cases h2
    · rw [he.zero t] at h2; cases h2
  refine ⟨fun u hu => ?_, hwg, fun t => ⟨hf.zero t, he.zero t⟩, by omega, by omega, hnorun, hq, hc⟩
  rcases htasks u hu with h1 | ⟨t, ht⟩
  · exact h1
  · exact absurd ht (hnorun t u)

/-- already while the `Stop` caller is draining (past `wg.Wait()`), the wait group is at zero and stays there -/
theorem wait_passed (c : Config (M P)) (h : Reach (M P) c) (hs : c.g.state = 2)
    (hno : ∀ t, preWait (c.l t) = false) : c.g.wg = 0 ∧ c.g.closed = true :=
  ⟨(pinv_reach P c h).wait hs hno, closed_of_pastWait (pinv_reach P c h).lock (pinv_reach P c h).stop hs hno⟩

/-- (why the lock invariant is `inner → closed = false` and not "`closed` → nobody holds the read lock"): after `Stop`
has closed the queue and released the write lock, a `Do` takes the read lock, sees `stopped()` and refuses -/
theorem closed_reader_witness :
    let c := (run (M P10) (Config.init (M P10))
      [(0, .callStop), (0, .tau), (0, .tau), (0, .tau), (0, .tau), (0, .tau), (0, .tau), (0, .tau),
       (1, .callDo .never), (1, .tau)]).1
    (gOf P10 c).closed = true ∧ (gOf P10 c).readers = 1 ∧ lOf P10 c 1 = .d2 0 := by
  decide

/-- whenever a `Stop` call returns — as the winner of the state CAS after draining, or because both of its CASes
failed — the pool is in state 2 (stopped): `Stop` never returns from a pool that keeps running.  (The loser's second
CAS 1→2 can only fail on `state ≠ 1`; its first CAS 0→2 failed on `state ≠ 0`, and the state word never returns to 0.) -/
theorem stop_returns_stopped (c : Config (M P)) (h : Reach (M P) c) (t : Tid) (a : Act) (g' : G) (l' : L)
    (obs : List Obs) (hs : (M P).step t c.g (c.l t) a = some (g', l', obs)) (hret : Obs.retStop ∈ obs) :
    g'.state = 2 := by
  have hp := pinv_reach P c h
  obtain ⟨hg, hcase⟩ := retStop_step (t := t) hs hret
  subst hg
  rcases hcase with ⟨hl, hne⟩ | ⟨hl, _⟩
  · have h0 := hp.sp1.2 t (by rw [hl]; rfl)
    have hle := hp.sp1.1
    omega
  · exact hp.lock.stop_state t (by rw [hl]; rfl)

/-- the state word never leaves 2 -/
theorem stopped_stable (c c' : Config (M P)) (hs : c.g.state = 2) (h : Steps (M P) c c') : c'.g.state = 2 := by
  induction h with
  | refl => exact hs
  | @step c' t a g' l' obs _ hstep ih => exact (step_trans (t := t) hstep).state2 ih

/-- once `Stop` has returned, nobody holds or awaits the write side of `submitLock` -/
theorem write_lock_free (c : Config (M P)) (h : Reach (M P) c) (hs : stopReturned c) :
    c.g.writer = false ∧ c.g.wpending = false :=
  Progress.free_of_no_stopper (pinv_reach P c h) hs.2

/-- `Stop` on a stopped pool: both CASes fail, the call returns without touching the shared state -/
theorem stop_idempotent (g : G) (t : Tid) (hs : g.state = 2) :
    step P t g .idle .callStop = some (g, .sp0, []) ∧ step P t g .sp0 .tau = some (g, .sp1, []) ∧
    step P t g .sp1 .tau = some (g, .idle, [.retStop]) := by
  simp [step, hs]

/-- `Start` on a stopped pool whose write lock is free (`write_lock_free`): RLock, failing CAS, RUnlock — the call
does not block and returns with the shared state unchanged -/
theorem start_idempotent (g : G) (t : Tid) (hs : g.state = 2) (hw : g.writer = false) (hp : g.wpending = false) :
    step P t g .idle .callStart = some (g, .st0, []) ∧
    step P t g .st0 .tau = some ({ g with readers := g.readers + 1 }, .st0c, []) ∧
    step P t { g with readers := g.readers + 1 } .st0c .tau = some ({ g with readers := g.readers + 1 }, .st2, []) ∧
    step P t { g with readers := g.readers + 1 } .st2 .tau = some (g, .idle, [.retStart]) := by
  refine ⟨rfl, by simp [step, hw, hp], by simp [step, hs], ?_⟩
  simp [step]

/-- C08, idempotence: after `Stop` returned, further `Stop` and `Start` calls by an idle thread run to completion on
their own and leave the shared state exactly as it was -/
theorem stop_start_idempotent (c : Config (M P)) (h : Reach (M P) c) (hs : stopReturned c) (t : Tid)
    (hl : c.l t = .idle) :
    (run (M P) c [(t, .callStop), (t, .tau), (t, .tau)]).1.g = c.g ∧
    (run (M P) c [(t, .callStop), (t, .tau), (t, .tau)]).1.l t = .idle ∧
    (run (M P) c [(t, .callStop), (t, .tau), (t, .tau)]).2 = [(t, .retStop)] ∧
    (run (M P) c [(t, .callStart), (t, .tau), (t, .tau), (t, .tau)]).1.g = c.g ∧
    (run (M P) c [(t, .callStart), (t, .tau), (t, .tau), (t, .tau)]).1.l t = .idle ∧
    (run (M P) c [(t, .callStart), (t, .tau), (t, .tau), (t, .tau)]).2 = [(t, .retStart)] := by
  obtain ⟨hw, hp⟩ := write_lock_free c h hs
  obtain ⟨a1, a2, a3⟩ := stop_idempotent (P := P) c.g t hs.1
  obtain ⟨b1, b2, b3, b4⟩ := start_idempotent (P := P) c.g t hs.1 hw hp
  simp [run, M, hl, a1, a2, a3, b1, b2, b3, b4]
  exact ⟨rfl, rfl⟩

/-! ## C11: number of workers, cap on concurrently executing tasks -/

/-- the meaning of the two counters: `wg` = live workers before their `wg.Done` + spawned-but-not-yet-running
goroutines; `expanded` = expanded workers before their decrement + reservations in flight (`dspawn`, `dundo`) +
spawned-but-not-yet-running expanded workers; and the reservations that lead to a spawn respect the limit -/
theorem counter_meaning (c : Config (M P)) (h : Reach (M P) c) :
    (∃ f e, Counts fixedLive c.l f ∧ Counts expPre c.l e ∧
      c.g.wg = ((f + e + c.g.spawnFixed + c.g.spawnExp : Nat) : Int)) ∧
    (∃ e x s d, Counts expPre c.l e ∧ Counts isEexit2 c.l x ∧ Counts isDspawn c.l s ∧ Counts isDundo c.l d ∧
      c.g.expanded = ((e + x + s + d + c.g.spawnExp : Nat) : Int) ∧ e + x + s + c.g.spawnExp ≤ P.limit) :=
  ⟨(pinv_reach P c h).count.wg, (pinv_reach P c h).count.exp⟩

/-- an expanded worker is spawned only after a reservation within the limit -/
theorem spawn_guard (g g' : G) (t : Tid) (u : Nat) (obs : List Obs)
    (h : step P t g (.dres u) .tau = some (g', .dspawn u, obs)) : g.expanded + 1 ≤ (P.limit : Int) := by
  have := step_trans h
  cases this
  assumption

theorem fixed_workers_le (c : Config (M P)) (h : Reach (M P) c) :
    ∃ f, Counts fixedLive c.l f ∧ f + c.g.spawnFixed ≤ P.nworker := by
  obtain ⟨f, k, hf, _, hd, _⟩ := (pinv_reach P c h).count.fixed
  exact ⟨f, hf, by omega⟩

theorem expanded_workers_le (c : Config (M P)) (h : Reach (M P) c) :
    ∃ e x, Counts expPre c.l e ∧ Counts isEexit2 c.l x ∧ e + x + c.g.spawnExp ≤ P.limit := by
  obtain ⟨e, x, s, d, he, hx, _, _, _, hle⟩ := (pinv_reach P c h).count.exp
  exact ⟨e, x, he, hx, by omega⟩

theorem no_expanded_when_limit_zero (c : Config (M P)) (h : Reach (M P) c) (h0 : P.limit = 0) :
    c.g.spawnExp = 0 ∧ ∀ t, expPre (c.l t) = false ∧ isEexit2 (c.l t) = false := by
  obtain ⟨e, x, he, hx, hle⟩ := expanded_workers_le c h
  have : e = 0 := by omega
  have : x = 0 := by omega
  subst_vars
  exact ⟨by omega, fun t => ⟨he.zero t, hx.zero t⟩⟩

/-- a worker inside the executor -/
def executing : L → Bool
  | .wexec _ | .eexec _ => true
  | _ => false

/-- at most `NumberWorker + ExpandableLimit` workers are inside an executor at any time -/
theorem cap (c : Config (M P)) (h : Reach (M P) c) (ts : List Tid) (hnd : ts.Nodup)
    (hex : ∀ t ∈ ts, executing (c.l t) = true) : ts.length ≤ P.nworker + P.limit := by
  obtain ⟨f, hf, hfle⟩ := fixed_workers_le c h
  obtain ⟨e, x, he, _, hele⟩ := expanded_workers_le c h
  have hor := hf.or he (fun l h1 h2 => by
    unfold fixedLive at h1
    split at h1 <;> first | cases h2 | cases h1)
  have := hor.length_le ts hnd (fun t ht => by
    have := hex t ht
    obtain ⟨l, hl⟩ : ∃ l : L, c.l t = l := ⟨_, rfl⟩
    rw [hl] at this ⊢
    unfold executing at this
    split at this <;> first | rfl | cases this)
  omega

/-- the same, counting tasks: at most `NumberWorker + ExpandableLimit` tasks are being executed at any time -/
theorem cap_tasks (c : Config (M P)) (h : Reach (M P) c) (us : List Nat) (hnd : us.Nodup)
    (hex : ∀ u ∈ us, ∃ t, c.l t = .wexec u ∨ c.l t = .eexec u) : us.length ≤ P.nworker + P.limit := by
  suffices hts : ∃ ts : List Tid, ts.Nodup ∧ ts.length = us.length ∧
      ∀ t ∈ ts, ∃ u ∈ us, c.l t = .wexec u ∨ c.l t = .eexec u by
    obtain ⟨ts, h1, h2, h3⟩ := hts
    rw [← h2]
    refine cap c h ts h1 (fun t ht => ?_)
    obtain ⟨u, _, hu | hu⟩ := h3 t ht <;> rw [hu] <;> rfl
  clear h
  induction us with
  | nil => exact ⟨[], List.nodup_nil, rfl, fun t ht => by cases ht⟩
  | cons u us ih =>
    obtain ⟨hu, hnd'⟩ := List.nodup_cons.1 hnd
    obtain ⟨ts, h1, h2, h3⟩ := ih hnd' (fun v hv => hex v (List.mem_cons_of_mem _ hv))
    obtain ⟨t, ht⟩ := hex u List.mem_cons_self
    refine ⟨t :: ts, List.nodup_cons.2 ⟨fun hmem => ?_, h1⟩, by simp [h2], fun t' ht' => ?_⟩
    · obtain ⟨v, hv, hv'⟩ := h3 t hmem
      have : v = u := by
        rcases ht with ht | ht <;> rcases hv' with hv' | hv' <;> rw [ht] at hv' <;> cases hv' <;> rfl
      exact hu (this ▸ hv)
    · rcases List.mem_cons.1 ht' with rfl | hm
      · exact ⟨u, List.mem_cons_self, ht⟩
      · obtain ⟨v, hv, hv'⟩ := h3 t' hm
        exact ⟨v, List.mem_cons_of_mem _ hv, hv'⟩

end Garr.Props.Pool
