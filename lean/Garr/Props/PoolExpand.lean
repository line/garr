import Garr.Props.Pool
/-!
# Worker pool, C11 second half: the pool does expand, expansion is temporary, capacity comes back

Safety (`Garr.Props.Pool.cap`) bounds the number of workers from above.  This file proves the enabledness facts behind
"reaches its cap" and "expansion is temporary":

* `expands_below_limit` – a submitter that found the queue full while fewer than `ExpandableLimit` expanded workers,
  reservations and not-yet-finished exits exist takes the *spawn* branch (never the undo branch);
* `spawn_then_take` – the spawned goroutine starts, and takes the queued task as soon as one is there;
* `idle_expiry` – an expanded worker whose deadline has passed can leave: expiry, `wg.Done`, counter decrement are enabled one
  after the other and give the reservation back;
* `deadline_is_lifetime` – the deadline of an expanded worker is re-armed to `now + ExpandedLifetime` when it starts and after
  every task it has run (so it only expires after a full idle `ExpandedLifetime`);
* `capacity_restored` – once no expanded worker, no exit in progress and no reservation is left, the counter is back at 0,
  i.e. the whole `ExpandableLimit` is available again.

Not here (fairness / liveness proper): that the scheduler eventually runs those enabled steps; see
`Garr/Props/PoolLiveExpiry.lean`.
-/
namespace Garr.Props.Pool
open Garr.Conc Garr.Pool

variable {P : Params}

/-- the shared counter is exactly (expanded workers) + (exits between `wg.Done` and the decrement) + (reservations in
flight); a submitter at the reservation step with that total below the limit spawns a worker -/
theorem expands_below_limit (c : Config (M P)) (h : Reach (M P) c) (t : Tid) (u : Nat) (hl : c.l t = .dres u)
    (e x s d : Nat) (he : Counts expPre c.l e) (hx : Counts isEexit2 c.l x) (hs : Counts isDspawn c.l s)
    (hd : Counts isDundo c.l d) (hlt : e + x + s + d + c.g.spawnExp < P.limit) :
    (M P).step t c.g (c.l t) .tau = some ({ c.g with expanded := c.g.expanded + 1 }, .dspawn u, []) := by
  obtain ⟨e', x', s', d', he', hx', hs', hd', heq, _⟩ := (pinv_reach P c h).count.exp
  have h1 := he.unique he'; have h2 := hx.unique hx'; have h3 := hs.unique hs'; have h4 := hd.unique hd'
  subst h1 h2 h3 h4
  rw [hl]
  exact (Trans.dresSpawn (P := P) _ _ (by rw [heq]; omega)).step_eq t

/-- … and conversely the undo branch is taken only when the limit is exhausted by workers and reservations that exist -/
theorem undo_only_at_limit (c : Config (M P)) (h : Reach (M P) c) (t : Tid) (u : Nat) (hl : c.l t = .dres u)
    (g' : G) (obs : List Obs) (hstep : (M P).step t c.g (c.l t) .tau = some (g', .dundo u, obs)) :
    ∃ e x s d, Counts expPre c.l e ∧ Counts isEexit2 c.l x ∧ Counts isDspawn c.l s ∧ Counts isDundo c.l d ∧
      P.limit ≤ e + x + s + d + c.g.spawnExp := by
  obtain ⟨e, x, s, d, he, hx, hs, hd, heq, _⟩ := (pinv_reach P c h).count.exp
  refine ⟨e, x, s, d, he, hx, hs, hd, ?_⟩
  rw [hl] at hstep
  have ht : Trans P c.g (.dres u) .tau g' (.dundo u) := step_trans (t := t) hstep
  cases ht
  rename_i hle
  rw [heq] at hle; omega

/-- the spawn step registers the goroutine with the wait group; the goroutine can start; with a task in the queue its
first `select` takes that task and runs it -/
theorem spawn_then_take (g : G) (t t' : Tid) (u v : Nat) (rest : List Nat) :
    step P t g (.dspawn u) .tau = some ({ g with wg := g.wg + 1, spawnExp := g.spawnExp + 1 }, .push u, []) ∧
    (0 < g.spawnExp → step P t' g .idle .beExp =
      some ({ g with spawnExp := g.spawnExp - 1 }, .e0 (g.now + P.lifetime), [])) ∧
    (g.q = v :: rest → ∀ dl, step P t' g (.e0 dl) (.choose 0) = some (runTask g v rest, .eexec v, [.execStart v])) := by
  refine ⟨rfl, fun h => by simp [step, h], fun hq dl => by simp [step, hq]⟩

/-- the deadline of an expanded worker is always "a full `ExpandedLifetime` after it last became idle": it is set to
`now + lifetime` when the goroutine starts and again after each delivered result -/
theorem deadline_is_lifetime (g g' : G) (t : Tid) (l : L) (a : Act) (dl : Nat) (obs : List Obs)
    (hstep : step P t g l a = some (g', .e0 dl, obs)) : dl = g.now + P.lifetime ∧ g'.now = g.now := by
  cases step_trans hstep <;> exact ⟨rfl, rfl⟩

/-- an expanded worker cannot expire before its deadline -/
theorem no_early_expiry (g g' : G) (t : Tid) (dl : Nat) (l' : L) (obs : List Obs)
    (hstep : step P t g (.e0 dl) (.choose 1) = some (g', l', obs)) : dl ≤ g.now := by
  cases step_trans hstep
  assumption

/-- an expanded worker whose deadline has passed leaves in three enabled steps, gives its wait-group slot and its
reservation back -/
theorem idle_expiry (g : G) (t : Tid) (dl : Nat) (hdl : dl ≤ g.now) :
    step P t g (.e0 dl) (.choose 1) = some (g, .eexit, []) ∧
    step P t g .eexit .tau = some ({ g with wg := g.wg - 1 }, .eexit2, []) ∧
    step P t { g with wg := g.wg - 1 } .eexit2 .tau =
      some ({ g with wg := g.wg - 1, expanded := g.expanded - 1 }, .exited, []) := by
  refine ⟨by simp [step, hdl], rfl, rfl⟩

/-- when every expanded worker has left and no reservation is in flight the counter is 0 again: the full expansion
capacity is available (by `expands_below_limit`, the next `ExpandableLimit` saturated submitters all spawn) -/
theorem capacity_restored (c : Config (M P)) (h : Reach (M P) c)
    (hnone : ∀ t, expPre (c.l t) = false ∧ isEexit2 (c.l t) = false ∧ isDspawn (c.l t) = false ∧ isDundo (c.l t) = false)
    (hsp : c.g.spawnExp = 0) : c.g.expanded = 0 := by
  obtain ⟨e, x, s, d, he, hx, hs, hd, heq, _⟩ := (pinv_reach P c h).count.exp
  have := he.eq_zero (fun t => (hnone t).1)
  have := hx.eq_zero (fun t => (hnone t).2.1)
  have := hs.eq_zero (fun t => (hnone t).2.2.1)
  have := hd.eq_zero (fun t => (hnone t).2.2.2)
  subst_vars
  rw [heq, hsp]; rfl

/-- the counter never goes negative and never exceeds limit + (number of submitters about to undo) -/
theorem expanded_bounds (c : Config (M P)) (h : Reach (M P) c) :
    0 ≤ c.g.expanded ∧ ∃ d, Counts isDundo c.l d ∧ c.g.expanded ≤ ((P.limit + d : Nat) : Int) := by
  obtain ⟨e, x, s, d, _, _, _, hd, heq, hle⟩ := (pinv_reach P c h).count.exp
  refine ⟨by rw [heq]; omega, d, hd, by rw [heq]; omega⟩

/-- non-vacuity: 1 fixed + 1 expandable worker; two tasks saturate worker and queue, the third submitter expands, the
expanded worker runs the queued task: two tasks execute at once (the cap is reached) -/
def P11 : Params := { nworker := 1, limit := 1, lifetime := 5 }

theorem cap_reached_witness :
    let c := (run (M P11) (Config.init (M P11))
      [(0, .callStart), (0, .tau), (0, .tau), (0, .tau), (0, .tau),           -- Start
       (1, .beFixed),
       (2, .callDo .never), (2, .tau), (2, .tau), (2, .tau), (2, .tau),       -- task 0 queued
       (1, .tau),                                                             -- fixed worker runs task 0
       (2, .callDo .never), (2, .tau), (2, .tau), (2, .tau), (2, .tau),       -- task 1 queued
       (3, .callDo .never), (3, .tau), (3, .tau), (3, .tau),                  -- task 2: queue full -> reserve
       (3, .tau), (3, .tau),                                                  -- reservation ok -> spawn
       (4, .beExp), (4, .choose 0),                                           -- expanded worker runs task 1
       (3, .choose 2)]).1                                                     -- task 2 queued
    lOf P11 c 1 = .wexec 0 ∧ lOf P11 c 4 = .eexec 1 ∧ (gOf P11 c).q = [2] ∧ (gOf P11 c).expanded = 1 := by
  decide

end Garr.Props.Pool
