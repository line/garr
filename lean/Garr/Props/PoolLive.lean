import Garr.Pool.Fair
import Garr.Props.Pool
/-!
# Worker pool: liveness under weak fairness with an active environment (C04 "exactly one result arrives", C08/C12)

The progress theorems of `Garr/Props/PoolProgress.lean` speak about maximal runs of internal steps, which are finite.
Here clients may go on submitting for ever: an execution is an infinite sequence of steps and stutters (`Exec`), every
thread is weakly fair for its own internal actions `tau` / `choose k` (`Fair`), and the environment (E1) eventually
releases the gate of every task whose executor has started (`EnvReleases`) and (E2) eventually lets a pending
goroutine start (`EnvStarts`).  Definitions and stage lemmas: `Garr/Pool/Fair.lean`.
-/
namespace Garr.Props.PoolLive
open Garr.Conc Garr.Pool Garr.Pool.Progress Garr.Pool.Fair

variable {P : Params}

/-- A queued task is eventually taken out of the queue: if at position `n` task `u` is in the queue and a fixed worker
exists (a thread at `w0`/`wexec _`/`wsend _`) or is about to start (`spawnFixed > 0`), then at some `m ≥ n` task `u` has
left the queue and is with a worker, is being drained by `Stop`, or already has a result.  (`g.state = 1` is not
needed as a hypothesis; see `queued_task_eventually_taken_started` for the version that assumes only a started pool.) -/
theorem queued_task_eventually_taken (e : Exec P) (hfair : Fair e) (hE1 : EnvReleases e) (hE2 : EnvStarts e)
    (n u : Nat) (hq : u ∈ (e.c n).g.q)
    (hW : (∃ t, (e.c n).l t = .w0 ∨ (∃ v, (e.c n).l t = .wexec v) ∨ (∃ v, (e.c n).l t = .wsend v)) ∨
      0 < (e.c n).g.spawnFixed) :
    ∃ m, n ≤ m ∧ u ∉ (e.c m).g.q ∧
      ((∃ t, role ((e.c m).l t) = some (.run, u)) ∨ (∃ t, (e.c m).l t = .sp5s u) ∨
        ((e.c m).g.task u).results ≠ []) := by
  refine queued_taken e hfair hE1 hE2 n u hq ?_
  rcases hW with ⟨t, h | ⟨v, h⟩ | ⟨v, h⟩⟩ | h
  · exact Or.inl ⟨t, by rw [h]; rfl⟩
  · exact Or.inl ⟨t, by rw [h]; rfl⟩
  · exact Or.inl ⟨t, by rw [h]; rfl⟩
  · exact Or.inr h

/-- The same for a started pool: `state = 1` at position `n` and `NumberWorker > 0`.  (If the `Start` call is still
between its CAS and its `wg.Add` + spawn, fairness of that thread brings the workers into being.) -/
theorem queued_task_eventually_taken_started (e : Exec P) (hfair : Fair e) (hE1 : EnvReleases e) (hE2 : EnvStarts e)
    (hpos : 0 < P.nworker) (n u : Nat) (hs : (e.c n).g.state = 1) (hq : u ∈ (e.c n).g.q) :
    ∃ m, n ≤ m ∧ u ∉ (e.c m).g.q ∧
      ((∃ t, role ((e.c m).l t) = some (.run, u)) ∨ (∃ t, (e.c m).l t = .sp5s u) ∨
        ((e.c m).g.task u).results ≠ []) := by
  obtain ⟨m0, hm0, hW⟩ := started_has_fixed e hfair hpos n hs
  rcases e.queued_until u hm0 hq with hQ | ⟨k, hk1, _, hB⟩
  · obtain ⟨m, hm, hT⟩ := queued_taken e hfair hE1 hE2 m0 u hQ hW
    exact ⟨m, by omega, hT⟩
  · exact ⟨k, hk1, hB⟩

/-- A task that a worker holds gets its value: if at position `n` thread `t` runs `u` (it is at `wexec u`, `wsend u`,
`eexec u` or `esend u`), then under (E1) and weak fairness of `t` the result channel of `u` holds exactly the
executor's value at some `m ≥ n`. -/
theorem running_task_eventually_has_result (e : Exec P) (hE1 : EnvReleases e) (t : Tid) (hf : WeakFair e t)
    (n u : Nat) (hr : role ((e.c n).l t) = some (.run, u)) :
    ∃ m, n ≤ m ∧ ((e.c m).g.task u).results = [.val] := by
  obtain ⟨m, hm, hres, _⟩ := run_to_home e hE1 hf n u hr
  exact ⟨m, hm, hres⟩

/-- … and the worker is then back at the head of its loop, ready for the next task -/
theorem running_worker_eventually_free (e : Exec P) (hE1 : EnvReleases e) (t : Tid) (hf : WeakFair e t)
    (n u : Nat) (hr : role ((e.c n).l t) = some (.run, u)) :
    ∃ m, n ≤ m ∧ ((e.c m).g.task u).results = [.val] ∧ ((e.c m).l t = .w0 ∨ ∃ dl, (e.c m).l t = .e0 dl) := by
  obtain ⟨m, hm, hres, hhome, _⟩ := run_to_home e hE1 hf n u hr
  exact ⟨m, hm, hres, hhome⟩

/-- C04 liveness, "every task a running pool accepts … exactly one result arrives": if task `u` has been accepted
(`enq = true`) at position `n` of a fair execution of a started pool (`state = 1`, `NumberWorker > 0`), then at some
`m ≥ n` its result channel has received exactly one result.  With `result_shape` / `result_at_most_once` /
`exec_at_most_once` (`Garr/Props/Pool.lean`) no second result ever follows. -/
theorem accepted_task_eventually_has_result (e : Exec P) (hfair : Fair e) (hE1 : EnvReleases e) (hE2 : EnvStarts e)
    (hpos : 0 < P.nworker) (n u : Nat) (hs : (e.c n).g.state = 1) (he : ((e.c n).g.task u).enq = true) :
    ∃ m, n ≤ m ∧ ((e.c m).g.task u).results.length = 1 := by
  obtain ⟨m0, hm0, hW⟩ := started_has_fixed e hfair hpos n hs
  obtain ⟨m, hm, hres⟩ := accepted_result_of_fixed e hfair hE1 hE2 m0 u ((e.taskMono hm0).enq u he) hW
  exact ⟨m, by omega, hres⟩

/-- the same, for any pool state, as long as fixed workers exist or are about to start -/
theorem accepted_task_eventually_has_result_of_workers (e : Exec P) (hfair : Fair e) (hE1 : EnvReleases e)
    (hE2 : EnvStarts e) (n u : Nat) (he : ((e.c n).g.task u).enq = true)
    (hW : (∃ t, fixedLive ((e.c n).l t) = true) ∨ 0 < (e.c n).g.spawnFixed) :
    ∃ m, n ≤ m ∧ ((e.c m).g.task u).results.length = 1 :=
  accepted_result_of_fixed e hfair hE1 hE2 n u he hW

/-- the result stays: once a task has exactly one result it has exactly that result for ever -/
theorem result_stable (e : Exec P) (n m u : Nat) (hnm : n ≤ m) (h : ((e.c n).g.task u).results.length = 1) :
    ((e.c m).g.task u).results = ((e.c n).g.task u).results := by
  obtain ⟨r, hres⟩ := List.length_eq_one_iff.1 h
  have hmem := (e.taskMono hnm).results u r (by rw [hres]; exact List.mem_singleton_self r)
  have hle := Garr.Props.Pool.result_at_most_once _ (e.reach m) u
  -- the result is still there, and there is room for one only
  cases hres' : ((e.c m).g.task u).results with
  | nil => rw [hres'] at hmem; cases hmem
  | cons r' rs' =>
    rw [hres'] at hmem hle
    cases rs' with
    | nil => rw [hres, List.mem_singleton.1 hmem]
    | cons _ _ => simp at hle

/-- C08/C12 liveness, "`Stop` never hangs", with an active environment: a thread that is inside `Stop` at position
`n` (anywhere from its first CAS to the drain loop) is back at `idle` — the call has returned — at some `m ≥ n`,
provided every thread is weakly fair, (E1) started executors are eventually released and (E2) pending goroutines
eventually start.  The stages: the CASes, `cancel()`, `submitLock.Lock()` (the readers drain because the context was
cancelled first and the pending writer holds new readers back), `close`, `Unlock`, `wg.Wait()` (every worker finishes
its task, finds the queue closed and exits; no new worker is spawned once the queue is closed), the drain loop. -/
theorem stop_eventually_returns (e : Exec P) (hfair : Fair e) (hE1 : EnvReleases e) (hE2 : EnvStarts e) (t : Tid)
    (n : Nat)
    (hin : (e.c n).l t = .sp0 ∨ (e.c n).l t = .sp1 ∨ (e.c n).l t = .sp2 ∨ (e.c n).l t = .sp3a ∨
      (e.c n).l t = .sp3b ∨ (e.c n).l t = .sp3c ∨ (e.c n).l t = .sp3d ∨ (e.c n).l t = .sp4 ∨
      (e.c n).l t = .sp5 ∨ ∃ u, (e.c n).l t = .sp5s u) :
    ∃ m, n ≤ m ∧ (e.c m).l t = .idle := by
  refine stop_returns_fair e hfair hE1 hE2 t n ?_
  rcases hin with h | h | h | h | h | h | h | h | h | ⟨u, h⟩ <;> rw [h] <;> rfl

/-- the two waits inside `Stop`, separately: the write lock is obtained … -/
theorem stop_lock_eventually_acquired (e : Exec P) (hfair : Fair e) (t : Tid) (n : Nat)
    (hl : (e.c n).l t = .sp3b) : ∃ m, n ≤ m ∧ (e.c m).l t = .sp3c :=
  sp3b_to_sp3c e hfair t n hl

/-- … and `wg.Wait()` returns -/
theorem stop_wait_eventually_passes (e : Exec P) (hfair : Fair e) (hE1 : EnvReleases e) (hE2 : EnvStarts e) (t : Tid)
    (n : Nat) (hl : (e.c n).l t = .sp4) : ∃ m, n ≤ m ∧ (e.c m).l t = .sp5 :=
  sp4_to_sp5 e hfair hE1 hE2 t n hl

/-! ## Non-vacuity: a concrete infinite fair execution -/

open Garr.Props.Pool (P10 lOf gOf)

/-- `Start` (one fixed worker), the worker goroutine starts, `Do(task 0)` is accepted into the queue and returns; the
worker takes the task, the harness releases its gate, the worker delivers the value and waits for the next task.
After these 15 events the execution stutters for ever (nothing is enabled but new calls). -/
def liveTrace : List (Tid × Act) :=
  [ (0, .callStart), (0, .tau), (0, .tau), (0, .tau), (0, .tau),              -- Start: RLock, CAS 0→1, wg.Add + spawn, RUnlock
    (1, .beFixed),                                                             -- the fixed worker starts running
    (2, .callDo .never), (2, .tau), (2, .tau), (2, .choose 2), (2, .tau),      -- Do(task 0): queued, returns
    (1, .tau),                                                                 -- the worker takes task 0
    (3, .finish 0),                                                            -- the harness opens the gate
    (1, .tau), (1, .tau) ]                                                     -- executor returns; value delivered

def liveExec : Exec P10 := Exec.ofSchedule P10 liveTrace

/-- The hypotheses of the liveness theorems are satisfiable together: `liveExec` is an infinite execution of the pool
with one fixed worker that is weakly fair for every thread and satisfies (E1) and (E2); at position 11 the pool is
started (`state = 1`), thread 1 is a fixed worker at the head of its loop, and the accepted task 0 sits in the queue
(the premises of `queued_task_eventually_taken` and `accepted_task_eventually_has_result`); at position 12 thread 1
runs task 0 (the premise of `running_task_eventually_has_result`); from position 15 on task 0 has exactly the value. -/
theorem live_witness :
    Fair liveExec ∧ EnvReleases liveExec ∧ EnvStarts liveExec ∧
    (gOf P10 (liveExec.c 11)).state = 1 ∧ lOf P10 (liveExec.c 11) 1 = .w0 ∧ 0 ∈ (gOf P10 (liveExec.c 11)).q ∧
    ((gOf P10 (liveExec.c 11)).task 0).enq = true ∧ ((gOf P10 (liveExec.c 11)).task 0).results = [] ∧
    role (lOf P10 (liveExec.c 12) 1) = some (.run, 0) ∧
    (∀ m, 15 ≤ m → ((gOf P10 (liveExec.c m)).task 0).results = [.val]) := by
  obtain ⟨hf, h1, h2⟩ := ofSchedule_env P10 liveTrace 4 (by decide) (by decide)
  exact ⟨hf, h1, h2, by decide, by decide, by decide, by decide, by decide, by decide,
    ofSchedule_final P10 liveTrace (fun c => ((gOf P10 c).task 0).results = [.val]) (by decide)⟩

/-- the same run followed by `Stop`: both CASes, `cancel()`, `Lock` (no readers), `close`, `Unlock`, `wg.Wait()` has to
wait for the fixed worker, which finds the queue closed and exits; then the (empty) drain loop; `Stop` returns -/
def stopTrace : List (Tid × Act) :=
  liveTrace ++
  [ (0, .callStop), (0, .tau), (0, .tau), (0, .tau), (0, .tau), (0, .tau), (0, .tau), (0, .tau),   -- … up to wg.Wait()
    (0, .tau),                                                                                     -- (disabled, skipped: wg = 1)
    (1, .tau), (1, .tau),                                                                          -- the worker: wg.Done, exit
    (0, .tau), (0, .tau) ]                                                                         -- wg.Wait() returns; drain; return

def stopExec : Exec P10 := Exec.ofSchedule P10 stopTrace

/-- The hypotheses of `stop_eventually_returns` are satisfiable: `stopExec` is fair for every thread and satisfies (E1),
(E2); at position 16 thread 0 is inside `Stop` (at its first CAS), at position 23 it waits in `wg.Wait()` with `wg = 1`
(the step scheduled there is disabled and becomes a stutter), and from position 28 on it is back at `idle` with the
pool stopped, the queue closed and the worker gone. -/
theorem stop_witness :
    Fair stopExec ∧ EnvReleases stopExec ∧ EnvStarts stopExec ∧
    lOf P10 (stopExec.c 16) 0 = .sp0 ∧
    lOf P10 (stopExec.c 23) 0 = .sp4 ∧ (gOf P10 (stopExec.c 23)).wg = 1 ∧ stopExec.mover 23 = none ∧
    lOf P10 (stopExec.c 24) 0 = .sp4 ∧
    (∀ m, 28 ≤ m → lOf P10 (stopExec.c m) 0 = .idle ∧ lOf P10 (stopExec.c m) 1 = .exited ∧
      (gOf P10 (stopExec.c m)).state = 2 ∧ (gOf P10 (stopExec.c m)).closed = true ∧ (gOf P10 (stopExec.c m)).wg = 0) := by
  obtain ⟨hf, h1, h2⟩ := ofSchedule_env P10 stopTrace 4 (by decide) (by decide)
  exact ⟨hf, h1, h2, by decide, by decide, by decide, by decide, by decide,
    ofSchedule_final P10 stopTrace (fun c => lOf P10 c 0 = .idle ∧ lOf P10 c 1 = .exited ∧ (gOf P10 c).state = 2 ∧
      (gOf P10 c).closed = true ∧ (gOf P10 c).wg = 0) (by decide)⟩

end Garr.Props.PoolLive

#print axioms Garr.Props.PoolLive.queued_task_eventually_taken
#print axioms Garr.Props.PoolLive.queued_task_eventually_taken_started
#print axioms Garr.Props.PoolLive.running_task_eventually_has_result
#print axioms Garr.Props.PoolLive.running_worker_eventually_free
#print axioms Garr.Props.PoolLive.accepted_task_eventually_has_result
#print axioms Garr.Props.PoolLive.accepted_task_eventually_has_result_of_workers
#print axioms Garr.Props.PoolLive.result_stable
#print axioms Garr.Props.PoolLive.stop_eventually_returns
#print axioms Garr.Props.PoolLive.stop_lock_eventually_acquired
#print axioms Garr.Props.PoolLive.stop_wait_eventually_passes
#print axioms Garr.Props.PoolLive.live_witness
#print axioms Garr.Props.PoolLive.stop_witness
