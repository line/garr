import Garr.Pool.Fair
import Garr.Props.Pool
/-!
# Worker pool: expanded workers leave after their idle lifetime, and the capacity comes back (C11, liveness half)

`Garr/Props/PoolExpand.lean` has the enabledness facts (`idle_expiry`: the timer case of an idle expanded worker is
ready once `ExpandedLifetime` has passed; `capacity_restored`: its exit gives the reservation back).  Here the same is
shown along infinite executions under weak fairness of the worker thread alone: once the idle timer of an expanded
worker has expired, the worker eventually leaves its `select` – through the timer (or the closed queue) to `eexit`, or,
because Go's `select` may pick any ready case, with a task to `eexec u`; a worker at `eexit`/`eexit2` eventually is
`exited`; the two exit steps do `wg.Done()` and `expanded -= 1`, exactly once each.  No assumption on the
environment or on other threads is needed: virtual time never runs backwards (`Exec.now_mono`), so an expired timer
stays expired.
-/
namespace Garr.Props.PoolLiveExpiry
open Garr.Conc Garr.Pool Garr.Pool.Progress Garr.Pool.Fair

variable {P : Params}

/-! ## Virtual time is monotone -/

theorem Exec.now_mono (e : Exec P) {n m : Nat} (hnm : n ≤ m) : (e.c n).g.now ≤ (e.c m).g.now :=
  (e.mono hnm).now

/-! ## 1. An expanded worker whose idle timer has expired leaves its `select` -/

/-- If at position `n` thread `t` is an idle expanded worker (`e0 dl`) whose timer has expired (`dl ≤ now`), then under
weak fairness of `t` alone it eventually leaves that `select`: at some `m ≥ n` it is at `eexit` (it leaves the pool) or
at `eexec u` (it took task `u` instead – Go's `select` may pick either ready case). -/
theorem expired_worker_eventually_leaves_or_works (e : Exec P) {t : Tid} (hf : WeakFair e t) (n dl : Nat)
    (hl : (e.c n).l t = .e0 dl) (hdl : dl ≤ (e.c n).g.now) :
    ∃ m, n ≤ m ∧ ((e.c m).l t = .eexit ∨ ∃ u, (e.c m).l t = .eexec u) :=
  measure_leads e hf (fun m => (e.c m).l t = .e0 dl ∧ dl ≤ (e.c m).g.now) _ (fun _ => 0)
    (fun m ⟨hA, hq⟩ => Or.inl (enabled_of_trans hA (Trans.e0timer _ dl hq) rfl))
    (fun m ⟨hA, hq⟩ hsame =>
      Or.inl ⟨⟨by rw [hsame]; exact hA, Nat.le_trans hq (Exec.now_mono e (Nat.le_succ m))⟩, Nat.le_refl _⟩)
    (fun m a g' l' ⟨hA, _⟩ htr _ hl' => by
      rw [hl']
      rw [hA] at htr
      cases htr with
      | e0take => exact Or.inl (Or.inr ⟨_, rfl⟩)
      | e0closed | e0timer => exact Or.inl (Or.inl rfl)) n ⟨hl, hdl⟩

/-! ## 2. A worker on its way out is eventually gone, and its last step gives the reservation back -/

/-- A worker at `eexit`/`eexit2` eventually performs the step that gives the reservation back – there is a position
`m ≥ n` at which `t` is at `eexit2`, at `m + 1` it is `exited`, and across that very step the counter goes down by
exactly one. -/
theorem exiting_worker_eventually_gives_capacity_back (e : Exec P) {t : Tid} (hf : WeakFair e t) (n : Nat)
    (hl : (e.c n).l t = .eexit ∨ (e.c n).l t = .eexit2) :
    ∃ m, n ≤ m ∧ (e.c m).l t = .eexit2 ∧ (e.c (m + 1)).l t = .exited ∧
      (e.c (m + 1)).g.expanded = (e.c m).g.expanded - 1 := by
  obtain ⟨m1, hm1, h1⟩ : ∃ m1, n ≤ m1 ∧ (e.c m1).l t = .eexit2 := hl.elim
    (fun h => pc_leads e hf n .eexit _ h (fun m _ hA => enabled_of_trans hA (Trans.eexit _) rfl)
      (fun m a g' l' _ _ htr _ hl' => by cases htr; exact hl')) (fun h => ⟨n, Nat.le_refl _, h⟩)
  -- the goal of `pc_leads` records the position `k` of the last step
  obtain ⟨_, _, k, rfl, hk, h⟩ := pc_leads e hf m1 .eexit2
    (fun i => ∃ k, k + 1 = i ∧ m1 ≤ k ∧ (e.c k).l t = .eexit2 ∧ (e.c (k + 1)).l t = .exited ∧
      (e.c (k + 1)).g.expanded = (e.c k).g.expanded - 1) h1
    (fun m _ hA => enabled_of_trans hA (Trans.eexit2 _) rfl)
    (fun m a g' l' hm hA htr hg hl' => by cases htr; exact ⟨m, rfl, hm, hA, hl', by rw [hg]⟩)
  exact ⟨k, Nat.le_trans hm1 hk, h⟩

/-- If at position `n` thread `t` is an expanded worker on its way out (`eexit`: before `wg.Done()`, or `eexit2`: before
`expanded -= 1`), then under weak fairness of `t` alone it is `exited` at some `m ≥ n` (both steps are always enabled). -/
theorem exiting_worker_eventually_gone (e : Exec P) {t : Tid} (hf : WeakFair e t) (n : Nat)
    (hl : (e.c n).l t = .eexit ∨ (e.c n).l t = .eexit2) :
    ∃ m, n ≤ m ∧ (e.c m).l t = .exited := by
  obtain ⟨m, hm, _, h, _⟩ := exiting_worker_eventually_gives_capacity_back e hf n hl
  exact ⟨m + 1, by omega, h⟩

/-! ## 3. The two exit steps on their own: `wg.Done()`, then `expanded -= 1` – the capacity comes back, exactly one unit -/

/-- the first exit step is `wg.Done()`: it leaves the expansion counter alone -/
theorem exit_step_wg (t : Tid) (g g' : G) (l' : L) (obs : List Obs)
    (h : (M P).step t g L.eexit Act.tau = some (g', l', obs)) :
    g'.wg = g.wg - 1 ∧ g'.expanded = g.expanded ∧ l' = .eexit2 := by
  have htr : Trans P g .eexit .tau g' l' := step_trans (t := t) h
  cases htr
  exact ⟨rfl, rfl, rfl⟩

/-- the second exit step gives the reservation back: `expanded` goes down by exactly one and the worker is gone -/
theorem expiry_gives_capacity_back (t : Tid) (g g' : G) (l' : L) (obs : List Obs)
    (h : (M P).step t g L.eexit2 Act.tau = some (g', l', obs)) :
    g'.expanded = g.expanded - 1 ∧ l' = .exited := by
  have htr : Trans P g .eexit2 .tau g' l' := step_trans (t := t) h
  cases htr
  exact ⟨rfl, rfl⟩

/-- both steps are always enabled -/
theorem exit_steps_enabled (t : Tid) (g : G) :
    (∃ r, (M P).step t g L.eexit Act.tau = some r) ∧ (∃ r, (M P).step t g L.eexit2 Act.tau = some r) :=
  ⟨⟨_, rfl⟩, ⟨_, rfl⟩⟩

/-- Combined: an idle expanded worker whose timer has expired is, under weak fairness of its own thread alone, eventually
gone (`exited`: `wg.Done()` and `expanded -= 1` have both happened) or busy with a task it took instead (`eexec u`). -/
theorem idle_expired_worker_eventually_gone_or_busy (e : Exec P) {t : Tid} (hf : WeakFair e t) (n dl : Nat)
    (hl : (e.c n).l t = .e0 dl) (hdl : dl ≤ (e.c n).g.now) :
    ∃ m, n ≤ m ∧ ((e.c m).l t = .exited ∨ ∃ u, (e.c m).l t = .eexec u) := by
  obtain ⟨m1, hm1, h | h⟩ := expired_worker_eventually_leaves_or_works e hf n dl hl hdl
  · obtain ⟨m, hm, h2⟩ := exiting_worker_eventually_gone e hf m1 (Or.inl h)
    exact ⟨m, by omega, Or.inl h2⟩
  · exact ⟨m1, hm1, Or.inr h⟩

/-! ## 4. Non-vacuity: a concrete infinite fair execution in which an expanded worker expires -/

open Garr.Props.Pool (lOf gOf)

def PE : Params := { nworker := 1, limit := 1, lifetime := 3 }

/-- `Start`; the fixed worker runs task 0; task 1 is queued; `Do(task 2)` finds the queue full, reserves (1 ≤ 1), spawns
the expanded worker (thread 4), which takes task 1; task 2 goes into the queue.  Task 1 is released, the expanded
worker delivers its value and is idle with deadline `0 + 3`.  The fixed worker finishes tasks 0 and 2.  Time advances
by 3: the timer has expired.  The worker takes the timer case, does `wg.Done()`, `expanded -= 1`, and is gone.  After
these 41 events the execution stutters for ever. -/
def expireTrace : List (Tid × Act) :=
  [ (0, .callStart), (0, .tau), (0, .tau), (0, .tau), (0, .tau),            -- 0–4   Start
    (1, .beFixed),                                                          -- 5     the fixed worker starts
    (2, .callDo .never), (2, .tau), (2, .tau), (2, .tau), (2, .tau),        -- 6–10  task 0 queued
    (1, .tau),                                                              -- 11    the fixed worker runs task 0
    (2, .callDo .never), (2, .tau), (2, .tau), (2, .tau), (2, .tau),        -- 12–16 task 1 queued
    (3, .callDo .never), (3, .tau), (3, .tau), (3, .tau),                   -- 17–20 task 2: queue full → reserve
    (3, .tau), (3, .tau),                                                   -- 21–22 1 ≤ 1 → spawn, on to push
    (4, .beExp),                                                            -- 23    the expanded worker starts
    (4, .choose 0),                                                         -- 24    … and takes task 1
    (3, .choose 2), (3, .tau),                                              -- 25–26 task 2 queued, Do returns
    (5, .finish 1), (4, .tau), (4, .tau),                                   -- 27–29 task 1 done: idle, deadline 3
    (5, .finish 0), (1, .tau), (1, .tau),                                   -- 30–32 task 0 done
    (1, .tau), (5, .finish 2), (1, .tau), (1, .tau),                        -- 33–36 the fixed worker runs task 2: done
    (5, .advance 3),                                                        -- 37    ExpandedLifetime passes
    (4, .choose 1), (4, .tau), (4, .tau) ]                                  -- 38–40 timer: wg.Done, expanded -= 1, gone

def expireExec : Exec PE := Exec.ofSchedule PE expireTrace

/-- The hypotheses of the theorems above are satisfiable together, and the conclusion is reached through the timer:
`expireExec` is an infinite execution of a pool with one fixed worker and `ExpandableLimit = 1` that is weakly fair for
every thread and satisfies (E1), (E2).  At position 25 the cap is reached (`expanded = 1`, thread 4 runs task 1 as an
expanded worker while the fixed worker runs task 0); at position 30 thread 4 is idle with deadline `3 > now = 0`; at
position 38 it is still idle and the deadline has passed (`3 ≤ now = 3`: the premise of
`expired_worker_eventually_leaves_or_works`); at 39 it is at `eexit`, at 40 at `eexit2` with `expanded` still `1`; from
position 41 on it is `exited`, `expanded = 0`, `wg = 1` (the fixed worker), and every task has its value. -/
theorem expiry_witness :
    Fair expireExec ∧ EnvReleases expireExec ∧ EnvStarts expireExec ∧
    (gOf PE (expireExec.c 25)).expanded = 1 ∧ lOf PE (expireExec.c 25) 4 = .eexec 1 ∧
    lOf PE (expireExec.c 25) 1 = .wexec 0 ∧
    lOf PE (expireExec.c 30) 4 = .e0 3 ∧ (gOf PE (expireExec.c 30)).now = 0 ∧
    lOf PE (expireExec.c 38) 4 = .e0 3 ∧ (gOf PE (expireExec.c 38)).now = 3 ∧
    lOf PE (expireExec.c 39) 4 = .eexit ∧ lOf PE (expireExec.c 40) 4 = .eexit2 ∧
    (gOf PE (expireExec.c 40)).expanded = 1 ∧
    (∀ m, 41 ≤ m → lOf PE (expireExec.c m) 4 = .exited ∧ (gOf PE (expireExec.c m)).expanded = 0 ∧
      (gOf PE (expireExec.c m)).wg = 1 ∧ (gOf PE (expireExec.c m)).q = [] ∧
      ∀ u, u < 3 → ((gOf PE (expireExec.c m)).task u).results = [.val]) := by
  obtain ⟨hf, h1, h2⟩ := ofSchedule_env PE expireTrace 6 (by decide) (by decide)
  exact ⟨hf, h1, h2, by decide, by decide, by decide, by decide, by decide, by decide, by decide, by decide, by decide,
    by decide, ofSchedule_final PE expireTrace (fun c => lOf PE c 4 = .exited ∧ (gOf PE c).expanded = 0 ∧
      (gOf PE c).wg = 1 ∧ (gOf PE c).q = [] ∧ ∀ u, u < 3 → ((gOf PE c).task u).results = [.val]) (by decide)⟩

/-- the liveness theorem applied to the witness (its premises hold at position 38) -/
theorem expiry_witness_applies :
    ∃ m, 38 ≤ m ∧ ((expireExec.c m).l 4 = .exited ∨ ∃ u, (expireExec.c m).l 4 = .eexec u) := by
  obtain ⟨hf, _, _, _, _, _, _, _, hl, hnow, _⟩ := expiry_witness
  exact idle_expired_worker_eventually_gone_or_busy expireExec (hf 4) 38 3 hl (Nat.le_of_eq hnow.symm)

end Garr.Props.PoolLiveExpiry

#print axioms Garr.Props.PoolLiveExpiry.Exec.now_mono
#print axioms Garr.Props.PoolLiveExpiry.expired_worker_eventually_leaves_or_works
#print axioms Garr.Props.PoolLiveExpiry.exiting_worker_eventually_gone
#print axioms Garr.Props.PoolLiveExpiry.exit_step_wg
#print axioms Garr.Props.PoolLiveExpiry.expiry_gives_capacity_back
#print axioms Garr.Props.PoolLiveExpiry.exit_steps_enabled
#print axioms Garr.Props.PoolLiveExpiry.exiting_worker_eventually_gives_capacity_back
#print axioms Garr.Props.PoolLiveExpiry.idle_expired_worker_eventually_gone_or_busy
#print axioms Garr.Props.PoolLiveExpiry.expiry_witness
#print axioms Garr.Props.PoolLiveExpiry.expiry_witness_applies
