import Garr.Pool.FairSubmit
import Garr.Props.PoolLive
/-!
# Worker pool: once the shutting-down `Stop` runs, every enqueued task is released (C12 / C08, liveness)

C12 "a task submitted before a deferred Start is handled safely: the task is either executed normally or receives
exactly one result carrying the pool context's error, so a caller waiting on its result channel is always released";
C08 "when Stop returns every accepted task's result is available".  `accepted_task_eventually_has_result` needs a
started pool (`state = 1`); here the pool may be in ANY state (started or never started): as soon as some thread is
inside the `Stop` call that performs the shutdown (it has won its CAS), every task that is enqueued now has exactly one
result at some later position, under fairness of all threads, (E1) and (E2).
-/
namespace Garr.Props.PoolLiveStop
open Garr.Conc Garr.Pool Garr.Pool.Progress Garr.Pool.Fair Garr.Props.Pool Garr.Props.PoolLive

variable {P : Params}

/-- the position right after the shutting-down `Stop` has returned: if thread `t` is the `Stop` caller that won the
state CAS at position `n`, then at some `m ≥ n` that `Stop` has returned in the sense of `stopReturned` (the pool is
stopped and no thread is inside the winner's part of `Stop`) -/
theorem winner_stop_eventually_returned (e : Exec P) (hfair : Fair e) (hE1 : EnvReleases e) (hE2 : EnvStarts e)
    (t : Tid) (n : Nat) (ht : stopper ((e.c n).l t) = true) :
    ∃ m, n ≤ m ∧ stopReturned (e.c m) :=
  stopper_gone e hfair hE1 hE2 n t ht

/-- C12/C08 liveness, in ANY pool state (started or never started): if at position `n` task `u` is enqueued and some
thread `t` is inside the `Stop` call that performs the shutdown (it has won its CAS: its pc is one of `sp2`, `sp3a`,
`sp3b`, `sp3c`, `sp3d`, `sp4`, `sp5`, `sp5s _`), then under fairness of all threads, (E1) and (E2) task `u` has exactly
one result at some `m ≥ n` — a caller waiting on its result channel is released.  (By `result_stable` the result then
stays for ever; by `result_shape`/`executed_iff` it is the value iff the task was executed.) -/
theorem enqueued_task_released_once_stop_runs (e : Exec P) (hfair : Fair e) (hE1 : EnvReleases e) (hE2 : EnvStarts e)
    (t : Tid) (n u : Nat) (he : ((e.c n).g.task u).enq = true)
    (hin : (e.c n).l t = .sp2 ∨ (e.c n).l t = .sp3a ∨ (e.c n).l t = .sp3b ∨ (e.c n).l t = .sp3c ∨
      (e.c n).l t = .sp3d ∨ (e.c n).l t = .sp4 ∨ (e.c n).l t = .sp5 ∨ ∃ v, (e.c n).l t = .sp5s v) :
    ∃ m, n ≤ m ∧ ((e.c m).g.task u).results.length = 1 := by
  have ht : stopper ((e.c n).l t) = true := by
    rcases hin with h | h | h | h | h | h | h | ⟨v, h⟩ <;> rw [h] <;> rfl
  obtain ⟨m, hnm, hret⟩ := winner_stop_eventually_returned e hfair hE1 hE2 t n ht
  exact ⟨m, hnm, (stop_drains (e.c m) (e.reach m) hret).1 u ((e.taskMono hnm).enq u he)⟩

/-- the same, for ever: from some position on task `u` has one and the same single result -/
theorem enqueued_task_released_for_ever (e : Exec P) (hfair : Fair e) (hE1 : EnvReleases e) (hE2 : EnvStarts e)
    (t : Tid) (n u : Nat) (he : ((e.c n).g.task u).enq = true) (ht : stopper ((e.c n).l t) = true) :
    ∃ m r, n ≤ m ∧ ∀ m', m ≤ m' → ((e.c m').g.task u).results = [r] := by
  obtain ⟨m, hnm, hret⟩ := winner_stop_eventually_returned e hfair hE1 hE2 t n ht
  have h1 := (stop_drains (e.c m) (e.reach m) hret).1 u ((e.taskMono hnm).enq u he)
  obtain ⟨r, hres⟩ := List.length_eq_one_iff.1 h1
  exact ⟨m, r, hnm, fun m' hm' => by rw [result_stable e m m' u hm' h1, hres]⟩

/-! ## Non-vacuity: a never-started pool (`DisableAutoStart`, `Start` is never called) -/

/-- `Do(task 0)` on a pool that was never started: `RLock`, the state is not "stopped", the task goes into the
queue buffer, `RUnlock`, `Do` returns; nobody will ever run it.  Then `Stop`: the CAS 0→2 wins, `cancel()`, `Lock`
(two steps), `close`, `Unlock`, `wg.Wait()` (the wait group is at zero), the drain loop takes task 0 out of the queue
and answers it with the pool context's error, the queue is empty, `Stop` returns.  (The last entry lets the
environment release the gate of task 0, which (E1) as stated by `ofSchedule_releases` asks of every task.) -/
def coldTrace : List (Tid × Act) :=
  [ (0, .callDo .pool), (0, .tau), (0, .tau), (0, .choose 2), (0, .tau),
    (1, .callStop), (1, .tau), (1, .tau), (1, .tau), (1, .tau), (1, .tau), (1, .tau), (1, .tau),
    (1, .tau), (1, .tau), (1, .tau),
    (2, .finish 0) ]                    -- the environment opens the gate of task 0 (nobody is waiting at it)

def coldExec : Exec P10 := Exec.ofSchedule P10 coldTrace

/-- The hypotheses of `enqueued_task_released_once_stop_runs` are satisfiable on a pool that is never started:
`coldExec` is fair for every thread and satisfies (E1), (E2); the pool state is never 1; at position 5 `Do(task 0)` has
returned with task 0 enqueued and without a result; at position 7 thread 1 has won the CAS 0→2 of `Stop` (pc `sp2`)
and task 0 is still in the queue; from position 17 on `Stop` has returned, task 0 has exactly the result `errPool` and
was never executed. -/
theorem cold_witness :
    Fair coldExec ∧ EnvReleases coldExec ∧ EnvStarts coldExec ∧
    (∀ m, (gOf P10 (coldExec.c m)).state ≠ 1) ∧
    lOf P10 (coldExec.c 5) 0 = .idle ∧ ((gOf P10 (coldExec.c 5)).task 0).enq = true ∧
    ((gOf P10 (coldExec.c 5)).task 0).results = [] ∧
    lOf P10 (coldExec.c 7) 1 = .sp2 ∧ ((gOf P10 (coldExec.c 7)).task 0).enq = true ∧
    0 ∈ (gOf P10 (coldExec.c 7)).q ∧
    (∀ m, 17 ≤ m → lOf P10 (coldExec.c m) 1 = .idle ∧ ((gOf P10 (coldExec.c m)).task 0).results = [.errPool] ∧
      ((gOf P10 (coldExec.c m)).task 0).exec = 0) := by
  obtain ⟨hf, h1, h2⟩ := ofSchedule_env P10 coldTrace 4 (by decide) (by decide)
  refine ⟨hf, h1, h2, fun m => ?_, by decide, by decide, by decide, by decide, by decide, by decide,
    ofSchedule_final P10 coldTrace (fun c => lOf P10 c 1 = .idle ∧ ((gOf P10 c).task 0).results = [.errPool] ∧
      ((gOf P10 c).task 0).exec = 0) (by decide)⟩
  -- the state word only goes up: it is 0 up to position 6 and 2 from position 7 on
  have h6 : (coldExec.c 6).g.state = 0 := by decide
  have h7 : (coldExec.c 7).g.state = 2 := by decide
  show (coldExec.c m).g.state ≠ 1
  rcases Nat.lt_or_ge m 7 with h | h
  · have := (coldExec.mono (show m ≤ 6 by omega)).state; omega
  · have := (coldExec.mono h).state; omega

end Garr.Props.PoolLiveStop

#print axioms Garr.Props.PoolLiveStop.winner_stop_eventually_returned
#print axioms Garr.Props.PoolLiveStop.enqueued_task_released_once_stop_runs
#print axioms Garr.Props.PoolLiveStop.enqueued_task_released_for_ever
#print axioms Garr.Props.PoolLiveStop.cold_witness
