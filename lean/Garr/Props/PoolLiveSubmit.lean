import Garr.Pool.FairSubmit
import Garr.Pool.Starve
import Garr.Props.PoolLive
/-!
# Worker pool: liveness of the submitting calls under weak fairness (C12 "the call never hangs", C17)

C17: "`TryDo` never blocks; `Do` blocks until a worker can take the task …; a blocked submission is released as soon as
the task's own or the pool's context is cancelled."

Setting as in `Garr/Props/PoolLive.lean`: infinite executions `Exec P`, weak fairness of every thread for its own
internal actions (`Fair`), (E1) `EnvReleases`, (E2) `EnvStarts`.  Lemmas: `Garr/Pool/FairSubmit.lean`.

`inTry u l`, `inDoCall u l`, `inStart l` : the thread is at one of the program counters of `TryDo(u)` (`t1 t2 t3 tsel t9`),
of `Do(u)` (`d1 d2 d3 dsel dres dspawn dundo push d9`; unlike `Progress.inDo` this includes the final `RUnlock` at `d9`),
of `Start` (`st0 st0c st1 st2`).

**Finding (`do_eventually_returns_started_partial`, `do_eventually_returns_started_fails`, `starvation_prefix`).**  "`Do` on a started pool eventually returns"
is *not* a consequence of weak fairness, (E1) and (E2): a submitter blocked in `select { case p.taskQueue <- t: … }`
(program counter `push u`) is enabled only while the one-slot queue is empty; each time a worker empties the slot
another submitter can refill it before the blocked one moves, so the blocked submitter's send is enabled only
intermittently – weak fairness never obliges it to move – while every other thread moves infinitely often.  Go makes no
FIFO promise for goroutines blocked on the same channel inside `select`, so this is a property of the real code as well:
under sustained competing submissions an individual `Do` may be overtaken indefinitely (it is released by cancellation,
see `do_eventually_returns_cancelled`).  What is proved is the return of `Do` when the competition is finite, and –
kernel-checked, `do_started_may_starve` – that the unrestricted statement is false in the model.
-/
namespace Garr.Props.PoolLiveSubmit
open Garr.Conc Garr.Pool Garr.Pool.Progress Garr.Pool.Fair

variable {P : Params}

/-- C17 "`TryDo` never blocks": if at position `n` thread `t` is inside `TryDo(u)` (at `t1`, `t2`, `t3`, `tsel` or `t9`),
then it is back at `idle` – the call has returned – at some `m ≥ n`.  The only assumption is weak fairness of `t`
itself: nothing is assumed about the pool's state, the other threads or the environment.  (Every program counter of
`TryDo` has an enabled step in every reachable configuration: `TryRLock` fails instead of waiting, the `select` has a
`default`, and the result channel of a task that is still with its submitter is empty.) -/
theorem trydo_eventually_returns (e : Exec P) (t : Tid) (hf : WeakFair e t) (n u : Nat)
    (hin : inTry u ((e.c n).l t) = true) : ∃ m, n ≤ m ∧ (e.c m).l t = .idle :=
  try_returns e hf n u hin

/-- C17 "a blocked submission is released as soon as the task's own or the pool's context is cancelled" / C12: if at
position `n` thread `t` is inside `Do(u)` and the pool's context is done or the context of task `u` is done (both are
stable), then `t` is back at `idle` at some `m ≥ n`, under weak fairness of all threads, (E1) and (E2).
Stages: `RLock` (`d1`) waits only while the `Stop` caller holds or awaits the write lock; that caller returns
(`stop_eventually_returns`) and no later `Stop` wins a CAS, so from some position on the lock is free (`rlock_free`);
the straight-line code up to the send; in the `select` the `ctx.Done()` case that matches the cancellation is enabled and
stays enabled (the other cases may fire instead – all lead to `RUnlock`); the error send on the result channel is
enabled because a task still with its submitter has no result yet. -/
theorem do_eventually_returns_cancelled (e : Exec P) (hfair : Fair e) (hE1 : EnvReleases e) (hE2 : EnvStarts e) (t : Tid)
    (n u : Nat) (hin : inDoCall u ((e.c n).l t) = true)
    (hc : (e.c n).g.ctxDone = true ∨ taskCtxDone (e.c n).g u = true) : ∃ m, n ≤ m ∧ (e.c m).l t = .idle :=
  do_returns_cancelled e hfair hE1 hE2 t n u hin hc

/-- the blocked send itself: a thread at `push u` whose pool or task context is done leaves the `select`; only its own
weak fairness is needed -/
theorem blocked_send_released_by_cancel (e : Exec P) (t : Tid) (hf : WeakFair e t) (n u : Nat)
    (hl : (e.c n).l t = .push u) (hc : (e.c n).g.ctxDone = true ∨ taskCtxDone (e.c n).g u = true) :
    ∃ m, n ≤ m ∧ (e.c m).l t = .d9 u :=
  push_cancelled e hf n u hl hc

/-- C17 "`Do` blocks until a worker can take the task" / C12, **partial**: if at position `n` thread `t` is inside
`Do(u)`, the pool is started (`state = 1`) and `NumberWorker > 0`, then `t` is back at `idle` at some `m ≥ n`, under weak
fairness of all threads, (E1), (E2) **and the extra hypothesis `hsolo`**: from some position `N` on no *other* thread is
at a program counter from which it can send on the task queue (`dsel _`, `push _` in `Do`, `tsel _` in `TryDo`) – the
competing submissions are finite.

Why the hypothesis: while `t` waits at `push u` with the slot occupied, `queued_task_eventually_taken` empties the slot
and `t`'s send becomes enabled – but another submitter may refill the slot first, so the send is not *continuously*
enabled and weak fairness does not give `t` the step.  Starvation schedule (`starvation_prefix` below checks two rounds
of it in the kernel; `do_started_may_starve` is the infinite execution): victim at `push u`, queue `[v]`, worker at `w0`;
round: a competitor calls `Do(w)` and reaches `push w`; the worker takes `v` (slot free: victim and competitor both
enabled); the competitor's send fires (`q = [w]`, the victim is disabled again); the competitor returns; the gate of `v`
is released, the worker delivers the value and is back at `w0`.  The round can be repeated for ever: every thread but
the victim moves in every round, the victim is disabled in every round, (E1)/(E2) hold, `state = 1` throughout.
The hypothesis is violated by reachable configurations (two concurrent `Do` calls); it is not an artefact of the proof.
Without it the statement needs strong fairness of the victim's send (or a FIFO hand-over in the channel), which Go's
`select` does not promise.

The proof (`push_solo`): if the pool or task context ever becomes done, `do_eventually_returns_cancelled` applies; if
`Stop` wins its CAS, the pool context becomes done; otherwise the pool stays in state 1, fixed workers exist
(`started_has_fixed`), the queued task is taken (`queued_taken`), nobody refills the slot, and `t`'s send is enabled for
ever after.  (`do_returns_solo` proves the same from `state ≠ 0`.) -/
theorem do_eventually_returns_started_partial (e : Exec P) (hfair : Fair e) (hE1 : EnvReleases e) (hE2 : EnvStarts e)
    (hpos : 0 < P.nworker) (t : Tid) (n u : Nat) (hin : inDoCall u ((e.c n).l t) = true) (hs : (e.c n).g.state = 1)
    (N : Nat)
    (hsolo : ∀ m t', N ≤ m → t' ≠ t →
      (∀ v, (e.c m).l t' ≠ .dsel v) ∧ (∀ v, (e.c m).l t' ≠ .push v) ∧ (∀ v, (e.c m).l t' ≠ .tsel v)) :
    ∃ m, n ≤ m ∧ (e.c m).l t = .idle := by
  refine do_returns_solo e hfair hE1 hE2 hpos t n u N hin (by omega) (fun m t' hm hne => ?_)
  obtain ⟨h1, h2, h3⟩ := hsolo m t' hm hne
  generalize hl : (e.c m).l t' = l0
  cases l0 with
  | dsel v => exact absurd hl (h1 v)
  | push v => exact absurd hl (h2 v)
  | tsel v => exact absurd hl (h3 v)
  | _ => rfl

/-- the same when `t` is the only submitter from position `N` on: no other thread is inside `Do` or `TryDo` -/
theorem do_eventually_returns_started_sole_submitter (e : Exec P) (hfair : Fair e) (hE1 : EnvReleases e)
    (hE2 : EnvStarts e) (hpos : 0 < P.nworker) (t : Tid) (n u : Nat) (hin : inDoCall u ((e.c n).l t) = true)
    (hs : (e.c n).g.state = 1) (N : Nat)
    (hsolo : ∀ m t' v, N ≤ m → t' ≠ t → inDoCall v ((e.c m).l t') = false ∧ inTry v ((e.c m).l t') = false) :
    ∃ m, n ≤ m ∧ (e.c m).l t = .idle := by
  refine do_eventually_returns_started_partial e hfair hE1 hE2 hpos t n u hin hs N (fun m t' hm hne => ?_)
  refine ⟨fun v hl => ?_, fun v hl => ?_, fun v hl => ?_⟩
  · have := (hsolo m t' v hm hne).1; rw [hl] at this; exact Bool.false_ne_true (this.symm.trans (beq_self_eq_true v))
  · have := (hsolo m t' v hm hne).1; rw [hl] at this; exact Bool.false_ne_true (this.symm.trans (beq_self_eq_true v))
  · have := (hsolo m t' v hm hne).2; rw [hl] at this; exact Bool.false_ne_true (this.symm.trans (beq_self_eq_true v))

/-- the blocking send alone, under the same hypothesis (here from position `n` on) -/
theorem blocked_send_eventually_proceeds_partial (e : Exec P) (hfair : Fair e) (hE1 : EnvReleases e) (hE2 : EnvStarts e)
    (hpos : 0 < P.nworker) (t : Tid) (n u : Nat) (hl : (e.c n).l t = .push u) (hs : (e.c n).g.state = 1)
    (hsolo : ∀ m t', n ≤ m → t' ≠ t → sender ((e.c m).l t') = false) :
    ∃ m, n ≤ m ∧ (e.c m).l t = .d9 u :=
  push_solo e hfair hE1 hE2 hpos t n u hl (by omega) hsolo

/-- C12 for `Start`: a thread inside `Start` (`st0`, `st0c`, `st1`, `st2`) is back at `idle` at some `m ≥ n`, under weak
fairness of all threads, (E1), (E2).  Only the `RLock` at `st0` can wait – for the `Stop` caller holding or awaiting the
write lock, which returns. -/
theorem start_eventually_returns (e : Exec P) (hfair : Fair e) (hE1 : EnvReleases e) (hE2 : EnvStarts e) (t : Tid)
    (n : Nat) (hin : inStart ((e.c n).l t) = true) : ∃ m, n ≤ m ∧ (e.c m).l t = .idle :=
  start_returns e hfair hE1 hE2 t n hin

/-- the fact behind both `RLock`s: from some position on nobody holds or awaits the write side of `submitLock` -/
theorem write_lock_eventually_free_forever (e : Exec P) (hfair : Fair e) (hE1 : EnvReleases e) (hE2 : EnvStarts e)
    (n : Nat) : ∃ M, n ≤ M ∧ ∀ m, M ≤ m → (e.c m).g.writer = false ∧ (e.c m).g.wpending = false :=
  rlock_free e hfair hE1 hE2 n

/-! ## Non-vacuity: a concrete infinite fair execution with all four kinds of call -/

open Garr.Props.Pool (P10 lOf gOf)

/-- one fixed worker, unbuffered-like queue (capacity 1), no expansion.  `Do(0)` is queued and taken (the worker then
waits for the gate); `Do(1)` is queued; `Do(2)` by thread 3 blocks in its send (back-pressure); `TryDo(3)` by thread 4
finds the queue full and returns `false` without blocking; a second `Start` by thread 5 returns; the gate of task 0
opens, the worker delivers, takes task 1 – the slot is free and thread 3's send goes through, `Do(2)` returns; the
worker serves tasks 1 and 2; `Do(4)` by thread 3 has its task context cancelled while it waits for nothing at `d1` and
returns through the `ctx.Done()` case. -/
def submitTrace : List (Tid × Act) :=
  [ (0, .callStart), (0, .tau), (0, .tau), (0, .tau), (0, .tau),               --  0– 4 Start
    (1, .beFixed),                                                              --  5    the worker starts
    (2, .callDo .never), (2, .tau), (2, .tau), (2, .choose 2), (2, .tau),       --  6–10 Do(0): queued, returns
    (1, .tau),                                                                  -- 11    the worker takes task 0
    (2, .callDo .never), (2, .tau), (2, .tau), (2, .choose 2), (2, .tau),       -- 12–16 Do(1): queued, returns
    (3, .callDo .own), (3, .tau), (3, .tau),                                    -- 17–19 Do(2): blocked at its send
    (4, .callTry .never), (4, .tau), (4, .tau), (4, .choose 3), (4, .tau),      -- 20–24 TryDo(3): default, returns false
    (5, .callStart), (5, .tau), (5, .tau), (5, .tau),                           -- 25–28 a second Start: loses the CAS
    (0, .finish 0), (1, .tau), (1, .tau),                                       -- 29–31 gate 0; value delivered
    (1, .tau),                                                                  -- 32    the worker takes task 1
    (3, .choose 2), (3, .tau),                                                  -- 33–34 Do(2): queued, returns
    (0, .finish 1), (1, .tau), (1, .tau), (1, .tau),                            -- 35–38 task 1 served, task 2 taken
    (0, .finish 2), (1, .tau), (1, .tau),                                       -- 39–41 task 2 served
    (3, .callDo .own), (0, .cancelTask 4),                                      -- 42–43 Do(4), its context is cancelled
    (3, .tau), (3, .tau), (3, .choose 1), (3, .tau),                            -- 44–47 Do(4) returns with the ctx error
    (0, .finish 3), (0, .finish 4) ]                                            -- 48–49 (the harness opens the unused gates)

def submitExec : Exec P10 := Exec.ofSchedule P10 submitTrace

/-- The hypotheses of the theorems above are satisfiable together.  `submitExec` is weakly fair for every thread and
satisfies (E1), (E2).  Position 21: thread 4 is inside `TryDo(3)`; it is back at `idle` at 25 (and the queue was full:
the call did not block).  Position 26: thread 5 is inside `Start`; back at `idle` at 29.  Position 20: thread 3 is
inside `Do(2)` at its send, the pool is started, the queue is full and nothing is cancelled – the send is disabled
(back-pressure); from position 25 on no other thread is at a sending program counter; thread 3 is at `idle` at 35 and
task 2 was accepted.  Position 44: thread 3 is inside `Do(4)` whose task context is done; it is at `idle` from 48 on and task
4 got the task-context error, never entering the queue. -/
theorem submit_witness :
    Fair submitExec ∧ EnvReleases submitExec ∧ EnvStarts submitExec ∧
    -- TryDo
    inTry 3 (lOf P10 (submitExec.c 21) 4) = true ∧ (gOf P10 (submitExec.c 23)).q = [1] ∧
    lOf P10 (submitExec.c 25) 4 = .idle ∧
    -- Start
    inStart (lOf P10 (submitExec.c 26) 5) = true ∧ lOf P10 (submitExec.c 29) 5 = .idle ∧
    -- Do under back-pressure
    lOf P10 (submitExec.c 20) 3 = .push 2 ∧ (gOf P10 (submitExec.c 20)).state = 1 ∧
    blockedAt (gOf P10 (submitExec.c 20)) (.push 2) = true ∧
    (∀ m t', 25 ≤ m → t' ≠ 3 → sender (lOf P10 (submitExec.c m) t') = false) ∧
    lOf P10 (submitExec.c 35) 3 = .idle ∧ ((gOf P10 (submitExec.c 35)).task 2).enq = true ∧
    -- Do with a cancelled task context
    inDoCall 4 (lOf P10 (submitExec.c 44) 3) = true ∧ taskCtxDone (gOf P10 (submitExec.c 44)) 4 = true ∧
    (∀ m, 50 ≤ m → lOf P10 (submitExec.c m) 3 = .idle ∧ ((gOf P10 (submitExec.c m)).task 4).results = [.errTask] ∧
      ((gOf P10 (submitExec.c m)).task 4).enq = false) := by
  obtain ⟨hf, h1, h2⟩ := ofSchedule_env P10 submitTrace 6 (by decide) (by decide)
  refine ⟨hf, h1, h2, by decide, by decide, by decide, by decide, by decide, by decide, by decide, by decide, ?_,
    by decide, by decide, by decide, by decide,
    ofSchedule_final P10 submitTrace (fun c => lOf P10 c 3 = .idle ∧ ((gOf P10 c).task 4).results = [.errTask] ∧
      ((gOf P10 c).task 4).enq = false) (by decide)⟩
  intro m t' hm hne
  rcases Nat.lt_or_ge t' 6 with hlt | hge
  · -- position 25 + k as a run of k entries from the configuration at 25, so that the first 25 entries are run once
    have key : ∀ k, k ≤ 25 → ∀ t', t' < 6 → t' ≠ 3 → sender (lOf P10
        (run (M P10) (schedCfg P10 submitTrace 25) ((submitTrace.drop 25).take k)).1 t') = false := by decide
    have hpos : ∀ k, k ≤ 25 → sender (lOf P10 (schedCfg P10 submitTrace (25 + k)) t') = false := fun k hk =>
      (congrArg (fun c => sender (lOf P10 c t')) (schedCfg_add P10 submitTrace 25 k)).trans (key k hk t' hlt hne)
    obtain ⟨k, rfl⟩ := Nat.exists_eq_add_of_le hm
    rcases Nat.le_total k 25 with h | h
    · exact hpos k h
    · exact ofSchedule_final P10 submitTrace (fun c => sender (lOf P10 c t') = false) (hpos 25 (Nat.le_refl _))
        (25 + k) (by show 50 ≤ 25 + k; omega)
  · exact congrArg sender (ofSchedule_support P10 submitTrace 6 (by decide) m t' hge)

/-! ## The starvation schedule: two rounds, kernel-checked -/

/-- victim = thread 3 (`Do(1)`), competitor = thread 2, worker = thread 1, thread 0 plays `Start` and the harness.
Positions 0–13: set-up (pool started, task 0 queued, the victim blocked at its send).  Round 1 = positions 14–22,
round 2 = positions 23–31; round `k` differs from round 1 only in the task numbers. -/
def starveTrace : List (Tid × Act) :=
  [ (0, .callStart), (0, .tau), (0, .tau), (0, .tau), (0, .tau), (1, .beFixed),
    (2, .callDo .never), (2, .tau), (2, .tau), (2, .choose 2), (2, .tau),       --  6–10 Do(0): queued
    (3, .callDo .never), (3, .tau), (3, .tau),                                  -- 11–13 the victim: Do(1) reaches its send
    -- round 1
    (2, .callDo .never), (2, .tau), (2, .tau),                                  -- 14–16 competitor: Do(2) reaches its send
    (1, .tau),                                                                  -- 17    the worker takes task 0: slot free
    (2, .choose 2), (2, .tau),                                                  -- 18–19 the competitor's send wins; returns
    (0, .finish 0), (1, .tau), (1, .tau),                                       -- 20–22 gate 0; value; worker back at w0
    -- round 2
    (2, .callDo .never), (2, .tau), (2, .tau),                                  -- 23–25 competitor: Do(3)
    (1, .tau),                                                                  -- 26    the worker takes task 2
    (2, .choose 2), (2, .tau),                                                  -- 27–28
    (0, .finish 2), (1, .tau), (1, .tau) ]                                      -- 29–31

def starveCfg (n : Nat) : Config (M P10) := schedCfg P10 starveTrace n
def starveMover (n : Nat) : Option (Tid × Act) := schedMover P10 starveTrace n

/-- the shape in which a round starts and ends (besides the victim at `push 1`): worker at `w0`, competitor and harness
at `idle`, one task in the queue, one reader (the victim), no goroutine pending -/
def roundShape (c : Config (M P10)) : Prop :=
  lOf P10 c 1 = .w0 ∧ lOf P10 c 2 = .idle ∧ lOf P10 c 0 = .idle ∧ (gOf P10 c).q.length = 1 ∧ (gOf P10 c).readers = 1 ∧
    (gOf P10 c).spawnFixed = 0 ∧ (gOf P10 c).spawnExp = 0

instance (c : Config (M P10)) : Decidable (roundShape c) := by unfold roundShape; infer_instance

/-- Two rounds of the starvation schedule, checked by the kernel.
* The round starts (positions 14, 23) and ends (23, 32) in the same shape: pool started, nothing cancelled, queue open
  and holding one task, worker at `w0`, competitor at `idle`, victim at `push 1`.
* Throughout (14 ≤ m ≤ 32) the victim stays at `push 1`, and its `select` is disabled except at the single position
  of each round between the worker's receive and the competitor's send (18, 27): it is disabled at least once per
  round, so `WeakFair` asks nothing of it.
* Every scheduled step is enabled (none is skipped), the worker and the competitor take internal steps in each round,
  and the executor started in a round is released in the same round ((E1); (E2) has nothing pending).
Repeating the round for ever gives an execution that is weakly fair for every thread and satisfies (E1), (E2), in which
`Do(1)` never returns although the pool is started with a live worker. -/
theorem starvation_prefix :
    (∀ m, m < 33 → 14 ≤ m → lOf P10 (starveCfg m) 3 = .push 1 ∧ (gOf P10 (starveCfg m)).state = 1 ∧
      (gOf P10 (starveCfg m)).ctxDone = false ∧ (gOf P10 (starveCfg m)).closed = false ∧
      (blockedAt (gOf P10 (starveCfg m)) (.push 1) = false ↔ (m = 18 ∨ m = 27))) ∧
    roundShape (starveCfg 14) ∧ roundShape (starveCfg 23) ∧ roundShape (starveCfg 32) ∧
    (gOf P10 (starveCfg 14)).q = [0] ∧ (gOf P10 (starveCfg 23)).q = [2] ∧ (gOf P10 (starveCfg 32)).q = [3] ∧
    (∀ m, m < 32 → (starveMover m).isSome = true) ∧
    starveMover 17 = some (1, .tau) ∧ starveMover 18 = some (2, .choose 2) ∧
    starveMover 26 = some (1, .tau) ∧ starveMover 27 = some (2, .choose 2) ∧
    ((gOf P10 (starveCfg 23)).task 0).results = [.val] ∧ ((gOf P10 (starveCfg 32)).task 2).results = [.val] ∧
    ((gOf P10 (starveCfg 32)).task 1).results = [] ∧ ((gOf P10 (starveCfg 32)).task 1).enq = false := by
  refine ⟨by decide, by decide, by decide, by decide, by decide, by decide, by decide, by decide, by decide, by decide,
    by decide, by decide, by decide, by decide, by decide, by decide⟩

/-! ## The starvation schedule as an infinite execution: the unrestricted statement is false -/

/-- **Counterexample.**  `starveExec` (`Garr/Pool/Starve.lean`) repeats the round of `starvation_prefix` for ever (the
scheduler `starvePol` looks at the program counters of worker and competitor and schedules the next event of the round).
It is an execution of the pool with one fixed worker that is weakly fair for *every* thread and satisfies (E1) and (E2);
the pool is started (`state = 1`) at every position; thread 3 is inside `Do(1)` at position 0 – and stays at its blocking
send `push 1` at every position: the call never returns.  (Fairness of the victim holds because its send is disabled at
the start of every round; of the competitor because it is at `idle` there; of the worker because it takes a task in
every round.) -/
theorem do_started_may_starve :
    ∃ (e : Exec P10) (t : Tid) (u : Nat), Fair e ∧ EnvReleases e ∧ EnvStarts e ∧ 0 < P10.nworker ∧
      inDoCall u ((e.c 0).l t) = true ∧ (∀ m, (e.c m).g.state = 1) ∧ (∀ m, (e.c m).g.ctxDone = false) ∧
      (∀ m, (e.c m).l t = .push u) ∧ (∀ n, ∃ m, n ≤ m ∧ e.mover m = some (1, .tau)) := by
  refine ⟨starveExec, 3, 1, starve_fair, starve_releases, starve_starts, by decide, ?_, fun m => (starve_inv m).1.st,
    fun m => (starve_inv m).1.cx, fun m => (starve_inv m).1.vic, fun n => ?_⟩
  · rw [(starve_inv 0).1.vic]; rfl
  · obtain ⟨m, hm, hmv, _⟩ := starve_round n
    exact ⟨m, hm, hmv⟩

/-- hence the unrestricted statement – "under weak fairness, (E1), (E2) every `Do` on a started pool with a worker
returns" – is **false**; the extra hypothesis of `do_eventually_returns_started_partial` cannot be dropped -/
theorem do_eventually_returns_started_fails :
    ¬ (∀ (P : Params) (e : Exec P), Fair e → EnvReleases e → EnvStarts e → 0 < P.nworker →
        ∀ (t : Tid) (n u : Nat), inDoCall u ((e.c n).l t) = true → (e.c n).g.state = 1 →
          ∃ m, n ≤ m ∧ (e.c m).l t = .idle) := by
  intro h
  obtain ⟨e, t, u, hf, h1, h2, hpos, hin, hs, _, hv, _⟩ := do_started_may_starve
  obtain ⟨m, _, hm⟩ := h P10 e hf h1 h2 hpos t 0 u hin (hs 0)
  rw [hv m] at hm
  cases hm

end Garr.Props.PoolLiveSubmit

#print axioms Garr.Props.PoolLiveSubmit.trydo_eventually_returns
#print axioms Garr.Props.PoolLiveSubmit.do_eventually_returns_cancelled
#print axioms Garr.Props.PoolLiveSubmit.blocked_send_released_by_cancel
#print axioms Garr.Props.PoolLiveSubmit.do_eventually_returns_started_partial
#print axioms Garr.Props.PoolLiveSubmit.do_eventually_returns_started_sole_submitter
#print axioms Garr.Props.PoolLiveSubmit.blocked_send_eventually_proceeds_partial
#print axioms Garr.Props.PoolLiveSubmit.start_eventually_returns
#print axioms Garr.Props.PoolLiveSubmit.write_lock_eventually_free_forever
#print axioms Garr.Props.PoolLiveSubmit.submit_witness
#print axioms Garr.Props.PoolLiveSubmit.starvation_prefix
#print axioms Garr.Props.PoolLiveSubmit.do_started_may_starve
#print axioms Garr.Props.PoolLiveSubmit.do_eventually_returns_started_fails
