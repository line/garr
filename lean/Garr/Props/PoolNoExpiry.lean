import Garr.Props.PoolProgress
/-!
# The expansion limit need not be exhausted when a `Do` is blocked — WITHOUT any expiry

`blocked_do_limit_not_exhausted` (known finding F10) needs an expanded worker's idle timer to fire. The one-shot expansion decision of
`Do` ("reserve, spawn, then push") has a second way to leave the pool below its cap, in which no time passes at all:

1 fixed worker, `ExpandableLimit = 2`. The fixed worker runs task 0 (not released), task 1 is queued. `Do(task 2)` finds the queue
full, reserves (1 ≤ 2), spawns an expanded worker and goes on to `push`. The new worker takes task 1 out of the queue. Before the
first submitter's send happens, another `Do(task 3)` finds the slot free and takes it with its direct send. The first submitter is now
parked in `push` behind a full queue; every worker is busy; `expanded = 1 < 2`; nobody re-evaluates the expansion until a worker
frees up or another submission arrives: four tasks are pending, the cap is three, two run.

(In the Go runtime a sender that is ALREADY parked on the channel is served by the receive itself, so on the real scheduler this needs
the second submission to land between the first one's `go p.expandedWorker()` and its arrival in `push`'s `select`; the model's
`select` semantics — any ready case may be taken — is the specification's.)
-/
namespace Garr.Props.PoolProgress
open Garr.Conc Garr.Pool Garr.Pool.Progress Garr.Props.Pool

def PY : Params := { nworker := 1, limit := 2, lifetime := 100 }

def overtakeTrace : List (Tid × Act) :=
  [ (0, .callStart), (0, .tau), (0, .tau), (0, .tau), (0, .tau),            -- Start
    (1, .beFixed),
    (2, .callDo .never), (2, .tau), (2, .tau), (2, .tau), (2, .tau),        -- task 0 queued
    (1, .tau),                                                              -- the fixed worker runs task 0
    (2, .callDo .never), (2, .tau), (2, .tau), (2, .tau), (2, .tau),        -- task 1 queued
    (3, .callDo .never), (3, .tau), (3, .tau), (3, .tau),                   -- task 2: queue full → reserve
    (3, .tau), (3, .tau),                                                   -- 1 ≤ 2 → spawn, on to push
    (4, .beExp),                                                            -- the expanded worker starts
    (4, .choose 0),                                                         -- … and takes task 1: the slot is free
    (5, .callDo .never), (5, .tau), (5, .tau), (5, .tau), (5, .tau) ]       -- task 3: direct send into the free slot, returns

def overtakeFinal : Config (M PY) := (run (M PY) (Config.init (M PY)) overtakeTrace).1

/-- Stuck below the cap with no expiry involved: the first submitter is parked in `push`, the queue holds the overtaker's task,
both workers are inside unreleased executors, `expanded = 1 < ExpandableLimit = 2`, and no time has passed (`now = 0`). -/
theorem blocked_do_limit_not_exhausted_no_expiry :
    Reach (M PY) overtakeFinal ∧ Stuck overtakeFinal ∧
    lOf PY overtakeFinal 3 = .push 2 ∧ lOf PY overtakeFinal 1 = .wexec 0 ∧ lOf PY overtakeFinal 4 = .eexec 1 ∧
    lOf PY overtakeFinal 5 = .idle ∧
    (gOf PY overtakeFinal).q = [3] ∧ (gOf PY overtakeFinal).state = 1 ∧ (gOf PY overtakeFinal).expanded = 1 ∧
    (gOf PY overtakeFinal).now = 0 := by
  refine ⟨reach_run (M PY) _ Reach.init _, ?_, by decide, by decide, by decide, by decide, by decide, by decide, by decide, by decide⟩
  refine blocked_stuck ?_
  exact forall_threads (ls := lOf PY overtakeFinal) (run_support (M PY) overtakeTrace 6 _ (fun _ _ => rfl) (by decide))
    (fun l => blockedAt (gOf PY overtakeFinal) l = true) (by decide) (by decide)

end Garr.Props.PoolProgress

#print axioms Garr.Props.PoolProgress.blocked_do_limit_not_exhausted_no_expiry
