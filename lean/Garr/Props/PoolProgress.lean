import Garr.Pool.Progress
import Garr.Props.Pool
/-!
# Worker pool: the "never hangs" half of C12 / C08, back-pressure (C17, C11) and bounded internal work

The theorems of `Garr/Props/Pool.lean` are safety and enabledness facts; `stop_drains` says what holds IF `Stop` has
returned.  This file excludes deadlocks and internal livelocks of `Garr.Pool.M P` (for every parameter set, every client
program and every schedule).  Lemmas and invariants: `Garr/Pool/Progress.lean`.

Internal steps = what the pool does on its own (`tau`, `choose k`, a spawned goroutine starting to run); environment =
new calls, `finish` (the harness releases an executor's gate), cancellation, time.  `Stuck c` = no internal step is
enabled for any thread.

The parts: deadlock freedom after `Stop`; who may be blocked before `Stop`, and why; no internal livelock (an explicit
bound on internal runs); `Stop` and `Do` never hang; kernel-checked runs showing that the stuck configurations described
exist, and that the seeded bug "`Stop` takes the write lock before cancelling the context" does deadlock.

Not here: anything under a fairness assumption with an active environment (e.g. "if clients keep submitting, `Stop`
still returns"), for which see `Garr/Props/PoolLive*.lean`; the statements of this file are about stuck configurations
and about runs of internal steps.
-/
namespace Garr.Props.PoolProgress
open Garr.Conc Garr.Pool Garr.Pool.Progress Garr.Props.Pool

variable {P : Params}

/-- not inside any call and not a live goroutine -/
def atRest (l : L) : Prop := l = .idle ∨ l = .exited

/-- thread `t` is a worker (fixed or expanded) inside the executor of a task whose gate has not been released -/
def inUnreleasedExec (c : Config (M P)) (t : Tid) : Prop :=
  ∃ u, (c.l t = .wexec u ∨ c.l t = .eexec u) ∧ (c.g.task u).released = false

/-- `Stuck`, thread by thread: a reachable configuration is stuck iff every thread sits at a program counter whose
guard is false — `blockedAt`: an idle thread with no spawned goroutine to become; `d1`/`st0`/`sp3a` with the write lock
held or awaited; `push` with neither context done, the queue open and full; `w0`/`e0` with the queue open and empty
(and the timer running); `wexec`/`eexec` with the gate closed; `sp3b` with readers; `sp4` with `wg ≠ 0`; `exited`.  Every
other program counter always has an enabled step. -/
theorem stuck_iff (c : Config (M P)) (h : Reach (M P) c) : Stuck c ↔ ∀ t, blockedAt c.g (c.l t) = true :=
  ⟨fun hs t => stuck_blocked (pinv_reach P c h) hs t, fun hb => blocked_stuck hb⟩

/-! ## Deadlock freedom after `Stop` -/

/-- A stuck reachable configuration of a stopped pool (some `Stop` call won the state CAS).  The only threads that are
not at rest are workers inside an unreleased executor and the `Stop` caller waiting for them in `wg.Wait()` (`sp4`) —
and the latter waits if and only if there is such a worker.  In particular no submitter (`Do`, `TryDo`), no `Start` and
no second `Stop` is blocked, nobody holds or awaits `submitLock`, the context is cancelled and the queue is closed. -/
theorem stuck_after_stop (c : Config (M P)) (h : Reach (M P) c) (hs : Stuck c) (h2 : c.g.state = 2) :
    (∀ t, atRest (c.l t) ∨ c.l t = .sp4 ∨ inUnreleasedExec c t) ∧
    ((∃ t, c.l t = .sp4) ↔ ∃ t, inUnreleasedExec c t) ∧
    c.g.ctxDone = true ∧ c.g.closed = true ∧ c.g.writer = false ∧ c.g.wpending = false ∧ c.g.readers = 0 ∧
    c.g.spawnFixed = 0 ∧ c.g.spawnExp = 0 := by
  have hx := xinv_reach P c h
  obtain ⟨hc, hd, hw, hwp⟩ := stuck_stopped_globals hx hs h2
  obtain ⟨hsf, hse⟩ := spawn_zero_of_stuck hx hs
  have hcl := stuck_stopped_threads hx hs h2
  refine ⟨hcl, ?_, hd, hc, hw, hwp, hx.pinv.lock.readers.eq_zero fun t => ?_, hsf, hse⟩
  · -- `wg` counts the live workers, and a live worker of a stuck stopped pool is inside an executor
    have hp := hx.pinv
    obtain ⟨f, e, hf, he, hwg⟩ := hp.count.wg
    constructor
    · rintro ⟨t0, hl0⟩
      have hb := stuck_blocked hp hs t0
      rw [hl0] at hb
      simp [blockedAt] at hb
      rw [hsf, hse] at hwg
      have hfe : f ≠ 0 ∨ e ≠ 0 := by omega
      obtain ⟨t, ht⟩ : ∃ t, fixedLive (c.l t) = true ∨ expPre (c.l t) = true := by
        rcases hfe with h | h
        · exact (Counts.exists_of_ne_zero hf h).imp fun _ => Or.inl
        · exact (Counts.exists_of_ne_zero he h).imp fun _ => Or.inr
      rcases hcl t with (hl | hl) | hl | hu
      iterate 3 rw [hl] at ht; rcases ht with ht | ht <;> cases ht
      exact ⟨t, hu⟩
    · rintro ⟨t, u, hl, _⟩
      by_cases hex : ∃ t, stopper (c.l t) = true
      · obtain ⟨t0, ht0⟩ := hex
        exact ⟨t0, stuck_stopper_sp4 hx hs t0 ht0⟩
      · exfalso
        have h0 := hp.wait h2 fun t => Bool.eq_false_iff.2 fun hh => hex ⟨t, stopper_of_preWait hh⟩
        rw [h0] at hwg
        have hf0 : f = 0 := by omega
        have he0 : e = 0 := by omega
        subst hf0 he0
        rcases hl with hl | hl
        · have := hf.zero t; rw [hl] at this; cases this
        · have := he.zero t; rw [hl] at this; cases this
  · rcases hcl t with (h1 | h1) | h1 | ⟨v, h1 | h1, _⟩ <;> rw [h1] <;> rfl

/-- Deadlock freedom after `Stop`: in a stuck reachable configuration of a stopped pool in which every task whose
executor is running has been released, EVERY thread is at rest.  So the `Stop` call has returned, every `Do`, `TryDo`
and `Start` has returned, every worker has exited; and with `stop_drains` every accepted task has exactly one
result, the wait group is at zero, the queue is closed and empty. -/
theorem no_deadlock_after_stop (c : Config (M P)) (h : Reach (M P) c) (hs : Stuck c) (h2 : c.g.state = 2)
    (hrel : ∀ t u, c.l t = .wexec u ∨ c.l t = .eexec u → (c.g.task u).released = true) :
    (∀ t, atRest (c.l t)) ∧ stopReturned c ∧
    (∀ u, (c.g.task u).enq = true → (c.g.task u).results.length = 1) ∧
    c.g.wg = 0 ∧ c.g.q = [] ∧ c.g.closed = true ∧ c.g.readers = 0 ∧ c.g.writer = false ∧ c.g.wpending = false := by
  obtain ⟨hcl, hwait, _, _, hw, hwp, hr, _, _⟩ := stuck_after_stop c h hs h2
  have hnone : ∀ t, ¬ inUnreleasedExec c t := by
    rintro t ⟨u, hl, hu⟩
    rw [hrel t u hl] at hu; cases hu
  have hrest : ∀ t, atRest (c.l t) := by
    intro t
    rcases hcl t with h1 | h1 | h1
    · exact h1
    · obtain ⟨t', ht'⟩ := hwait.1 ⟨t, h1⟩
      exact absurd ht' (hnone t')
    · exact absurd h1 (hnone t)
  have hret : stopReturned c := by
    refine ⟨h2, fun t => ?_⟩
    rcases hrest t with h1 | h1 <;> rw [h1] <;> rfl
  obtain ⟨h3, h4, _, _, _, _, h5, h6⟩ := stop_drains c h hret
  exact ⟨hrest, hret, h3, h4, h5, h6, hr, hw, hwp⟩

/-- the same for every stuck configuration that an execution (any steps, including environment actions) reaches after
a `Stop` call: a thread at `sp0`/`sp1` is never blocked, and a `Stop` whose two CASes both fail found `state = 2` -/
theorem stuck_after_stop_call (c : Config (M P)) (h : Reach (M P) c) (t : Tid)
    (hcall : c.g.state = 2 ∨ c.l t = .sp0 ∨ c.l t = .sp1) (c' : Config (M P)) (hsteps : Steps (M P) c c')
    (hs : Stuck c') : c'.g.state = 2 :=
  (StopCalled.steps h hcall hsteps).stuck (pinv_reach P c' (hsteps.reach h)) hs

/-- The seeded bug, excluded directly (no stuckness assumption): whenever the `Stop` caller waits for the readers of
`submitLock` to drain (`sp3b`), EVERY thread holding the read side has an enabled internal step — in particular a `Do`
parked in `push` can take the `ctx.Done()` case, because `Stop` cancelled the context before asking for the lock.  (All
other read-side sections are straight-line code.) -/
theorem readers_enabled_while_stop_waits (c : Config (M P)) (h : Reach (M P) c) (t0 : Tid) (hl0 : c.l t0 = .sp3b)
    (t : Tid) (hr : holdsR (c.l t) = true) :
    c.g.ctxDone = true ∧ ∃ a g' l' obs, internal a = true ∧ (M P).step t c.g (c.l t) a = some (g', l', obs) := by
  have hx := xinv_reach P c h
  have hctx := ctxDone_of_stopper hx (t0 := t0) (by rw [hl0]; rfl) (by rw [hl0]; rfl)
  exact ⟨hctx, enabled_of_not_blocked hx.pinv t (reader_not_blocked hr hctx)⟩

/-- in a stuck reachable configuration nobody waits for `submitLock`, neither for the read side (`Do` at `d1`, `Start`
at `st0`) nor for the write side (`Stop` at `sp3a`, `sp3b`) -/
theorem nobody_waits_for_lock (c : Config (M P)) (h : Reach (M P) c) (hs : Stuck c) (t : Tid) :
    (∀ u, c.l t ≠ .d1 u) ∧ c.l t ≠ .st0 ∧ c.l t ≠ .sp3a ∧ c.l t ≠ .sp3b := by
  have hx := xinv_reach P c h
  have hp := hx.pinv
  have hb := stuck_blocked hp hs t
  have hlock : c.g.writer = false ∧ c.g.wpending = false := by
    by_cases h2 : c.g.state = 2
    · obtain ⟨_, _, hw, hwp⟩ := stuck_stopped_globals hx hs h2
      exact ⟨hw, hwp⟩
    · obtain ⟨_, hw, hwp, _⟩ := running_globals hp h2
      exact ⟨hw, hwp⟩
  refine ⟨fun u hl => ?_, fun hl => ?_, fun hl => ?_, fun hl => ?_⟩
  iterate 3 rw [hl] at hb; simp [blockedAt, hlock.1, hlock.2] at hb
  · have := stuck_stopper_sp4 hx hs t (by rw [hl]; rfl)
    rw [hl] at this; cases this

/-! ## Before `Stop`: who may be blocked, and why -/

/-- A stuck reachable configuration of a pool that has not been stopped.  Nobody holds or awaits the write lock, so no
`Do`/`TryDo`/`Start` waits for `submitLock`; a thread is at rest, or a worker waiting for a task (fixed: `w0`; expanded:
`e0` with its idle timer still running — time is an environment action) and then the queue is empty, or a worker inside
an unreleased executor, or a `Do` parked in `push` and then the queue is full and neither its context nor the pool's
is done. -/
theorem stuck_before_stop (c : Config (M P)) (h : Reach (M P) c) (hs : Stuck c) (h2 : c.g.state ≠ 2) :
    c.g.closed = false ∧ c.g.writer = false ∧ c.g.wpending = false ∧ c.g.spawnFixed = 0 ∧ c.g.spawnExp = 0 ∧
    ∀ t, atRest (c.l t) ∨ (c.l t = .w0 ∧ c.g.q = []) ∨ (∃ dl, c.l t = .e0 dl ∧ c.g.q = [] ∧ c.g.now < dl) ∨
      inUnreleasedExec c t ∨
      (∃ u, c.l t = .push u ∧ c.g.ctxDone = false ∧ taskCtxDone c.g u = false ∧ c.g.q ≠ []) := by
  have hx := xinv_reach P c h
  obtain ⟨hc, hw, hwp, _, _⟩ := running_globals hx.pinv h2
  obtain ⟨hsf, hse⟩ := spawn_zero_of_stuck hx hs
  exact ⟨hc, hw, hwp, hsf, hse, stuck_running_threads hx hs h2⟩

/-- Back-pressure (C17) and saturation (C11) as a stuck-state characterisation: if a `Do` is blocked in `push` in a
stuck reachable configuration, then the pool has not been stopped, the queue is full, neither the pool context nor the
task context is done, no spawned goroutine is pending, every live fixed worker and every live expanded worker is
inside an unreleased executor, and either the pool was never started (no fixed worker exists) or ALL `NumberWorker`
fixed workers are inside unreleased executors.  (The number of expanded workers may be below `ExpandableLimit`: see
`blocked_do_limit_not_exhausted`.) -/
theorem blocked_do_backpressure (c : Config (M P)) (h : Reach (M P) c) (hs : Stuck c) (t : Tid) (u : Nat)
    (hl : c.l t = .push u) :
    c.g.state ≠ 2 ∧ c.g.q.length = 1 ∧ c.g.ctxDone = false ∧ taskCtxDone c.g u = false ∧ c.g.closed = false ∧
    c.g.spawnFixed = 0 ∧ c.g.spawnExp = 0 ∧
    (∀ t', fixedLive (c.l t') = true → ∃ v, c.l t' = .wexec v ∧ (c.g.task v).released = false) ∧
    (∀ t', expPre (c.l t') = true → ∃ v, c.l t' = .eexec v ∧ (c.g.task v).released = false) ∧
    ((c.g.state = 0 ∧ ∀ t', fixedLive (c.l t') = false) ∨ (c.g.state = 1 ∧ Counts isWexec c.l P.nworker)) := by
  have hx := xinv_reach P c h
  have h2 : c.g.state ≠ 2 := by
    intro h2
    rcases stuck_stopped_threads hx hs h2 t with (h1 | h1) | h1 | ⟨v, h1 | h1, _⟩ <;> rw [hl] at h1 <;> cases h1
  refine ⟨h2, ?_⟩
  have hp := hx.pinv
  obtain ⟨hc, _, _, _, hst⟩ := running_globals hp h2
  obtain ⟨hsf, hse⟩ := spawn_zero_of_stuck hx hs
  have hcl := stuck_running_threads hx hs h2
  obtain ⟨hd1, hd2, hq⟩ : c.g.ctxDone = false ∧ taskCtxDone c.g u = false ∧ c.g.q ≠ [] := by
    rcases hcl t with (h | h) | ⟨h, _⟩ | ⟨_, h, _⟩ | ⟨_, h | h, _⟩ | ⟨v, h, h1, h2, h3⟩
    all_goals rw [hl] at h; cases h
    exact ⟨h1, h2, h3⟩
  -- the queue is not empty, so no worker waits for a task: a live worker is inside an unreleased executor
  have key : ∀ t', isSt1 (c.l t') = false ∧ fixedLive (c.l t') = isWexec (c.l t') ∧
      (fixedLive (c.l t') = true → ∃ v, c.l t' = .wexec v ∧ (c.g.task v).released = false) ∧
      (expPre (c.l t') = true → ∃ v, c.l t' = .eexec v ∧ (c.g.task v).released = false) := by
    intro t'
    rcases hcl t' with (h | h) | ⟨_, hq'⟩ | ⟨_, _, hq', _⟩ | ⟨v, h | h, hr⟩ | ⟨_, h, _⟩
    · rw [h]; exact ⟨rfl, rfl, nofun, nofun⟩
    · rw [h]; exact ⟨rfl, rfl, nofun, nofun⟩
    · exact absurd hq' hq
    · exact absurd hq' hq
    · rw [h]; exact ⟨rfl, rfl, fun _ => ⟨v, rfl, hr⟩, nofun⟩
    · rw [h]; exact ⟨rfl, rfl, nofun, fun _ => ⟨v, rfl, hr⟩⟩
    · rw [h]; exact ⟨rfl, rfl, nofun, nofun⟩
  have hlen : c.g.q.length = 1 := by
    have := hp.task.qlen
    have := List.length_pos_iff.2 hq
    omega
  refine ⟨hlen, hd1, hd2, hc, hsf, hse, fun t' => (key t').2.2.1, fun t' => (key t').2.2.2, ?_⟩
  rcases hst with h0 | h1
  · obtain ⟨f, k, hf, _, _, hz⟩ := hp.count.fixed
    have : f = 0 := by have := hz h0; omega
    subst this
    exact Or.inl ⟨h0, hf.zero⟩
  · obtain ⟨f, hf, hsum⟩ := hx.full hc h1 fun t' => (key t').1
    rw [hsf] at hsum
    have : f = P.nworker := by omega
    subst this
    exact Or.inr ⟨h1, Counts.congr hf fun t' => (key t').2.1⟩

/-- Both cases together: where a thread can be in ANY stuck reachable configuration.  The only calls that can be in
progress are the winning `Stop` in `wg.Wait()` and (before `Stop`) a `Do` parked in `push`. -/
theorem stuck_threads (c : Config (M P)) (h : Reach (M P) c) (hs : Stuck c) (t : Tid) :
    atRest (c.l t) ∨ inUnreleasedExec c t ∨ (c.g.state = 2 ∧ c.l t = .sp4) ∨
    (c.g.state ≠ 2 ∧ (c.l t = .w0 ∨ (∃ dl, c.l t = .e0 dl ∧ c.g.now < dl) ∨ ∃ u, c.l t = .push u)) := by
  by_cases h2 : c.g.state = 2
  · rcases (stuck_after_stop c h hs h2).1 t with h1 | h1 | h1
    · exact Or.inl h1
    · exact Or.inr (Or.inr (Or.inl ⟨h2, h1⟩))
    · exact Or.inr (Or.inl h1)
  · rcases (stuck_before_stop c h hs h2).2.2.2.2.2 t with h1 | h1 | ⟨dl, h1, _, h3⟩ | h1 | ⟨u, h1, _⟩
    · exact Or.inl h1
    · exact Or.inr (Or.inr (Or.inr ⟨h2, Or.inl h1.1⟩))
    · exact Or.inr (Or.inr (Or.inr ⟨h2, Or.inr (Or.inl ⟨dl, h1, h3⟩)⟩))
    · exact Or.inr (Or.inl h1)
    · exact Or.inr (Or.inr (Or.inr ⟨h2, Or.inr (Or.inr ⟨u, h1⟩)⟩))

def inStart : L → Bool
  | .st0 | .st0c | .st1 | .st2 => true
  | _ => false

/-- a `Stop` call that is not (or not yet) the winner of the state CAS -/
def inStopCas : L → Bool
  | .sp0 | .sp1 => true
  | _ => false

/-- `TryDo`, `Start` and a `Stop` that loses the CAS never hang: in a stuck reachable configuration no thread is inside
one of them.  (C17 "`TryDo` never blocks", C08 "further `Stop`/`Start` calls are no-ops that return".) -/
theorem trydo_start_stop_never_hang (c : Config (M P)) (h : Reach (M P) c) (hs : Stuck c) (t : Tid) :
    inTry (c.l t) = false ∧ inStart (c.l t) = false ∧ inStopCas (c.l t) = false := by
  have hn := (nobody_waits_for_lock c h hs t).2.1
  rcases blocked_cases (stuck_blocked (pinv_reach P c h) hs t) with
    ⟨_, h, _⟩ | ⟨⟨_, h⟩ | h | h, _⟩ | ⟨h, _⟩ | ⟨h, _⟩ | ⟨_, h, _⟩ | ⟨_, h | h, _⟩ | ⟨h, _⟩ | ⟨h, _⟩ | h | h
  iterate 2 rw [h]; exact ⟨rfl, rfl, rfl⟩
  · exact absurd h hn
  all_goals rw [h]; exact ⟨rfl, rfl, rfl⟩

/-! ## No internal livelock -/

/-- Bounded internal work: from a reachable configuration with `k` threads that are not idle, every sequence of internal
steps (no new calls, no `finish`, no cancellation, no passing of time) has length at most
`(3·NumberWorker + 14)·k + 3·|queue| + 3·spawnFixed + 4·spawnExp`.  (`Garr.Pool.Progress.rank` is the ranking function: each
call is a straight-line program, the drain loop and the worker loops consume queued tasks, tasks enter the queue only
from submitters, each at most once.) -/
theorem internal_steps_bounded (c : Config (M P)) (h : Reach (M P) c) (k : Nat) (hk : Counts nonIdle c.l k)
    (n : Nat) (c' : Config (M P)) (hrun : ISteps P n c c') :
    n ≤ (3 * P.nworker + 14) * k + 3 * c.g.q.length + 3 * c.g.spawnFixed + 4 * c.g.spawnExp := by
  obtain ⟨N, hN⟩ := (xinv_reach P c h).sup
  obtain ⟨N', _, hle⟩ := isteps_pot hN hrun
  have := wsum_le_counts P hk N
  unfold pot gpot at hle
  omega

/-- the same with the exact potential (`pot` = sum of the ranks of the threads below `N` + `gpot`): it decreases by at
least one with every internal step -/
theorem internal_steps_potential (c : Config (M P)) (N : Nat) (hN : Support N c.l) (n : Nat) (c' : Config (M P))
    (hrun : ISteps P n c c') : ∃ N', Support N' c'.l ∧ n + pot P N' c' ≤ pot P N c :=
  isteps_pot hN hrun

/-- every reachable configuration has only finitely many threads that are not idle -/
theorem finitely_many_threads (c : Config (M P)) (h : Reach (M P) c) : ∃ k, Counts nonIdle c.l k := by
  obtain ⟨N, hN⟩ := (xinv_reach P c h).sup
  refine ⟨_, ((List.range N).filter (fun t => nonIdle (c.l t))), List.nodup_range.filter _, rfl, fun t => ?_⟩
  simp only [List.mem_filter, List.mem_range]
  constructor
  · exact fun h => h.2
  · intro ht
    refine ⟨?_, ht⟩
    rcases Nat.lt_or_ge t N with h1 | h1
    · exact h1
    · rw [hN t h1] at ht; cases ht

/-- from every reachable configuration a stuck configuration is reachable by internal steps alone (within the bound of
`internal_steps_bounded`); since internal runs are bounded, every maximal internal run ends in a stuck configuration -/
theorem stuck_reachable (c : Config (M P)) (h : Reach (M P) c) :
    ∃ n c', ISteps P n c c' ∧ Stuck c' ∧ Reach (M P) c' ∧
      ∀ k, Counts nonIdle c.l k →
        n ≤ (3 * P.nworker + 14) * k + 3 * c.g.q.length + 3 * c.g.spawnFixed + 4 * c.g.spawnExp := by
  obtain ⟨N, hN⟩ := (xinv_reach P c h).sup
  obtain ⟨n, c', hrun, hstuck⟩ := exists_stuck c N hN
  exact ⟨n, c', hrun, hstuck, hrun.steps.reach h, fun k hk => internal_steps_bounded c h k hk n c' hrun⟩

/-- an internal run that cannot be extended ends in a stuck configuration (by definition), and a run that is as long
as the bound cannot be extended -/
theorem maximal_run_stuck (c : Config (M P)) (h : Reach (M P) c) (k : Nat) (hk : Counts nonIdle c.l k)
    (n : Nat) (c' : Config (M P)) (hrun : ISteps P n c c')
    (hn : n = (3 * P.nworker + 14) * k + 3 * c.g.q.length + 3 * c.g.spawnFixed + 4 * c.g.spawnExp) : Stuck c' := by
  intro t a ha
  cases hstep : step P t c'.g (c'.l t) a with
  | none => rfl
  | some r =>
    obtain ⟨g', l', obs⟩ := r
    have hstep' : (M P).step t c'.g (c'.l t) a = some (g', l', obs) := hstep
    have := internal_steps_bounded c h k hk (n + 1) _ (ISteps.step hrun ha hstep')
    omega

/-! ## `Stop` never hangs, `Do` never hangs -/

/-- C08/C12, termination of `Stop`: take a reachable configuration in which a `Stop` call is under way (thread `t` is at
one of its two CASes) or has already won the CAS, and in which every task submitted so far has been released by the
harness.  Then, whatever the pool does on its own: (1) it does so for a bounded number of steps and can always reach
a stuck configuration, and (2) in EVERY stuck configuration it reaches, every thread is at rest — `Stop` has
returned, every `Do`/`TryDo`/`Start` has returned, every worker has exited — and every accepted task has exactly one
result. -/
theorem stop_never_hangs (c : Config (M P)) (h : Reach (M P) c) (t : Tid)
    (hcall : c.g.state = 2 ∨ c.l t = .sp0 ∨ c.l t = .sp1)
    (hrel : ∀ u, u < c.g.tasks.length → (c.g.task u).released = true) :
    (∃ n c', ISteps P n c c' ∧ Stuck c') ∧
    ∀ n c', ISteps P n c c' → Stuck c' →
      (∀ t, atRest (c'.l t)) ∧ stopReturned c' ∧
      (∀ u, (c'.g.task u).enq = true → (c'.g.task u).results.length = 1) ∧
      c'.g.wg = 0 ∧ c'.g.q = [] ∧ c'.g.closed = true := by
  refine ⟨?_, fun n c' hrun hstuck => ?_⟩
  · obtain ⟨n, c', h1, h2, _⟩ := stuck_reachable c h
    exact ⟨n, c', h1, h2⟩
  · have hr' : Reach (M P) c' := hrun.steps.reach h
    have hp' := pinv_reach P c' hr'
    have hcalled : StopCalled c' t := StopCalled.steps h hcall hrun.steps
    have h2 : c'.g.state = 2 := hcalled.stuck hp' hstuck
    obtain ⟨hlen, hsame⟩ := isteps_released hrun
    have hrel' : ∀ t u, c'.l t = .wexec u ∨ c'.l t = .eexec u → (c'.g.task u).released = true := by
      intro t u hl
      have hrole : role (c'.l t) = some (.run, u) := by rcases hl with hl | hl <;> rw [hl] <;> rfl
      have hu := (hp'.task.ok u).len (Or.inr ⟨t, _, hrole⟩)
      rw [hsame u]
      exact hrel u (by omega)
    obtain ⟨a1, a2, a3, a4, a5, a6, _⟩ := no_deadlock_after_stop c' hr' hstuck h2 hrel'
    exact ⟨a1, a2, a3, a4, a5, a6⟩

/-- C08, `Stop` never hangs, in general: follow ANY execution (internal steps, further calls, `finish`, cancellation,
time) from a `Stop` call to a stuck configuration in which no worker sits in an unreleased executor.  There every
thread is at rest: the `Stop` call has returned (so the premise of `stop_drains` is always eventually met), every other
call has returned, every worker has exited, every accepted task has exactly one result. -/
theorem stop_returns (c : Config (M P)) (h : Reach (M P) c) (t : Tid)
    (hcall : c.g.state = 2 ∨ c.l t = .sp0 ∨ c.l t = .sp1) (c' : Config (M P)) (hsteps : Steps (M P) c c')
    (hstuck : Stuck c')
    (hrel : ∀ t u, c'.l t = .wexec u ∨ c'.l t = .eexec u → (c'.g.task u).released = true) :
    (∀ t, atRest (c'.l t)) ∧ stopReturned c' ∧
    (∀ u, (c'.g.task u).enq = true → (c'.g.task u).results.length = 1) ∧
    c'.g.wg = 0 ∧ c'.g.q = [] ∧ c'.g.closed = true := by
  have h2 := stuck_after_stop_call c h t hcall c' hsteps hstuck
  obtain ⟨a1, a2, a3, a4, a5, a6, _⟩ := no_deadlock_after_stop c' (hsteps.reach h) hstuck h2 hrel
  exact ⟨a1, a2, a3, a4, a5, a6⟩

/-- C12, outcome of a `Do(u)` call: follow the execution (ANY steps: internal ones, further calls, `finish`,
cancellation, time) from a configuration in which thread `t` is inside `Do(u)` to a stuck configuration.  There, either
task `u` has exactly one result; or it has been accepted and is waiting in the queue or inside an unreleased executor;
or the call is still parked in `push` — which happens only if the pool has not been stopped (back-pressure, see
`blocked_do_backpressure`).  The call is never blocked on `submitLock`, and never parked once `Stop` has won its CAS. -/
theorem do_outcome (c : Config (M P)) (h : Reach (M P) c) (t : Tid) (u : Nat) (hdo : inDo u (c.l t) = true)
    (c' : Config (M P)) (hsteps : Steps (M P) c c') (hstuck : Stuck c') :
    (c'.g.task u).results.length = 1 ∨
    ((c'.g.task u).enq = true ∧ (c'.g.task u).results = [] ∧
      (u ∈ c'.g.q ∨ ∃ t', (c'.l t' = .wexec u ∨ c'.l t' = .eexec u) ∧ (c'.g.task u).released = false)) ∨
    (c'.l t = .push u ∧ c'.g.state ≠ 2) := by
  have hr' : Reach (M P) c' := hsteps.reach h
  have hx' := xinv_reach P c' hr'
  have hp' := hx'.pinv
  have hB := stuck_blocked hp' hstuck
  rcases DoAnswered.steps h (Or.inl hdo) hsteps with hin | he | hne
  · right; right
    -- a blocked thread inside `Do` is parked in `push`: the lock is free in a stuck configuration
    have hlock := nobody_waits_for_lock c' hr' hstuck t
    rcases blocked_cases (hB t) with
      ⟨v, h, _⟩ | ⟨⟨v, h⟩ | h | h, _⟩ | ⟨h, _⟩ | ⟨h, _⟩ | ⟨_, h, _⟩ | ⟨_, h | h, _⟩ | ⟨h, _⟩ | ⟨h, _⟩ | h | h
    · rw [h] at hin
      cases eq_of_beq hin
      exact ⟨h, (blocked_do_backpressure c' hr' hstuck t _ h).1⟩
    · exact absurd h (hlock.1 v)
    all_goals rw [h] at hin; cases hin
  · by_cases hres : (c'.g.task u).results = []
    · right; left
      refine ⟨he, hres, ?_⟩
      rcases (hp'.task.ok u).located he with h1 | ⟨t', h1⟩ | ⟨t', h1⟩ | h1
      · exact Or.inl h1
      · right
        have hb := hB t'
        rcases role_run h1 with hl | hl | hl | hl <;> rw [hl] at hb
        · exact ⟨t', Or.inl hl, by simpa [blockedAt] using hb⟩
        · cases hb
        · exact ⟨t', Or.inr hl, by simpa [blockedAt] using hb⟩
        · cases hb
      · have hb := hB t'
        rw [role_drain h1] at hb; cases hb
      · exact absurd hres h1
    · exact Or.inl (results_length_one hp' hres)
  · exact Or.inl (results_length_one hp' hne)

/-- C12, "never hangs": a `Do(u)` call made before, concurrently with or after `Stop` (or before a deferred `Start`).
In every stuck configuration of the stopped pool that the execution reaches, with no worker inside an unreleased
executor, the call has returned (every thread is at rest) and the waiter on the task's result channel has been
released: the task has exactly one result. -/
theorem do_never_hangs (c : Config (M P)) (h : Reach (M P) c) (t : Tid) (u : Nat) (hdo : inDo u (c.l t) = true)
    (c' : Config (M P)) (hsteps : Steps (M P) c c') (hstuck : Stuck c') (h2 : c'.g.state = 2)
    (hrel : ∀ t v, c'.l t = .wexec v ∨ c'.l t = .eexec v → (c'.g.task v).released = true) :
    (c'.g.task u).results.length = 1 ∧ ∀ t, atRest (c'.l t) := by
  have hr' : Reach (M P) c' := hsteps.reach h
  obtain ⟨hrest, _, _, _, hq, _⟩ := no_deadlock_after_stop c' hr' hstuck h2 hrel
  refine ⟨?_, hrest⟩
  rcases do_outcome c h t u hdo c' hsteps hstuck with h1 | ⟨_, _, h1 | ⟨t', h1, _⟩⟩ | ⟨_, h1⟩
  · exact h1
  · rw [hq] at h1; cases h1
  · rcases hrest t' with h3 | h3 <;> rcases h1 with h1 | h1 <;> rw [h1] at h3 <;> cases h3
  · exact absurd h2 h1

/-! ## Non-vacuity: kernel-checked runs -/

/-- (a) `Do(task 0)` is accepted into the buffer of a pool that was never started; `Do(task 1)` finds the queue full and
parks in `push`, holding the read side of `submitLock`; then `Stop`.  `Stop` cancels the context first, announces itself
as a writer and has to wait for the reader; the parked `Do` sees `ctx.Done()`, answers its task and releases the lock;
`Stop` closes the queue, passes `wg.Wait()`, drains task 0 and returns. -/
def parkedTrace : List (Tid × Act) :=
  [ (1, .callDo .never), (1, .tau), (1, .tau), (1, .choose 2), (1, .tau),   -- Do(task 0): buffered, returns
    (2, .callDo .never), (2, .tau), (2, .tau),                               -- Do(task 1): RLock, not stopped, parked in push
    (0, .callStop), (0, .tau), (0, .tau), (0, .tau),                         -- Stop: CAS 0→2, cancel(), Lock: writer pending
    (0, .tau),                                                               -- (disabled, skipped: Stop waits for the reader)
    (2, .choose 0), (2, .tau),                                               -- the parked Do sees ctx.Done(), answers task 1, RUnlock
    (0, .tau), (0, .tau), (0, .tau), (0, .tau),                              -- Stop: Lock acquired, close, Unlock, wg.Wait() (no workers)
    (0, .tau), (0, .tau), (0, .tau) ]                                        -- Stop: drains task 0, answers it, returns

def logOf (P : Params) (r : Config (M P) × List (Tid × (M P).Obs)) : List (Tid × Obs) := r.2

def parkedFinal : Config (M P10) := (run (M P10) (Config.init (M P10)) parkedTrace).1

theorem parkedFinal_support : Support 3 parkedFinal.l :=
  run_support (M P10) parkedTrace 3 _ (fun _ _ => rfl) (by decide)

def parkedEarly : Config (M P10) := (run (M P10) (Config.init (M P10)) (parkedTrace.take 8)).1

theorem parkedEarly_support : Support 3 parkedEarly.l :=
  run_support (M P10) (parkedTrace.take 8) 3 _ (fun _ _ => rfl) (by decide)

/-- before `Stop` is called (after 8 events) the configuration is stuck as well: the `Do` is parked in `push` because
the queue is full and the pool was never started (the `state = 0` case of `blocked_do_backpressure`) -/
theorem parked_do_before_stop :
    Reach (M P10) parkedEarly ∧ Stuck parkedEarly ∧ lOf P10 parkedEarly 2 = .push 1 ∧
    (gOf P10 parkedEarly).state = 0 ∧ (gOf P10 parkedEarly).q = [0] ∧ (gOf P10 parkedEarly).readers = 1 := by
  refine ⟨reach_run (M P10) _ Reach.init _, ?_, by decide, by decide, by decide, by decide⟩
  refine blocked_stuck ?_
  exact forall_threads (ls := lOf P10 parkedEarly) parkedEarly_support
    (fun l => blockedAt (gOf P10 parkedEarly) l = true) (by decide) (by decide)

/-- the configuration in the middle of `parkedTrace` (after 12 events): the `Do` is parked holding the read lock, `Stop`
has cancelled and is waiting for the write lock -/
theorem parked_do_midpoint :
    let c := (run (M P10) (Config.init (M P10)) (parkedTrace.take 12)).1
    lOf P10 c 2 = .push 1 ∧ lOf P10 c 0 = .sp3b ∧ (gOf P10 c).readers = 1 ∧ (gOf P10 c).wpending = true ∧
    (gOf P10 c).ctxDone = true ∧ (gOf P10 c).q = [0] ∧ (gOf P10 c).state = 2 := by
  decide

/-- … and the end of the run: a stuck configuration, reachable, in which everybody is at rest, `Stop` and both `Do`s have
returned, and both tasks have exactly one (error) result, neither was executed -/
theorem parked_do_released_by_stop :
    Reach (M P10) parkedFinal ∧ Stuck parkedFinal ∧ (∀ t, atRest (parkedFinal.l t)) ∧
    (gOf P10 parkedFinal).state = 2 ∧
    ((gOf P10 parkedFinal).task 0).results = [.errPool] ∧ ((gOf P10 parkedFinal).task 0).exec = 0 ∧
    ((gOf P10 parkedFinal).task 1).results = [.errPool] ∧ ((gOf P10 parkedFinal).task 1).exec = 0 ∧
    logOf P10 (run (M P10) (Config.init (M P10)) parkedTrace) = [(1, .retDo 0), (2, .retDo 1), (0, .retStop)] := by
  have hidle : ∀ t, lOf P10 parkedFinal t = .idle :=
    forall_threads (ls := lOf P10 parkedFinal) parkedFinal_support (fun l => l = .idle) rfl (by decide)
  refine ⟨reach_run (M P10) _ Reach.init _, ?_, fun t => Or.inl (hidle t), by decide, by decide, by decide, by decide,
    by decide, by decide⟩
  refine blocked_stuck (fun t => ?_)
  show blockedAt (gOf P10 parkedFinal) (lOf P10 parkedFinal t) = true
  rw [hidle t]
  decide

/-! ### (b) The seeded bug: `Stop` takes the write lock before cancelling the context

`stepBadCore` is `Garr.Pool.step` with the two `Stop` steps swapped: CAS; `submitLock.Lock()` (`sp2`, `sp3a`); `cancel()`
(`sp3b`); close; unlock; `wg.Wait()`; drain.  Everything else is copied verbatim. -/

def stepBadCore (P : Params) (g : G) : L → Act → Option (G × L × List Obs)
  | .idle, .callDo c => some (newTask g c, .d1 g.tasks.length, [])
  | .idle, .callTry c => some (newTask g c, .t1 g.tasks.length, [])
  | .idle, .callStart => some (g, .st0, [])
  | .idle, .callStop => some (g, .sp0, [])
  | .idle, .beFixed => if 0 < g.spawnFixed then some ({ g with spawnFixed := g.spawnFixed - 1 }, .w0, []) else none
  | .idle, .beExp => if 0 < g.spawnExp then some ({ g with spawnExp := g.spawnExp - 1 }, .e0 (g.now + P.lifetime), []) else none
  | .idle, .cancelTask u => some (g.setTask u { g.task u with tdone := true }, .idle, [])
  | .idle, .cancelParent => some ({ g with ctxDone := true }, .idle, [])
  | .idle, .advance d => some ({ g with now := g.now + d }, .idle, [])
  | .idle, .finish u => if (g.task u).released then none else some (g.setTask u { g.task u with released := true }, .idle, [])
  -- Do
  | .d1 u, .tau => if g.writer || g.wpending then none else some ({ g with readers := g.readers + 1 }, .d2 u, [])
  | .d2 u, .tau =>
      if g.state = 2 then some (g, .d3 u, [])
      else if P.limit = 0 then some (g, .push u, []) else some (g, .dsel u, [])
  | .d3 u, .tau => (sendRes g u .errPool).map (·, .d9 u, [])
  | .dsel u, .tau =>
      if g.closed then some ({ g with panics := g.panics + 1 }, .panicked, [])
      else if g.q.length < 1 then some (enqueue g u, .d9 u, [])
      else some (g, .dres u, [])
  | .dres u, .tau =>
      let g' := { g with expanded := g.expanded + 1 }
      if g'.expanded ≤ (P.limit : Int) then some (g', .dspawn u, []) else some (g', .dundo u, [])
  | .dspawn u, .tau => some ({ g with wg := g.wg + 1, spawnExp := g.spawnExp + 1 }, .push u, [])
  | .dundo u, .tau => some ({ g with expanded := g.expanded - 1 }, .push u, [])
  | .push u, .choose k =>
      match selCase g u k with
      | some (g', true) => some (g', .panicked, [])
      | some (g', false) => some (g', .d9 u, [])
      | none => none
  | .d9 u, .tau => some ({ g with readers := g.readers - 1 }, .idle, [.retDo u])
  -- TryDo
  | .t1 u, .tau =>
      if g.writer || g.wpending then some (g, .t3 u false, []) else some ({ g with readers := g.readers + 1 }, .t2 u, [])
  | .t2 u, .tau => if g.state = 2 then some (g, .t3 u true, []) else some (g, .tsel u, [])
  | .t3 u locked, .tau =>
      (sendRes g u .errPool).map (fun g' => (g', if locked then .t9 u false else .idle, if locked then [] else [.retTry u false]))
  | .tsel u, .choose k =>
      if k = 3 then
        if (selCase g u 0).isNone && (selCase g u 1).isNone && (selCase g u 2).isNone
        then some (g, .t9 u false, []) else none
      else match selCase g u k with
        | some (g', true) => some (g', .panicked, [])
        | some (g', false) => some (g', .t9 u (k == 2), [])
        | none => none
  | .t9 u r, .tau => some ({ g with readers := g.readers - 1 }, .idle, [.retTry u r])
  -- fixed worker
  | .w0, .tau =>
      match g.q with
      | u :: rest => some (runTask g u rest, .wexec u, [.execStart u])
      | [] => if g.closed then some ({ g with wg := g.wg - 1 }, .wdone, []) else none
  | .wexec u, .tau => if (g.task u).released then some (g, .wsend u, []) else none
  | .wsend u, .tau => (sendRes g u .val).map (·, .w0, [])
  | .wdone, .tau => some (g, .exited, [])
  -- expanded worker
  | .e0 dl, .choose k =>
      if k = 0 then
        match g.q with
        | u :: rest => some (runTask g u rest, .eexec u, [.execStart u])
        | [] => if g.closed then some (g, .eexit, []) else none
      else if k = 1 then (if dl ≤ g.now then some (g, .eexit, []) else none)
      else none
  | .eexec u, .tau => if (g.task u).released then some (g, .esend u, []) else none
  | .esend u, .tau => (sendRes g u .val).map (·, .e0 (g.now + P.lifetime), [])
  | .eexit, .tau => some ({ g with wg := g.wg - 1 }, .eexit2, [])
  | .eexit2, .tau => some ({ g with expanded := g.expanded - 1 }, .exited, [])
  -- Start
  | .st0, .tau => if g.writer || g.wpending then none else some ({ g with readers := g.readers + 1 }, .st0c, [])
  | .st0c, .tau =>
      if g.state = 0 then some ({ g with state := 1 }, .st1, []) else some (g, .st2, [])
  | .st1, .tau => some ({ g with wg := g.wg + P.nworker, spawnFixed := g.spawnFixed + P.nworker }, .st2, [])
  | .st2, .tau => some ({ g with readers := g.readers - 1 }, .idle, [.retStart])
  -- Stop, with `Lock()` BEFORE `cancel()`
  | .sp0, .tau => if g.state = 0 then some ({ g with state := 2 }, .sp2, []) else some (g, .sp1, [])
  | .sp1, .tau => if g.state = 1 then some ({ g with state := 2 }, .sp2, []) else some (g, .idle, [.retStop])
  | .sp2, .tau => if g.writer || g.wpending then none else some ({ g with wpending := true }, .sp3a, [])      -- Lock (1)
  | .sp3a, .tau => if g.readers = 0 then some ({ g with wpending := false, writer := true }, .sp3b, []) else none  -- Lock (2)
  | .sp3b, .tau => some ({ g with ctxDone := true }, .sp3c, [])                                                -- cancel()
  | .sp3c, .tau => if g.closed then some ({ g with panics := g.panics + 1 }, .panicked, []) else some ({ g with closed := true }, .sp3d, [])
  | .sp3d, .tau => some ({ g with writer := false }, .sp4, [])
  | .sp4, .tau => if g.wg = 0 then some (g, .sp5, []) else none
  | .sp5, .tau =>
      match g.q with
      | u :: rest => some ({ g with q := rest }, .sp5s u, [])
      | [] => some (g, .idle, [.retStop])
  | .sp5s u, .tau => (sendRes g u .errPool).map (·, .sp5, [])
  | _, _ => none

def stepBad (P : Params) (_t : Tid) (g : G) (l : L) (a : Act) : Option (G × L × List Obs) := stepBadCore P g l a

def MBad (P : Params) : Machine where
  G := G
  L := L
  Act := Act
  Obs := Obs
  init := {}
  idle := .idle
  step := stepBad P

theorem selCase_ge (g : G) (u k : Nat) (hk : 3 ≤ k) : selCase g u k = none := by
  match k with
  | 0 | 1 | 2 => omega
  | k + 3 => rfl

theorem stepBad_choose_ge (P : Params) (g : G) (l : L) (k : Nat) (hk : 4 ≤ k) :
    stepBad P 0 g l (.choose k) = none := by
  have h3 : ¬ k = 3 := by omega
  have h0 : ¬ k = 0 := by omega
  have h1 : ¬ k = 1 := by omega
  cases l
  case push | tsel | e0 => simp [stepBad, stepBadCore, selCase_ge g _ k (by omega), h3, h0, h1]
  all_goals rfl

def lOfB (P : Params) (c : Config (MBad P)) (t : Tid) : L := c.l t
def gOfB (P : Params) (c : Config (MBad P)) : G := c.g

/-- the interleaving of `parkedTrace` up to the point where `Stop` asks for the lock -/
def deadlockTrace : List (Tid × Act) :=
  [ (1, .callDo .never), (1, .tau), (1, .tau), (1, .choose 2), (1, .tau),   -- Do(task 0): buffered, returns
    (2, .callDo .never), (2, .tau), (2, .tau),                               -- Do(task 1): RLock, not stopped, parked in push
    (0, .callStop), (0, .tau), (0, .tau) ]                                   -- Stop: CAS 0→2, Lock: writer pending, waits for the reader

def deadlockFinal : Config (MBad P10) := (run (MBad P10) (Config.init (MBad P10)) deadlockTrace).1

theorem deadlockFinal_support : Support 3 (lOfB P10 deadlockFinal) :=
  run_support (MBad P10) deadlockTrace 3 _ (fun _ _ => rfl) (by decide)

/-- (b) On the variant in which `Stop` takes the write lock before it cancels the context, the same interleaving ends in
a stuck configuration of a stopped pool (`state = 2`) in which the `Do` is parked in `push` — holding the read lock,
with nobody to drain the queue and the context not cancelled — and `Stop` waits for the write lock: a deadlock.  No
environment action other than cancelling the parent context can ever release them.  `stuck_after_stop` proves that
this cannot happen in `Garr.Pool.M P`. -/
theorem lock_before_cancel_deadlocks :
    Reach (MBad P10) deadlockFinal ∧
    StuckStep (stepBad P10) (gOfB P10 deadlockFinal) (lOfB P10 deadlockFinal) ∧
    (gOfB P10 deadlockFinal).state = 2 ∧
    lOfB P10 deadlockFinal 2 = .push 1 ∧ lOfB P10 deadlockFinal 0 = .sp3a ∧
    (gOfB P10 deadlockFinal).readers = 1 ∧ (gOfB P10 deadlockFinal).wpending = true ∧
    (gOfB P10 deadlockFinal).ctxDone = false ∧ (gOfB P10 deadlockFinal).q = [0] ∧
    ((gOfB P10 deadlockFinal).task 0).results = [] ∧ ((gOfB P10 deadlockFinal).task 1).results = [] := by
  refine ⟨reach_run (MBad P10) _ Reach.init _, ?_, by decide, by decide, by decide, by decide, by decide, by decide,
    by decide, by decide, by decide⟩
  refine stuck_of_local (fun _ _ _ _ => rfl) (stepBad_choose_ge P10) ?_
  exact forall_threads deadlockFinal_support
    (fun l => localStuck (stepBad P10) (gOfB P10 deadlockFinal) l = true) (by decide) (by decide)

/-! ### The expansion limit need not be exhausted when a `Do` is blocked

1 fixed + 1 expandable worker.  The fixed worker runs task 0 (not released), task 1 is queued, `Do(task 2)` finds the
queue full, spawns the expanded worker and parks in `push`.  Time passes; the expanded worker's `select` has both cases
ready (a queued task, the expired timer) and Go picks one at random: the timer.  The worker leaves.  The `Do` stays
parked although no expanded worker exists and `expanded = 0 < ExpandableLimit`. -/

def PX : Params := { nworker := 1, limit := 1, lifetime := 1 }

def expiryTrace : List (Tid × Act) :=
  [ (0, .callStart), (0, .tau), (0, .tau), (0, .tau), (0, .tau),            -- Start
    (1, .beFixed),
    (2, .callDo .never), (2, .tau), (2, .tau), (2, .tau), (2, .tau),        -- task 0 queued
    (1, .tau),                                                              -- the fixed worker runs task 0
    (2, .callDo .never), (2, .tau), (2, .tau), (2, .tau), (2, .tau),        -- task 1 queued
    (3, .callDo .never), (3, .tau), (3, .tau), (3, .tau),                   -- task 2: queue full → reserve
    (3, .tau), (3, .tau),                                                   -- reservation within the limit → spawn, park in push
    (4, .beExp),                                                            -- the expanded worker starts, deadline 1
    (5, .advance 1),                                                        -- time passes
    (4, .choose 1), (4, .tau), (4, .tau) ]                                  -- the timer case is chosen: wg.Done, expanded-1, gone

def expiryFinal : Config (M PX) := (run (M PX) (Config.init (M PX)) expiryTrace).1

theorem expiryFinal_support : Support 6 expiryFinal.l :=
  run_support (M PX) expiryTrace 6 _ (fun _ _ => rfl) (by decide)

theorem blocked_do_limit_not_exhausted :
    Reach (M PX) expiryFinal ∧ Stuck expiryFinal ∧
    lOf PX expiryFinal 3 = .push 2 ∧ lOf PX expiryFinal 1 = .wexec 0 ∧ lOf PX expiryFinal 4 = .exited ∧
    (gOf PX expiryFinal).q = [1] ∧ (gOf PX expiryFinal).state = 1 ∧ (gOf PX expiryFinal).expanded = 0 ∧
    (∀ t, expPre (expiryFinal.l t) = false) := by
  refine ⟨reach_run (M PX) _ Reach.init _, ?_, by decide, by decide, by decide, by decide, by decide, by decide, ?_⟩
  · refine blocked_stuck ?_
    exact forall_threads (ls := lOf PX expiryFinal) expiryFinal_support
      (fun l => blockedAt (gOf PX expiryFinal) l = true) (by decide) (by decide)
  · exact forall_threads (ls := lOf PX expiryFinal) expiryFinal_support (fun l => expPre l = false) rfl (by decide)

end Garr.Props.PoolProgress

#print axioms Garr.Props.PoolProgress.stuck_iff
#print axioms Garr.Props.PoolProgress.stuck_after_stop
#print axioms Garr.Props.PoolProgress.no_deadlock_after_stop
#print axioms Garr.Props.PoolProgress.stuck_after_stop_call
#print axioms Garr.Props.PoolProgress.readers_enabled_while_stop_waits
#print axioms Garr.Props.PoolProgress.nobody_waits_for_lock
#print axioms Garr.Props.PoolProgress.stuck_before_stop
#print axioms Garr.Props.PoolProgress.stuck_threads
#print axioms Garr.Props.PoolProgress.trydo_start_stop_never_hang
#print axioms Garr.Props.PoolProgress.stop_returns
#print axioms Garr.Props.PoolProgress.blocked_do_backpressure
#print axioms Garr.Props.PoolProgress.internal_steps_bounded
#print axioms Garr.Props.PoolProgress.internal_steps_potential
#print axioms Garr.Props.PoolProgress.finitely_many_threads
#print axioms Garr.Props.PoolProgress.stuck_reachable
#print axioms Garr.Props.PoolProgress.maximal_run_stuck
#print axioms Garr.Props.PoolProgress.stop_never_hangs
#print axioms Garr.Props.PoolProgress.do_outcome
#print axioms Garr.Props.PoolProgress.do_never_hangs
#print axioms Garr.Props.PoolProgress.parked_do_before_stop
#print axioms Garr.Props.PoolProgress.parked_do_midpoint
#print axioms Garr.Props.PoolProgress.parked_do_released_by_stop
#print axioms Garr.Props.PoolProgress.lock_before_cancel_deadlocks
#print axioms Garr.Props.PoolProgress.blocked_do_limit_not_exhausted
