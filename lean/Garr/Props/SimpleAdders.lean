import Garr.Adder.SimpleInv
/-!
# C02 / C16 for the simple adders: `AtomicAdder`, `RandomCellAdder` (and the CAS-loop structure of `AtomicF64Adder`)

All theorems are about the machine `Garr.Adder.Simple.M P` — unboundedly many threads, every schedule,
every outcome of the random draw.  "Integer instance" (`IntInst P`) means `P.alg = intAlg` and `P.n ≥ 1`:
it covers `atomicP` (1 cell, `atomic.AddInt64`), `randomCellP` (128 cells, random cell) and also the
integer CAS-loop variants (`casLoop = true`).

This machine does not gate the maintenance operations (`Reset`, `SumAndReset`, `Store`) by a ghost, so the
statements carry the restriction explicitly: `UpdatesOnly s` — the schedule invokes none of them — and
"no thread is inside a maintenance operation" for the start configuration.

* **C02** `sum_after_adds`: run any `UpdatesOnly` schedule from the initial configuration; once no `Add` is
  in flight, a `Sum` (run by any idle thread) returns `wrap64` of the exact total of the operands of all
  `Add` invocations the schedule made.  `conservation` is the underlying invariant
  `Σ cells = applied = Σ lp`, `add_once` says that every `Add x` takes effect exactly once, at the step
  that emits `lp x` together with its response.
* **C16** `sum_solo`, `add_solo`, `store_solo`, `reset_solo`, `sumAndReset_solo`, `phase`, and the compositions
  `store_then_sum`, `reset_then_sum`, `sumAndReset_then_sum`, `store_phase_sum`: from a reachable all-idle
  configuration the adder behaves like the single number `total g` (the exact sum of the cells):
  `Sum` returns it (wrapped), `Add x` adds `x`, `Store v` makes it `v`, `Reset` makes it `0`,
  `SumAndReset` returns it and leaves `0`, and a following phase of concurrent updates accumulates on top.
  The ghost `applied` tracks updates only (maintenance steps leave it alone), so C16 is phrased with `total`.
-/
namespace Garr.Props.SimpleAdders
open Garr Garr.Conc Garr.Adder.Simple
open Garr.Adder (Obs intAlg floatAlg)

/-- the integer instances: at least one cell, integer algebra (exact ghost value in the heap, loads wrap) -/
structure IntInst (P : Params) : Prop where
  alg : P.alg = intAlg
  pos : 0 < P.n

theorem atomic_inst : IntInst atomicP := ⟨rfl, by decide⟩
theorem randomCell_inst : IntInst randomCellP := ⟨rfl, by decide⟩
/-- the CAS-loop variants over the integers are covered too -/
theorem casInt_inst (n : Nat) (hn : 0 < n) (d : Bool) : IntInst ⟨n, d, true, intAlg⟩ := ⟨rfl, hn⟩

/-- the schedule invokes no maintenance operation -/
def UpdatesOnly (s : List (Tid × SAct)) : Prop := ∀ e ∈ s, isMaintAct e.2 = false

theorem length_cells {P : Params} (hn : 0 < P.n) {c : Config (M P)} (hr : Reach (M P) c) :
    (SG.cells c.g).length = P.n :=
  (sinv_reach P hn c hr).len

/-- **Every `Add x` takes effect exactly once** (any value algebra — `AtomicF64Adder` included).
    A step of a thread inside `Add x` is either silent (shared state untouched, still inside `Add x`) or it
    is the effect step — the `atomic.AddInt64`, or the CAS that finds the loaded value still in the
    cell — which replaces cell `j` by `alg.add (cell j) x`, emits `lp x` with the response and ends the call. -/
theorem add_once {P : Params} {t : Tid} {g : SG} {l : SL} {a : SAct} {g' : SG} {l' : SL} {obs : List Obs} {x : Int}
    (hx : addArg l = some x) (hs : (M P).step t g l a = some (g', l', obs)) :
    (obs = [] ∧ g' = g ∧ addArg l' = some x) ∨
    (obs = [.lp x, .ret none] ∧ l' = .idle ∧
      ∃ j, (l = .addAt x j ∨ l = .addCas x j (P.alg.view (cellAt g j))) ∧
        g'.cells = g.cells.set j (P.alg.add (cellAt g j) x) ∧ g'.applied = g.applied + x) := by
  induction sstep_of_step (t := t) hs <;> simp only [addArg, Option.some.injEq, reduceCtorEq] at hx
  case draw => subst hx; exact Or.inl ⟨rfl, rfl, addArg_drawn _ _ _⟩
  case addAt x' j => subst hx; exact Or.inr ⟨rfl, rfl, j, Or.inl rfl, rfl, rfl⟩
  case addLd => subst hx; exact Or.inl ⟨rfl, rfl, rfl⟩
  case casOk x' j old hc => subst hx; subst hc; exact Or.inr ⟨rfl, rfl, j, Or.inr rfl, rfl, rfl⟩
  case casFail => subst hx; exact Or.inl ⟨rfl, rfl, rfl⟩

/-- conversely an `lp x` is emitted only by a thread inside `Add x` … -/
theorem lp_only_in_add {P : Params} {t : Tid} {g : SG} {l : SL} {a : SAct} {g' : SG} {l' : SL} {obs : List Obs}
    {x : Int} (hs : (M P).step t g l a = some (g', l', obs)) (hlp : Obs.lp x ∈ obs) : addArg l = some x := by
  induction sstep_of_step (t := t) hs <;> simp at hlp <;> subst hlp <;> rfl

/-- … and a failed CAS changes nothing and retries from the load -/
theorem cas_fail_retries {P : Params} {t : Tid} {g : SG} {x : Int} {j : Nat} {old : Int}
    (h : P.alg.view (cellAt g j) ≠ old) :
    (M P).step t g (.addCas x j old) .tau = some (g, .addLd x j, []) :=
  step_of_sstep t (.casFail x j old h)

/-- float twin: the successful CAS stores the IEEE sum of the cell and the operand, exactly once per `Add` -/
theorem f64_add_effect {t : Tid} {g : SG} {x : Int} {old : Int} (h : cellAt g 0 = old) :
    (M atomicF64P).step t g (.addCas x 0 old) .tau =
      some ({ cells := g.cells.set 0 (floatAlg.add (cellAt g 0) x), applied := g.applied + x }, .idle,
        [.lp x, .ret none]) :=
  step_of_sstep t (.casOk (P := atomicF64P) x 0 old h)

/-- **Conservation.**  Along every schedule from the initial configuration that invokes no maintenance
    operation — any interleaving, any outcomes of the random draws — the exact sum of the cells equals
    the ghost `applied`, which equals the sum of the `lp` markers of the log. -/
theorem conservation {P : Params} (hP : IntInst P) (s : List (Tid × SAct)) (hs : UpdatesOnly s) :
    total (run (M P) (Config.init (M P)) s).1.g = SG.applied (run (M P) (Config.init (M P)) s).1.g ∧
    SG.applied (run (M P) (Config.init (M P)) s).1.g = lpSumLog (run (M P) (Config.init (M P)) s).2 :=
  applied_eq_total hP.alg hP.pos s hs

/-- once no `Add` is in flight the `lp`s are exactly the accepted `Add` invocations (any parameters) -/
theorem lps_are_invocations {P : Params} (s : List (Tid × SAct))
    (hq : ∀ u, addArg ((run (M P) (Config.init (M P)) s).1.l u) = none) :
    lpSumLog (run (M P) (Config.init (M P)) s).2 = invoked P s :=
  lp_eq_invoked_from (Config.init (M P)) s (fun _ => rfl) hq

/-- **C02.**  Run any schedule `s` of `Add`s and `Sum`s from the initial configuration.  If in the
    configuration reached every `Add` call has returned (no thread is inside one) and `t` is idle, then
    `Sum` run by `t` returns — after exactly `n` steps, leaving the configuration as it was —
    `wrap64 (invoked P s)`: the two's-complement wrap of the exact total of all values added. -/
theorem sum_after_adds {P : Params} (hP : IntInst P) (s : List (Tid × SAct)) (hs : UpdatesOnly s)
    (hq : ∀ u, addArg ((run (M P) (Config.init (M P)) s).1.l u) = none)
    (t : Tid) (ht : (run (M P) (Config.init (M P)) s).1.l t = SL.idle) :
    run (M P) (run (M P) (Config.init (M P)) s).1 ((t, SAct.sum) :: List.replicate P.n (t, SAct.tau)) =
      ((run (M P) (Config.init (M P)) s).1, [(t, Obs.ret (some (wrap64 (invoked P s))))]) := by
  have hr : Reach (M P) (run (M P) (Config.init (M P)) s).1 := reach_run (M P) _ Reach.init s
  obtain ⟨h1, h2⟩ := sum_solo_simple hP.alg hP.pos hr t ht
  obtain ⟨k1, k2⟩ := conservation hP s hs
  have e : total (run (M P) (Config.init (M P)) s).1.g = invoked P s := by
    rw [k1, k2, lps_are_invocations s hq]
  rw [e] at h2
  exact Garr.Adder.run_invoke_solo h1 h2

/-- C02 for `AtomicAdder` -/
theorem sum_after_adds_atomic (s : List (Tid × SAct)) (hs : UpdatesOnly s)
    (hq : ∀ u, addArg ((run (M atomicP) (Config.init (M atomicP)) s).1.l u) = none)
    (t : Tid) (ht : (run (M atomicP) (Config.init (M atomicP)) s).1.l t = SL.idle) :
    run (M atomicP) (run (M atomicP) (Config.init (M atomicP)) s).1 [(t, SAct.sum), (t, SAct.tau)] =
      ((run (M atomicP) (Config.init (M atomicP)) s).1, [(t, Obs.ret (some (wrap64 (invoked atomicP s))))]) :=
  sum_after_adds atomic_inst s hs hq t ht

/-- C02 for `RandomCellAdder`: whatever cells the draws picked -/
theorem sum_after_adds_randomCell (s : List (Tid × SAct)) (hs : UpdatesOnly s)
    (hq : ∀ u, addArg ((run (M randomCellP) (Config.init (M randomCellP)) s).1.l u) = none)
    (t : Tid) (ht : (run (M randomCellP) (Config.init (M randomCellP)) s).1.l t = SL.idle) :
    run (M randomCellP) (run (M randomCellP) (Config.init (M randomCellP)) s).1
        ((t, SAct.sum) :: List.replicate 128 (t, SAct.tau)) =
      ((run (M randomCellP) (Config.init (M randomCellP)) s).1,
        [(t, Obs.ret (some (wrap64 (invoked randomCellP s))))]) :=
  sum_after_adds randomCell_inst s hs hq t ht

/-- `Sum` by an idle thread, alone: returns `wrap64 (total g)` in `n` steps, configuration unchanged -/
theorem sum_solo {P : Params} (hP : IntInst P) {c : Config (M P)} (hr : Reach (M P) c) (t : Tid)
    (ht : c.l t = SL.idle) :
    run (M P) c ((t, SAct.sum) :: List.replicate P.n (t, SAct.tau)) =
      (c, [(t, Obs.ret (some (wrap64 (total c.g))))]) := by
  obtain ⟨h1, h2⟩ := sum_solo_simple hP.alg hP.pos hr t ht
  exact Garr.Adder.run_invoke_solo h1 h2

/-- `Add x` by an idle thread, alone: the total grows by exactly `x`, every thread's locals are as before -/
theorem add_solo {P : Params} (hP : IntInst P) {c : Config (M P)} (hr : Reach (M P) c) (t : Tid)
    (ht : c.l t = SL.idle) (x : Int) (w : Nat) :
    ∃ c', run (M P) c (addSched P t x w) = (c', [(t, Obs.lp x), (t, Obs.ret none)]) ∧
      Reach (M P) c' ∧ c'.l = c.l ∧ total c'.g = total c.g + x := by
  obtain ⟨j, hj, hrun⟩ := add_solo_simple hP.pos c t ht x w
  refine ⟨_, hrun, ?_, rfl, ?_⟩
  · have := reach_run (M P) c hr (addSched P t x w)
    rw [hrun] at this
    exact this
  · exact total_applyAdd hP.alg x (by rw [(sinv_reach P hP.pos c hr).len]; exact hj)

/-- `Store v`, alone from an all-idle configuration: `n` steps; afterwards the cells are `v, 0, …, 0` -/
theorem store_solo {P : Params} (hP : IntInst P) {c : Config (M P)} (hr : Reach (M P) c)
    (hidle : ∀ u, c.l u = SL.idle) (t : Tid) (v : Int) :
    ∃ c', run (M P) c ((t, SAct.store v) :: List.replicate P.n (t, SAct.tau)) = (c', [(t, Obs.ret none)]) ∧
      Reach (M P) c' ∧ (∀ u, c'.l u = SL.idle) ∧
      SG.cells c'.g = v :: List.replicate (P.n - 1) 0 ∧ total c'.g = v := by
  obtain ⟨h1, c', h2, h3, h4, h5, h6, _⟩ := store_solo_simple hP.pos hr hidle t v
  exact ⟨c', Garr.Adder.run_invoke_solo h1 h2, h3, h4, h5, h6⟩

/-- `Reset`, alone from an all-idle configuration: `n` steps; afterwards all cells are zero -/
theorem reset_solo {P : Params} (hP : IntInst P) {c : Config (M P)} (hr : Reach (M P) c)
    (hidle : ∀ u, c.l u = SL.idle) (t : Tid) :
    ∃ c', run (M P) c ((t, SAct.reset) :: List.replicate P.n (t, SAct.tau)) = (c', [(t, Obs.ret none)]) ∧
      Reach (M P) c' ∧ (∀ u, c'.l u = SL.idle) ∧
      SG.cells c'.g = List.replicate P.n 0 ∧ total c'.g = 0 := by
  obtain ⟨h1, c', h2, h3, h4, h5, h6, _⟩ := reset_solo_simple hP.pos hr hidle t
  exact ⟨c', Garr.Adder.run_invoke_solo h1 h2, h3, h4, h5, h6⟩

/-- `SumAndReset`, alone from an all-idle configuration: `2n` steps, returns `wrap64 (total g)`, afterwards
    all cells are zero -/
theorem sumAndReset_solo {P : Params} (hP : IntInst P) {c : Config (M P)} (hr : Reach (M P) c)
    (hidle : ∀ u, c.l u = SL.idle) (t : Tid) :
    ∃ c', run (M P) c ((t, SAct.sumAndReset) :: List.replicate (2 * P.n) (t, SAct.tau)) =
        (c', [(t, Obs.ret (some (wrap64 (total c.g))))]) ∧
      Reach (M P) c' ∧ (∀ u, c'.l u = SL.idle) ∧
      SG.cells c'.g = List.replicate P.n 0 ∧ total c'.g = 0 := by
  obtain ⟨h1, c', h2, h3, h4, h5, h6, _⟩ := sumAndReset_solo_simple hP.alg hP.pos hr hidle t
  exact ⟨c', Garr.Adder.run_invoke_solo h1 h2, h3, h4, h5, h6⟩

/-- **A phase of concurrent updates accumulates on top.**  From a reachable configuration in which no thread
    is inside a maintenance operation (e.g. all idle, e.g. right after a `Store`), along any schedule that
    invokes none, the exact total grows by the sum of the `lp`s; and when no `Add` is in flight at either
    end, that is the sum of the operands of the `Add`s invoked in the phase. -/
theorem phase {P : Params} (hP : IntInst P) {c0 : Config (M P)} (hr : Reach (M P) c0)
    (hq0 : ∀ u, inMaint (c0.l u) = false) (s : List (Tid × SAct)) (hs : UpdatesOnly s) :
    total (run (M P) c0 s).1.g = total c0.g + lpSumLog (run (M P) c0 s).2 ∧
    ((∀ u, addArg (c0.l u) = none) → (∀ u, addArg ((run (M P) c0 s).1.l u) = none) →
      total (run (M P) c0 s).1.g = total c0.g + invokedSum P c0.g c0.l s) := by
  obtain ⟨h1, _, _⟩ := sconserve hP.alg hP.pos hr hq0 s hs
  refine ⟨h1, fun ha0 ha => ?_⟩
  rw [h1, lp_eq_invoked_from c0 s ha0 ha]

/-- `Store v` then `Sum` (by any thread): returns `wrap64 v` -/
theorem store_then_sum {P : Params} (hP : IntInst P) {c : Config (M P)} (hr : Reach (M P) c)
    (hidle : ∀ u, c.l u = SL.idle) (t u : Tid) (v : Int) :
    ∃ c', run (M P) c ((t, SAct.store v) :: List.replicate P.n (t, SAct.tau)) = (c', [(t, Obs.ret none)]) ∧
      run (M P) c' ((u, SAct.sum) :: List.replicate P.n (u, SAct.tau)) = (c', [(u, Obs.ret (some (wrap64 v)))]) := by
  obtain ⟨c', h1, h2, h3, _, h5⟩ := store_solo hP hr hidle t v
  have := sum_solo hP h2 u (h3 u)
  rw [h5] at this
  exact ⟨c', h1, this⟩

/-- `Reset` then `Sum`: returns `0` -/
theorem reset_then_sum {P : Params} (hP : IntInst P) {c : Config (M P)} (hr : Reach (M P) c)
    (hidle : ∀ u, c.l u = SL.idle) (t u : Tid) :
    ∃ c', run (M P) c ((t, SAct.reset) :: List.replicate P.n (t, SAct.tau)) = (c', [(t, Obs.ret none)]) ∧
      run (M P) c' ((u, SAct.sum) :: List.replicate P.n (u, SAct.tau)) = (c', [(u, Obs.ret (some 0))]) := by
  obtain ⟨c', h1, h2, h3, _, h5⟩ := reset_solo hP hr hidle t
  have := sum_solo hP h2 u (h3 u)
  rw [h5, wrap64_zero] at this
  exact ⟨c', h1, this⟩

/-- `SumAndReset` returns the current value, a following `Sum` returns `0` -/
theorem sumAndReset_then_sum {P : Params} (hP : IntInst P) {c : Config (M P)} (hr : Reach (M P) c)
    (hidle : ∀ u, c.l u = SL.idle) (t u : Tid) :
    ∃ c', run (M P) c ((t, SAct.sumAndReset) :: List.replicate (2 * P.n) (t, SAct.tau)) =
        (c', [(t, Obs.ret (some (wrap64 (total c.g))))]) ∧
      run (M P) c' ((u, SAct.sum) :: List.replicate P.n (u, SAct.tau)) = (c', [(u, Obs.ret (some 0))]) := by
  obtain ⟨c', h1, h2, h3, _, h5⟩ := sumAndReset_solo hP hr hidle t
  have := sum_solo hP h2 u (h3 u)
  rw [h5, wrap64_zero] at this
  exact ⟨c', h1, this⟩

/-- **C16, composed.**  `Store v`, then any phase `s` of concurrent `Add`s / `Sum`s; once no `Add` is in
    flight, `Sum` returns `wrap64 (v + Σ operands of the Adds of the phase)`. -/
theorem store_phase_sum {P : Params} (hP : IntInst P) {c : Config (M P)} (hr : Reach (M P) c)
    (hidle : ∀ u, c.l u = SL.idle) (t u : Tid) (v : Int) (s : List (Tid × SAct)) (hs : UpdatesOnly s) :
    ∃ c', run (M P) c ((t, SAct.store v) :: List.replicate P.n (t, SAct.tau)) = (c', [(t, Obs.ret none)]) ∧
      ((∀ w, addArg ((run (M P) c' s).1.l w) = none) → (run (M P) c' s).1.l u = SL.idle →
        run (M P) (run (M P) c' s).1 ((u, SAct.sum) :: List.replicate P.n (u, SAct.tau)) =
          ((run (M P) c' s).1, [(u, Obs.ret (some (wrap64 (v + invokedSum P c'.g c'.l s))))])) := by
  obtain ⟨c', h1, h2, h3, _, h5⟩ := store_solo hP hr hidle t v
  refine ⟨c', h1, fun ha hu => ?_⟩
  have hph := (phase hP h2 (fun w => by rw [h3 w]; rfl) s hs).2 (fun w => by rw [h3 w]; rfl) ha
  have := sum_solo hP (reach_run (M P) c' h2 s) u hu
  rw [hph, h5] at this
  exact this

instance (s : List (Tid × SAct)) : Decidable (UpdatesOnly s) := by unfold UpdatesOnly; infer_instance

def exLog (P : Params) (s : List (Tid × SAct)) : List (Tid × Obs) := (run (M P) (Config.init (M P)) s).2
def exCells (P : Params) (s : List (Tid × SAct)) : List Int := SG.cells (run (M P) (Config.init (M P)) s).1.g
def exApplied (P : Params) (s : List (Tid × SAct)) : Int := SG.applied (run (M P) (Config.init (M P)) s).1.g

/-- a `Sum` run alone by an idle thread after a schedule `s` logs the wrapped cell total that `s` leaves
    (`sum_solo`): the 128 reads need not be replayed -/
theorem exLog_then_sum {P : Params} (hP : IntInst P) (s : List (Tid × SAct)) (t : Tid)
    (ht : (run (M P) (Config.init (M P)) s).1.l t = SL.idle) :
    exLog P (s ++ (t, SAct.sum) :: List.replicate P.n (t, SAct.tau)) =
      exLog P s ++ [(t, Obs.ret (some (wrap64 (total (run (M P) (Config.init (M P)) s).1.g))))] := by
  have h := run_append (M := M P) (Config.init (M P)) s ((t, SAct.sum) :: List.replicate P.n (t, SAct.tau))
  rw [sum_solo hP (reach_run (M P) _ Reach.init s) t ht] at h
  exact congrArg Prod.snd h

/-- two threads add 5 and 7 concurrently -/
def exAdds : List (Tid × SAct) := [(0, .add 5), (1, .add 7), (1, .tau), (0, .tau)]

/-- `AtomicAdder`: … then a third thread reads 12 -/
example : exLog atomicP (exAdds ++ [(2, .sum), (2, .tau)]) =
    [(1, .lp 7), (1, .ret none), (0, .lp 5), (0, .ret none), (2, .ret (some 12))] := by decide +kernel

example : UpdatesOnly exAdds ∧ invoked atomicP exAdds = 12 ∧ exCells atomicP exAdds = [12] ∧
    exApplied atomicP exAdds = 12 := by decide +kernel

theorem exAdds_quiet : ∀ u, (run (M atomicP) (Config.init (M atomicP)) exAdds).1.l u = SL.idle := by
  intro u
  -- both threads are back to `idle`, nobody else has moved
  show upd (upd (upd (upd (fun _ => SL.idle) 0 (SL.addAt 5 0)) 1 (SL.addAt 7 0)) 1 SL.idle) 0 SL.idle u = SL.idle
  by_cases h0 : u = 0
  · rw [h0, upd_same]
  · rw [upd_other _ _ _ _ h0]
    by_cases h1 : u = 1
    · rw [h1, upd_same]
    · rw [upd_other _ _ _ _ h1, upd_other _ _ _ _ h1, upd_other _ _ _ _ h0]

/-- the hypotheses of `sum_after_adds` are satisfiable: here it yields the read of 12 -/
example : run (M atomicP) (run (M atomicP) (Config.init (M atomicP)) exAdds).1 [(2, SAct.sum), (2, SAct.tau)] =
    ((run (M atomicP) (Config.init (M atomicP)) exAdds).1, [(2, Obs.ret (some 12))]) := by
  have h := sum_after_adds_atomic exAdds (by decide) (fun u => by rw [exAdds_quiet u]; rfl) 2 (exAdds_quiet 2)
  have e : wrap64 (invoked atomicP exAdds) = 12 := by decide +kernel
  rw [e] at h
  exact h

/-- two's-complement wrap-around: `MaxInt64 + 1` reads as `MinInt64` while the ghost total stays exact -/
example : exLog atomicP [(0, .add 9223372036854775807), (0, .tau), (0, .add 1), (0, .tau), (0, .sum), (0, .tau)] =
      [(0, .lp 9223372036854775807), (0, .ret none), (0, .lp 1), (0, .ret none),
       (0, .ret (some (-9223372036854775808)))] ∧
    exCells atomicP [(0, .add 9223372036854775807), (0, .tau), (0, .add 1), (0, .tau)] = [9223372036854775808] := by
  decide +kernel

/-- `RandomCellAdder`: the draws pick cells 3 and 3 again (`131 % 128`); the 128-cell `Sum` reads 12 -/
example : exLog randomCellP
    ([(0, .add 5), (1, .add 7), (0, .rnd 3), (1, .rnd 131), (1, .tau), (0, .tau), (2, .sum)] ++
      List.replicate 128 (2, .tau)) =
    [(1, .lp 7), (1, .ret none), (0, .lp 5), (0, .ret none), (2, .ret (some 12))] :=
  (exLog_then_sum randomCell_inst [(0, .add 5), (1, .add 7), (0, .rnd 3), (1, .rnd 131), (1, .tau), (0, .tau)] 2
    rfl).trans (by decide +kernel)

/-- … and distinct cells (3 and 100): the same `Sum` -/
example : exLog randomCellP
    ([(0, .add 5), (1, .add 7), (0, .rnd 3), (1, .rnd 100), (1, .tau), (0, .tau), (2, .sum)] ++
      List.replicate 128 (2, .tau)) =
    [(1, .lp 7), (1, .ret none), (0, .lp 5), (0, .ret none), (2, .ret (some 12))] :=
  (exLog_then_sum randomCell_inst [(0, .add 5), (1, .add 7), (0, .rnd 3), (1, .rnd 100), (1, .tau), (0, .tau)] 2
    rfl).trans (by decide +kernel)

/-- integer CAS loop: both threads load 0, thread 0's CAS succeeds, thread 1's fails, reloads and succeeds:
    each `Add` takes effect exactly once -/
example : exLog ⟨1, false, true, intAlg⟩
      [(0, .add 5), (1, .add 7), (0, .tau), (1, .tau), (0, .tau), (1, .tau), (1, .tau), (1, .tau), (2, .sum), (2, .tau)] =
      [(0, .lp 5), (0, .ret none), (1, .lp 7), (1, .ret none), (2, .ret (some 12))] ∧
    exLog ⟨1, false, true, intAlg⟩
      [(0, .add 5), (1, .add 7), (0, .tau), (1, .tau), (0, .tau), (1, .tau)] = [(0, .lp 5), (0, .ret none)] := by
  decide +kernel

/-- `AtomicF64Adder`: `1.0 + 2.0 = 3.0` on bit patterns (load, CAS per `Add`) -/
example : exLog atomicF64P
    [(0, .add 4607182418800017408), (0, .tau), (0, .tau), (0, .add 4611686018427387904), (0, .tau), (0, .tau),
     (0, .sum), (0, .tau)] =
    [(0, .lp 4607182418800017408), (0, .ret none), (0, .lp 4611686018427387904), (0, .ret none),
     (0, .ret (some 4613937818241073152))] := by decide +kernel

/-- C16 on three cells, one goroutine: `Add 5`, `Store 9`, `Add 1` (cell 2), `SumAndReset` returns 10, `Sum` returns 0 -/
example : exLog ⟨3, true, false, intAlg⟩
    ([(0, .add 5), (0, .rnd 1), (0, .tau), (0, .store 9), (0, .tau), (0, .tau), (0, .tau),
      (0, .add 1), (0, .rnd 2), (0, .tau), (0, .sumAndReset)] ++ List.replicate 6 (0, .tau) ++
      [(0, .sum), (0, .tau), (0, .tau), (0, .tau)]) =
    [(0, .lp 5), (0, .ret none), (0, .ret none), (0, .lp 1), (0, .ret none), (0, .ret (some 10)),
     (0, .ret (some 0))] := by decide +kernel

example : exCells ⟨3, true, false, intAlg⟩
    [(0, .add 5), (0, .rnd 1), (0, .tau), (0, .store 9), (0, .tau), (0, .tau), (0, .tau),
      (0, .add 1), (0, .rnd 2), (0, .tau)] = [9, 0, 1] := by decide +kernel

/-- why the restriction is needed: an `Add` between the load and the zeroing store of a concurrent
    `SumAndReset` is lost — returned by nobody, kept nowhere (`applied` still counts it) -/
example : exLog atomicP [(0, .sumAndReset), (0, .tau), (1, .add 5), (1, .tau), (0, .tau)] =
      [(1, .lp 5), (1, .ret none), (0, .ret (some 0))] ∧
    exCells atomicP [(0, .sumAndReset), (0, .tau), (1, .add 5), (1, .tau), (0, .tau)] = [0] ∧
    exApplied atomicP [(0, .sumAndReset), (0, .tau), (1, .add 5), (1, .tau), (0, .tau)] = 5 := by decide +kernel

#print axioms Garr.Adder.Simple.sinv_reach
#print axioms Garr.Adder.Simple.sconserve_step
#print axioms Garr.Adder.Simple.sconserve
#print axioms Garr.Adder.Simple.applied_eq_total
#print axioms Garr.Adder.Simple.applied_run
#print axioms Garr.Adder.Simple.lp_eq_invoked_from
#print axioms Garr.Adder.Simple.sum_solo_simple
#print axioms Garr.Adder.Simple.add_solo_simple
#print axioms Garr.Adder.Simple.store_solo_simple
#print axioms Garr.Adder.Simple.reset_solo_simple
#print axioms Garr.Adder.Simple.sumAndReset_solo_simple
#print axioms length_cells
#print axioms add_once
#print axioms lp_only_in_add
#print axioms cas_fail_retries
#print axioms f64_add_effect
#print axioms conservation
#print axioms lps_are_invocations
#print axioms sum_after_adds
#print axioms sum_after_adds_atomic
#print axioms sum_after_adds_randomCell
#print axioms sum_solo
#print axioms add_solo
#print axioms store_solo
#print axioms reset_solo
#print axioms sumAndReset_solo
#print axioms phase
#print axioms store_then_sum
#print axioms reset_then_sum
#print axioms sumAndReset_then_sum
#print axioms store_phase_sum

end Garr.Props.SimpleAdders
