import Garr.Queue.Step
/-!
# Structural invariants of the lock-free queue model

`GInv` is the global shape invariant of the linked structure, `LInv` the per-thread invariant
(relative to the shared state), `Guar` the guarantee every step obeys (so that other threads'
`LInv` is stable: `LInv_stable`).  `step_pres` is the single-step preservation lemma and
`inv_reach` lifts it to every reachable configuration (unboundedly many threads, all schedules).
-/
namespace Garr.Queue
open Garr.Conc

structure GInv (g : G) : Prop where
  npos : 0 < g.n
  head_lt : g.head < g.n
  tail_lt : g.tail < g.n
  -- exactly the node linked last has no successor
  last : ∀ i, i < g.n → (g.next i = none ↔ i + 1 = g.n)
  -- a `next` pointer is a self-link or points forward in link order, and what it jumps over
  -- (after an unlink) is dead
  fwd : ∀ i j, i < g.n → g.next i = some j → j < g.n ∧ (j = i ∨ (i < j ∧ ∀ k, i < k → k < j → g.live k = false))
  dead_before_head : ∀ i, i < g.head → g.live i = false
  -- `updateHead` self-links the old head only after its `casHead` has moved `head` past it
  self_before_head : ∀ i, i < g.n → g.next i = some i → i < g.head

def deadBelow (g : G) (p : Nat) : Prop := ∀ k, k < p → g.live k = false

def deadBetween (g : G) (a b : Nat) : Prop := ∀ k, a < k → k < b → g.live k = false

/-- what an iterator object may rely on between calls -/
def ItInv (g : G) (it : Iter) : Prop :=
  (∀ p, it.nextNode = some p → p < g.n) ∧ (∀ l, it.lastRet = some l → l < g.n) ∧
  (∀ r p, it.prev = some r → it.nextNode = some p → r < p ∧ deadBetween g r p)

/-- what a continuation of `updateHead` may rely on -/
def ContInv (g : G) : Cont → Prop
  | .ret _ => True
  | .size none => True
  | .size (some p) => p < g.n
  | .iter it => ItInv g it

/-- thread-local invariant, relative to the shared state.  Every node position a thread holds is in
    range.  A traversal from `head` (`p*`, `k*`) has seen only dead nodes: everything below its cursor
    `p` is dead, and `p` itself too (`deadBelow g (p+1)`) once its item was read as nil.  `updateHead`
    (`u1`) advances `head` only over dead nodes.  `Next` (`n*`) has seen only dead nodes strictly
    between `pred`, the element it is about to return, and its cursor `p`; in `n0h`/`n2h` the node
    whose `next` was read was self-linked, hence lies before `head`. -/
def LInv (g : G) : L → Prop
  | .idle => True
  | .o0 _ => True
  | .o1 _ t p => t < g.n ∧ p < g.n
  | .o2 _ t p => t < g.n ∧ p < g.n
  | .o3 t nw => t < g.n ∧ nw < g.n
  | .o4 _ t p => t < g.n ∧ p < g.n
  | .o4b _ t => t < g.n
  | .o5 _ t p q => t < g.n ∧ p < g.n ∧ q < g.n
  | .p0 => True
  | .p1 h p => h ≤ p ∧ p < g.n ∧ deadBelow g p
  | .p2 h p => h ≤ p ∧ p < g.n ∧ deadBelow g p
  | .p3 h p _ => h < p ∧ p < g.n ∧ deadBelow g (p+1)
  | .p4 h p => h ≤ p ∧ p < g.n ∧ deadBelow g (p+1)
  | .k0 _ => True
  | .k1 _ h p => h ≤ p ∧ p < g.n ∧ deadBelow g p
  | .k2 _ h p => h ≤ p ∧ p < g.n ∧ deadBelow g (p+1)
  | .u1 h tgt k => h < tgt ∧ tgt < g.n ∧ deadBelow g tgt ∧ ContInv g k
  | .u2 h k => h < g.head ∧ ContInv g k
  | .s1 p _ => p < g.n
  | .s2 p _ => p < g.n
  | .idleIt it => ItInv g it
  | .n0 it pred => pred < g.n ∧ ItInv g it
  | .n0h it pred => pred < g.head ∧ ItInv g it
  | .n1 it pred p => pred < p ∧ p < g.n ∧ deadBetween g pred p ∧ ItInv g it
  | .n2 it pred p => pred < p ∧ p < g.n ∧ deadBetween g pred (p+1) ∧ ItInv g it
  | .n2h it pred p => pred < p ∧ (p < g.head ∧ p < g.n) ∧ deadBetween g pred (p+1) ∧ ItInv g it
  | .n3 it pred p q => pred < p ∧ p < q ∧ q < g.n ∧ deadBetween g pred q ∧ ItInv g it
  | .r0 it l => l < g.n ∧ ItInv g it

def Inv (c : Config M) : Prop := GInv c.g ∧ ∀ t, LInv c.g (c.l t)

/-- the guarantee: how any step may change the shared state -/
structure Guar (g g' : G) : Prop where
  n_mono : g.n ≤ g'.n
  live_mono : ∀ k, k < g.n → g.live k = false → g'.live k = false
  head_mono : g.head ≤ g'.head
  next_some_mono : ∀ i, i < g.n → g.next i ≠ none → g'.next i ≠ none

theorem Guar.refl (g : G) : Guar g g :=
  ⟨Nat.le_refl _, fun _ _ h => h, Nat.le_refl _, fun _ _ h => h⟩

theorem Guar.trans {g₁ g₂ g₃ : G} (h₁ : Guar g₁ g₂) (h₂ : Guar g₂ g₃) : Guar g₁ g₃ :=
  ⟨Nat.le_trans h₁.n_mono h₂.n_mono,
   fun k hk hd => h₂.live_mono k (Nat.lt_of_lt_of_le hk h₁.n_mono) (h₁.live_mono k hk hd),
   Nat.le_trans h₁.head_mono h₂.head_mono,
   fun i hi hn => h₂.next_some_mono i (Nat.lt_of_lt_of_le hi h₁.n_mono) (h₁.next_some_mono i hi hn)⟩

theorem deadBetween_stable {g g' : G} (hG : Guar g g') {a b : Nat} (hb : b ≤ g.n) (h : deadBetween g a b) :
    deadBetween g' a b := fun k h1 h2 => hG.live_mono k (by omega) (h k h1 h2)

theorem deadBelow_stable {g g' : G} (hG : Guar g g') {p : Nat} (hp : p ≤ g.n) (h : deadBelow g p) :
    deadBelow g' p := fun k hk => hG.live_mono k (by omega) (h k hk)

theorem ItInv_stable {g g' : G} (hG : Guar g g') {it : Iter} (h : ItInv g it) : ItInv g' it := by
  have hn := hG.n_mono
  obtain ⟨h1, h2, h3⟩ := h
  refine ⟨fun p hp => by have := h1 p hp; omega, fun l hl => by have := h2 l hl; omega, ?_⟩
  intro r p hr hp
  obtain ⟨a, b⟩ := h3 r p hr hp
  exact ⟨a, deadBetween_stable hG (by have := h1 p hp; omega) b⟩

theorem ContInv_stable {g g' : G} (hG : Guar g g') {k : Cont} (h : ContInv g k) : ContInv g' k := by
  have hn := hG.n_mono
  cases k with
  | ret r => trivial
  | size p =>
    cases p with
    | none => trivial
    | some p => simp only [ContInv] at h ⊢; omega
  | iter it => exact ItInv_stable hG h

theorem LInv_stable {g g' : G} (hG : Guar g g') (l : L) (h : LInv g l) : LInv g' l := by
  have lt : ∀ {x}, x < g.n → x < g'.n := fun hx => Nat.lt_of_lt_of_le hx hG.n_mono
  have lth : ∀ {x}, x < g.head → x < g'.head := fun hx => Nat.lt_of_lt_of_le hx hG.head_mono
  cases l with
  | idle | o0 | p0 | k0 => trivial
  | o1 | o2 | o3 | o4 => exact ⟨lt h.1, lt h.2⟩
  | o4b | s1 | s2 => exact lt h
  | o5 => exact ⟨lt h.1, lt h.2.1, lt h.2.2⟩
  | p1 | p2 | k1 => exact ⟨h.1, lt h.2.1, deadBelow_stable hG (Nat.le_of_lt h.2.1) h.2.2⟩
  | p3 | p4 | k2 => exact ⟨h.1, lt h.2.1, deadBelow_stable hG h.2.1 h.2.2⟩
  | u1 => exact ⟨h.1, lt h.2.1, deadBelow_stable hG (Nat.le_of_lt h.2.1) h.2.2.1, ContInv_stable hG h.2.2.2⟩
  | u2 => exact ⟨lth h.1, ContInv_stable hG h.2⟩
  | idleIt => exact ItInv_stable hG h
  | n0 | r0 => exact ⟨lt h.1, ItInv_stable hG h.2⟩
  | n0h => exact ⟨lth h.1, ItInv_stable hG h.2⟩
  | n1 => exact ⟨h.1, lt h.2.1, deadBetween_stable hG (Nat.le_of_lt h.2.1) h.2.2.1, ItInv_stable hG h.2.2.2⟩
  | n2 => exact ⟨h.1, lt h.2.1, deadBetween_stable hG h.2.1 h.2.2.1, ItInv_stable hG h.2.2.2⟩
  | n2h =>
    exact ⟨h.1, ⟨lth h.2.1.1, lt h.2.1.2⟩, deadBetween_stable hG h.2.1.2 h.2.2.1, ItInv_stable hG h.2.2.2⟩
  | n3 =>
    exact ⟨h.1, h.2.1, lt h.2.2.1, deadBetween_stable hG (Nat.le_of_lt h.2.2.1) h.2.2.2.1,
      ItInv_stable hG h.2.2.2.2⟩

theorem kill_live_of_dead {g : G} (p : Nat) {k : Nat} (h : g.live k = false) : (kill g p).live k = false := by
  simp only [kill]; split
  · rfl
  · exact h

theorem GInv_kill {g : G} (h : GInv g) (p : Nat) : GInv (kill g p) ∧ Guar g (kill g p) :=
  ⟨⟨h.npos, h.head_lt, h.tail_lt, h.last,
    fun i j hi hn => (h.fwd i j hi hn).imp id
      (Or.imp id fun ⟨b1, b2⟩ => ⟨b1, fun k hk1 hk2 => kill_live_of_dead p (b2 k hk1 hk2)⟩),
    fun i hi => kill_live_of_dead p (h.dead_before_head i hi), h.self_before_head⟩,
   ⟨Nat.le_refl _, fun _ _ hk => kill_live_of_dead p hk, Nat.le_refl _, fun _ _ hn => hn⟩⟩

theorem GInv_link {g : G} (h : GInv g) (p v : Nat) (hp : p < g.n) (hnext : g.next p = none) :
    GInv (link g p v) ∧ Guar g (link g p v) := by
  have hlast : p + 1 = g.n := (h.last p hp).1 hnext
  have hnx : ∀ k, (link g p v).next k = if k = p then some g.n else if k = g.n then none else g.next k :=
    fun _ => rfl
  have hlive : ∀ k, k < g.n → (link g p v).live k = g.live k := fun k hk => if_neg (Nat.ne_of_lt hk)
  refine ⟨⟨Nat.succ_pos _, Nat.lt_succ_of_lt h.head_lt, Nat.lt_succ_of_lt h.tail_lt, fun k hk => ?_,
      fun k m hk hn => ?_, fun k hk => ?_, fun k hk hn => ?_⟩,
    ⟨Nat.le_succ _, fun k hk hd => (hlive k hk).trans hd, Nat.le_refl _, fun k hk hn => ?_⟩⟩
  · have hk' : k < g.n + 1 := hk
    show _ ↔ k + 1 = g.n + 1
    rw [hnx]; split
    · exact ⟨(fun e => nomatch e), fun e => by omega⟩
    · split
      · exact ⟨fun _ => by omega, fun _ => rfl⟩
      · have := h.last k (by omega)
        exact ⟨fun e => absurd (this.1 e) (by omega), fun e => by omega⟩
  · have hk' : k < g.n + 1 := hk
    show m < g.n + 1 ∧ _
    rw [hnx] at hn; split at hn
    · cases hn
      exact ⟨Nat.lt_succ_self _, .inr ⟨by omega, fun j _ _ => by omega⟩⟩
    · split at hn
      · cases hn
      · obtain ⟨a, b⟩ := h.fwd k m (by omega) hn
        exact ⟨Nat.lt_succ_of_lt a, b.imp id fun ⟨b1, b2⟩ => ⟨b1, fun j hj1 hj2 => (hlive j (by omega)).trans (b2 j hj1 hj2)⟩⟩
  · exact (hlive k (Nat.lt_trans hk h.head_lt)).trans (h.dead_before_head k hk)
  · have hk' : k < g.n + 1 := hk
    show k < g.head
    rw [hnx] at hn; split at hn
    · cases hn; omega
    · split at hn
      · cases hn
      · exact h.self_before_head k (by omega) hn
  · rw [hnx]; split
    · exact fun e => nomatch e
    · rw [if_neg (Nat.ne_of_lt hk)]; exact hn

theorem GInv_head {g : G} (h : GInv g) (tgt : Nat) (h1 : g.head ≤ tgt) (h2 : tgt < g.n) (h3 : deadBelow g tgt) :
    GInv { g with head := tgt } ∧ Guar g { g with head := tgt } :=
  ⟨⟨h.npos, h2, h.tail_lt, h.last, h.fwd, h3, fun i hi hn => Nat.lt_of_lt_of_le (h.self_before_head i hi hn) h1⟩,
    ⟨Nat.le_refl _, fun _ _ hd => hd, h1, fun _ _ hn => hn⟩⟩

theorem GInv_tail {g : G} (h : GInv g) (nw : Nat) (h2 : nw < g.n) :
    GInv { g with tail := nw } ∧ Guar g { g with tail := nw } :=
  ⟨⟨h.npos, h.head_lt, h2, h.last, h.fwd, h.dead_before_head, h.self_before_head⟩,
   ⟨Nat.le_refl _, fun _ _ hd => hd, Nat.le_refl _, fun _ _ hn => hn⟩⟩

theorem GInv_setNext {g : G} (h : GInv g) (i j : Nat) (hi : i + 1 < g.n) (hj : j < g.n)
    (hfwd : j = i ∨ (i < j ∧ deadBetween g i j)) (hself : j = i → i < g.head) :
    GInv (setNext g i (some j)) ∧ Guar g (setNext g i (some j)) := by
  have hnx : ∀ k, (setNext g i (some j)).next k = if k = i then some j else g.next k := fun _ => rfl
  refine ⟨⟨h.npos, h.head_lt, h.tail_lt, fun k hk => ?_, fun k m hk hn => ?_, h.dead_before_head,
      fun k hk hn => ?_⟩,
    ⟨Nat.le_refl _, fun _ _ hd => hd, Nat.le_refl _, fun k _ hn => ?_⟩⟩
  · show _ ↔ k + 1 = g.n
    rw [hnx]; split
    · exact ⟨(fun e => nomatch e), fun e => by omega⟩
    · exact h.last k hk
  · show m < g.n ∧ _
    rw [hnx] at hn; split at hn
    · rename_i e; subst e; cases hn; exact ⟨hj, hfwd⟩
    · exact h.fwd k m hk hn
  · show k < g.head
    rw [hnx] at hn; split at hn
    · rename_i e; subst e; cases hn; exact hself rfl
    · exact h.self_before_head k hk hn
  · rw [hnx]; split
    · exact fun e => nomatch e
    · exact hn

set_option linter.unusedVariables false in
/-- the unlink CAS of `Next`; what `pred.next` was before plays no role (`hnext`, `hp` are not used) -/
theorem GInv_unlink {g : G} (h : GInv g) (pred p q : Nat) (hpq : pred < q) (hq : q < g.n)
    (hd : deadBetween g pred q) (hnext : g.next pred = some p) (hp : pred < p) :
    GInv (setNext g pred (some q)) ∧ Guar g (setNext g pred (some q)) :=
  GInv_setNext h pred q (Nat.lt_of_le_of_lt hpq hq) hq (.inr ⟨hpq, hd⟩) fun e => absurd e (Nat.ne_of_gt hpq)

theorem deadBelow_of_succ {g : G} {p : Nat} (h : deadBelow g (p+1)) : deadBelow g p :=
  fun k hk => h k (Nat.lt_succ_of_lt hk)

theorem deadBelow_succ {g : G} {p : Nat} (h : deadBelow g p) (hp : g.live p = false) : deadBelow g (p+1) := by
  intro k hk
  by_cases hkp : k = p
  · subst hkp; exact hp
  · exact h k (by omega)

theorem GInv.fwd_ne {g : G} (hG : GInv g) {i j : Nat} (hi : i < g.n) (hn : g.next i = some j) (hne : j ≠ i) :
    i < j ∧ j < g.n ∧ deadBetween g i j := by
  rcases hG.fwd i j hi hn with ⟨a, e | ⟨b1, b2⟩⟩
  · exact absurd e hne
  · exact ⟨b1, a, b2⟩

theorem deadBetween_hop {g : G} {a p q : Nat} (h : deadBetween g a (p+1)) (hq : deadBetween g p q) :
    deadBetween g a q := fun k hk1 hk2 =>
  (Nat.lt_or_ge k (p + 1)).elim (h k hk1) fun hkp => hq k hkp hk2

/-- one hop of a traversal that has seen only dead nodes; `q = p` is the self-link -/
theorem deadBelow_next {g : G} (hG : GInv g) {p q : Nat} (hp : p < g.n) (h : deadBelow g (p+1))
    (hn : g.next p = some q) : p ≤ q ∧ q < g.n ∧ deadBelow g q := by
  obtain ⟨a, e | ⟨b1, b2⟩⟩ := hG.fwd p q hp hn
  · subst e; exact ⟨Nat.le_refl _, hp, deadBelow_of_succ h⟩
  · exact ⟨Nat.le_of_lt b1, a, fun k hk => (Nat.lt_or_ge k (p + 1)).elim (h k) fun hkp => b2 k hkp hk⟩

theorem finish_LInv {g : G} {k : Cont} (hk : ContInv g k) : LInv g (finish k).1 := by
  cases k with
  | ret r => trivial
  | size p =>
    cases p with
    | none => trivial
    | some p => exact hk
  | iter it => exact hk

theorem goUpd_LInv {g : G} {h tgt : Nat} {k : Cont} (h1 : h ≤ tgt) (h2 : tgt < g.n) (h3 : deadBelow g tgt)
    (hk : ContInv g k) : LInv g (goUpd h tgt k).1 := by
  unfold goUpd
  split
  · exact finish_LInv hk
  · simp only [LInv]; exact ⟨by omega, h2, h3, hk⟩

theorem foundLive_ContInv {g : G} (m : Mode) {p : Nat} (v : Nat) (hp : p < g.n) :
    ContInv g (foundLive m p v).2 := by
  cases m with
  | peek | isEmpty => trivial
  | size => exact hp
  | iter => exact ⟨fun q hq => by cases hq; exact hp, (fun l hl => nomatch hl), fun r q hr _ => nomatch hr⟩

theorem foundNone_ContInv {g : G} (m : Mode) : ContInv g (foundNone m).2 := by
  cases m
  · trivial
  · trivial
  · trivial
  · refine ⟨fun q hq => ?_, fun l hl => ?_, fun r q hr _ => ?_⟩
    · simp at hq
    · simp at hl
    · simp at hr

theorem Write.pres {g g' : G} {l : L} (hG : GInv g) (hL : LInv g l) (w : Write g l g') :
    GInv g' ∧ Guar g g' := by
  cases w with
  | @link v t p hn => exact GInv_link hG p v hL.2 hn
  | @tail t nw ht => exact GInv_tail hG nw hL.2
  | @poll h p hl => exact GInv_kill hG p
  | @head h tgt k hh => exact GInv_head hG tgt (hh ▸ Nat.le_of_lt hL.1) hL.2.1 hL.2.2.1
  | @selflink h k =>
    exact GInv_setNext hG h h (Nat.lt_of_le_of_lt hL.1 hG.head_lt) (Nat.lt_trans hL.1 hG.head_lt) (.inl rfl) fun _ => hL.1
  | @unlink it pred p q hn =>
    exact GInv_unlink hG pred p q (Nat.lt_trans hL.1 hL.2.1) hL.2.2.1 hL.2.2.2.1 hn hL.1
  | @remove it l => exact GInv_kill hG l

theorem Step.pres_LInv {g g' : G} {l l' : L} {a : Act} {obs : List Obs}
    (hG : GInv g) (hL : LInv g l) (hgu : Guar g g') (h : Step g l a g' l' obs) : LInv g' l' := by
  induction h with
  | o0 | o4_moved | o5_moved => exact ⟨hG.tail_lt, hG.tail_lt⟩
  | o1_off hq => exact ⟨hL.1, hL.2, (hG.fwd _ _ hL.2 hq).1⟩
  | o1_adv hq => exact ⟨hL.1, (hG.fwd _ _ hL.2 hq).1⟩
  | o2_link => exact ⟨Nat.lt_succ_of_lt hL.1, Nat.lt_succ_self _⟩
  | o4_same => exact hG.tail_lt
  | o4b => exact ⟨hL, hG.head_lt⟩
  | o5_same => exact ⟨hG.tail_lt, hL.2.2⟩
  | p0 | k0 => exact ⟨Nat.le_refl _, hG.head_lt, hG.dead_before_head⟩
  | p1_dead hd | p2_dead hd | k1_dead hd => exact ⟨hL.1, hL.2.1, deadBelow_succ hL.2.2 hd⟩
  | @p2_kill h p _ hne =>
    exact ⟨Nat.lt_of_le_of_ne hL.1 (Ne.symm hne), hL.2.1,
      deadBelow_succ (deadBelow_stable hgu (Nat.le_of_lt hL.2.1) hL.2.2) (if_pos rfl)⟩
  | p3_some hq =>
    obtain ⟨a, b, c⟩ := deadBelow_next hG hL.2.1 hL.2.2 hq
    exact goUpd_LInv (Nat.le_of_lt (Nat.lt_of_lt_of_le hL.1 a)) b c trivial
  | p3_nil =>
    exact goUpd_LInv (Nat.le_of_lt hL.1) hL.2.1 (deadBelow_of_succ hL.2.2) trivial
  | p4_nil => exact goUpd_LInv hL.1 hL.2.1 (deadBelow_of_succ hL.2.2) trivial
  | p4_adv hq | k2_adv hq =>
    obtain ⟨a, b, c⟩ := deadBelow_next hG hL.2.1 hL.2.2 hq
    exact ⟨Nat.le_trans hL.1 a, b, c⟩
  | @k1_live m => exact goUpd_LInv hL.1 hL.2.1 hL.2.2 (foundLive_ContInv m _ hL.2.1)
  | @k2_nil m =>
    exact goUpd_LInv hL.1 hL.2.1 (deadBelow_of_succ hL.2.2) (foundNone_ContInv m)
  | u1_cas => exact ⟨hL.1, ContInv_stable hgu hL.2.2.2⟩
  | u1_fail => exact finish_LInv hL.2.2.2
  | u2 => exact finish_LInv (ContInv_stable hgu hL.2)
  | s2_adv hq => exact (hG.fwd _ _ hL hq).1
  | @next_some it pred hpred =>
    exact ⟨hL.1 pred hpred, hL.1, fun l hl => by cases hl; exact hL.1 _ hpred, hL.2.2⟩
  | n0_nil => exact ⟨(fun q hq => nomatch hq), hL.2.2.1, fun r q _ hq => nomatch hq⟩
  | n0_self hq => exact ⟨hG.self_before_head _ hL.1 hq, hL.2⟩
  | n0_adv hq hne =>
    obtain ⟨a, b, c⟩ := hG.fwd_ne hL.1 hq hne
    exact ⟨a, b, c, hL.2⟩
  | n0h => exact ⟨hL.1, hG.head_lt, fun k _ hk => hG.dead_before_head k hk, hL.2⟩
  | n1_live =>
    obtain ⟨hpp, hpn, hdb, h1, h2, h3⟩ := hL
    exact ⟨fun q hq => by cases hq; exact hpn, h2, fun r q hr hq => by cases hr; cases hq; exact ⟨hpp, hdb⟩⟩
  | @n1_dead it pred p hd =>
    obtain ⟨hpp, hpn, hdb, hit⟩ := hL
    refine ⟨hpp, hpn, fun k hk1 hk2 => ?_, hit⟩
    rcases Nat.eq_or_lt_of_le (Nat.le_of_lt_succ hk2) with e | e
    · exact e ▸ hd
    · exact hdb k hk1 e
  | n2_nil => exact ⟨(fun q hq => nomatch hq), hL.2.2.2.2.1, fun r q _ hq => nomatch hq⟩
  | n2_self hq => exact ⟨hL.1, ⟨hG.self_before_head _ hL.2.1 hq, hL.2.1⟩, hL.2.2⟩
  | n2_adv hq hne =>
    obtain ⟨hpp, hpn, hdb, hit⟩ := hL
    obtain ⟨a, hqn, b⟩ := hG.fwd_ne hpn hq hne
    exact ⟨hpp, a, hqn, deadBetween_hop hdb b, hit⟩
  | n2h => exact ⟨hL.1, hL.2.1.1, hG.head_lt, fun k _ hk2 => hG.dead_before_head k hk2, hL.2.2.2⟩
  | n3_cas =>
    obtain ⟨hpp, hpq, hqn, hdb, hit⟩ := hL
    exact ⟨Nat.lt_trans hpp hpq, hqn, deadBetween_stable hgu (Nat.le_of_lt hqn) hdb, ItInv_stable hgu hit⟩
  | n3_fail => exact ⟨Nat.lt_trans hL.1 hL.2.1, hL.2.2⟩
  | @remove_some it l hl => exact ⟨hL.2.1 l hl, hL⟩
  | r0 =>
    have := ItInv_stable hgu hL.2
    exact ⟨this.1, (fun l' hl' => nomatch hl'), this.2.2⟩
  | o1_nil | o1_self | o2_fail | p1_live | s1_count | s1_dead | hasNext | next_nil | remove_nil => exact hL
  | _ => trivial

theorem step_pres {t : Tid} {g g' : G} {l l' : L} {a : Act} {obs : List Obs}
    (hG : GInv g) (hL : LInv g l) (hs : step t g l a = some (g', l', obs)) :
    GInv g' ∧ Guar g g' ∧ LInv g' l' := by
  have h := Step.of_step hs
  have hgg : GInv g' ∧ Guar g g' := by
    rcases h.write with rfl | w
    · exact ⟨hG, Guar.refl _⟩
    · exact w.pres hG hL
  exact ⟨hgg.1, hgg.2, h.pres_LInv hG hL hgg.2⟩

theorem inv_init : Inv (Config.init M) :=
  ⟨⟨Nat.one_pos, Nat.one_pos, Nat.one_pos,
    fun i hi => by cases Nat.lt_one_iff.1 hi; exact ⟨fun _ => rfl, fun _ => rfl⟩,
    (fun _ _ _ hn => nomatch hn), (fun _ _ => rfl), fun _ _ hn => nomatch hn⟩, fun _ => trivial⟩

theorem inv_reach : ∀ c, Garr.Conc.Reach M c → Inv c := by
  apply inv_of_reach
  · exact inv_init
  · intro c t a g' l' obs hinv hstep
    obtain ⟨hG, hLs⟩ := hinv
    obtain ⟨hg, hgu, hl⟩ := step_pres (t := t) (g := c.g) hG (hLs t) hstep
    exact ⟨hg, forall_upd hl (fun u _ h => LInv_stable hgu _ h) hLs⟩

end Garr.Queue
