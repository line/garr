import Garr.Queue.Inv
/-!
# C13: the weakly consistent iterator, `Remove`, and the accounting of offered elements

First the facts about single steps, under the invariants of `Garr.Queue.Inv` and the iterator invariant
`IterInv` established here for all reachable configurations: `itNext_step` (the step at which `Next()`
returns) and `step_effect` (what a step does to `n`, `val`, `live`) carry everything.  Then the theorems
over `Garr.Conc.run`: one traversal returns increasing positions, returns every element that stays in
the queue, returns only offered values; `offered = queued + polled + removed`.
-/
namespace Garr.Queue
open Garr.Conc

/-- observations that carry no accounting / iterator information -/
def Obs.quiet : Obs → Bool
  | .ret _ | .retAux _ | .lpPeek _ | .lpEmpty _ => true
  | _ => false

theorem finish_quiet (k : Cont) : ∀ o ∈ (finish k).2, o.quiet = true :=
  finish_ind (P := fun x => ∀ o ∈ x.2, o.quiet = true)
    (fun _ o ho => by cases List.mem_singleton.1 ho; rfl) (fun o ho => by cases List.mem_singleton.1 ho; rfl)
    (fun _ _ ho => nomatch ho) (fun _ o ho => by cases List.mem_singleton.1 ho; rfl) k

theorem goUpd_quiet (h tgt : Nat) (k : Cont) : ∀ o ∈ (goUpd h tgt k).2, o.quiet = true :=
  goUpd_ind (P := fun x => ∀ o ∈ x.2, o.quiet = true) h tgt k (finish_quiet k) (fun _ ho => nomatch ho)

theorem foundLive_quiet (m : Mode) (p v : Nat) : ∀ o ∈ (foundLive m p v).1, o.quiet = true := by
  intro o ho
  cases m <;> simp [foundLive] at ho <;> subst ho <;> rfl

theorem foundNone_quiet (m : Mode) : ∀ o ∈ (foundNone m).1, o.quiet = true := by
  intro o ho
  cases m <;> simp [foundNone] at ho <;> subst ho <;> rfl

/-- the other observations: `lpOffer`, `lpPoll`, `lpRemove`, `itNext` -/
def Obs.noisy (o : Obs) : Prop := o.quiet = false

@[simp] theorem noisy_lpOffer (v : Nat) : (Obs.lpOffer v).noisy := rfl
@[simp] theorem noisy_lpPoll (r : Ret) : (Obs.lpPoll r).noisy := rfl
@[simp] theorem noisy_lpRemove (k : Nat) (b : Bool) : (Obs.lpRemove k b).noisy := rfl

theorem val_stable {t : Tid} {g g' : G} {l l' : L} {a : Act} {obs : List Obs}
    (hs : step t g l a = some (g', l', obs)) : ∀ k, k < g.n → g'.val k = g.val k := by
  intro k hk
  rcases (Step.of_step hs).write with rfl | w
  · rfl
  · exact w.val_eq hk

theorem live_only_dies {t : Tid} {g g' : G} {l l' : L} {a : Act} {obs : List Obs}
    (hG : GInv g) (hL : LInv g l) (hs : step t g l a = some (g', l', obs)) :
    ∀ k, k < g.n → g.live k = false → g'.live k = false :=
  (step_pres hG hL hs).2.1.live_mono

theorem n_mono_step {t : Tid} {g g' : G} {l l' : L} {a : Act} {obs : List Obs}
    (hs : step t g l a = some (g', l', obs)) : g.n ≤ g'.n := by
  rcases (Step.of_step hs).write with rfl | w
  · exact Nat.le_refl _
  · exact w.n_le

/-- an iterator object between calls: the value handed out next is the value of the node `nextNode`
    (a node created by `Offer`: position `≥ 1`), and `lastRet`, if set, is the element returned last -/
def IterOK (g : G) (it : Iter) : Prop :=
  (∀ p, it.nextNode = some p → 0 < p ∧ p < g.n ∧ it.nextVal = g.val p) ∧
  (∀ l, it.lastRet = some l → it.prev = some l)

/-- an iterator object inside `Next()` that is about to return the element at position `pred` -/
def InNext (g : G) (it : Iter) (pred : Nat) : Prop :=
  it.nextNode = some pred ∧ it.lastRet = some pred ∧ 0 < pred ∧ pred < g.n ∧ it.nextVal = g.val pred

def ContIterInv (g : G) : Cont → Prop
  | .iter it => IterOK g it
  | _ => True

/-- the additional thread-local invariant relating the iterator object to the shared state -/
def IterInv (g : G) : L → Prop
  | .idleIt it => IterOK g it
  | .u1 _ _ k => ContIterInv g k
  | .u2 _ k => ContIterInv g k
  | .n0 it pred => InNext g it pred
  | .n0h it pred => InNext g it pred
  | .n1 it pred _ => InNext g it pred
  | .n2 it pred _ => InNext g it pred
  | .n2h it pred _ => InNext g it pred
  | .n3 it pred _ _ => InNext g it pred
  | .r0 it l => IterOK g it ∧ it.lastRet = some l
  | _ => True

theorem IterInv_mono {g g' : G} (hn : g.n ≤ g'.n) (hv : ∀ k, k < g.n → g'.val k = g.val k) (l : L)
    (h : IterInv g l) : IterInv g' l := by
  have node : ∀ {p v : Nat}, 0 < p ∧ p < g.n ∧ v = g.val p → 0 < p ∧ p < g'.n ∧ v = g'.val p :=
    fun ⟨a, b, c⟩ => ⟨a, Nat.lt_of_lt_of_le b hn, c.trans (hv _ b).symm⟩
  have ok : ∀ {it : Iter}, IterOK g it → IterOK g' it := fun h => ⟨fun p hp => node (h.1 p hp), h.2⟩
  cases l with
  | u1 _ _ k | u2 _ k =>
    cases k with
    | iter it => exact ok h
    | _ => trivial
  | idleIt => exact ok h
  | n0 | n0h | n1 | n2 | n2h | n3 => exact ⟨h.1, h.2.1, node h.2.2⟩
  | r0 => exact ⟨ok h.1, h.2⟩
  | _ => trivial

theorem finish_IterInv {g : G} {k : Cont} (hk : ContIterInv g k) : IterInv g (finish k).1 := by
  cases k with
  | ret r => trivial
  | size p => cases p <;> trivial
  | iter it => exact hk

theorem goUpd_IterInv {g : G} (h tgt : Nat) {k : Cont} (hk : ContIterInv g k) : IterInv g (goUpd h tgt k).1 :=
  goUpd_ind (P := fun x => IterInv g x.1) h tgt k (finish_IterInv hk) hk

theorem foundLive_ContIterInv {g : G} (m : Mode) {p : Nat} (h0 : 0 < p) (hp : p < g.n) :
    ContIterInv g (foundLive m p (g.val p)).2 := by
  cases m with
  | iter => exact ⟨fun q hq => by cases hq; exact ⟨h0, hp, rfl⟩, fun l hl => nomatch hl⟩
  | _ => trivial

theorem foundNone_ContIterInv {g : G} (m : Mode) : ContIterInv g (foundNone m).2 := by
  cases m with
  | iter => exact ⟨(fun q hq => nomatch hq), fun l hl => nomatch hl⟩
  | _ => trivial

/-- the acting thread re-establishes `IterInv` (stated w.r.t. the old shared state) -/
theorem IterInv_own_step {t : Tid} {g g' : G} {l l' : L} {a : Act} {obs : List Obs}
    (hL : LInv g l) (h0 : g.live 0 = false) (hI : IterInv g l)
    (hs : step t g l a = some (g', l', obs)) : IterInv g l' := by
  have h := Step.of_step hs
  induction h with
  | @k1_live m h p hlive =>
    have hp0 : 0 < p := Nat.pos_of_ne_zero fun e => by rw [e, h0] at hlive; contradiction
    exact goUpd_IterInv _ _ (foundLive_ContIterInv m hp0 hL.2.1)
  | k2_nil => exact goUpd_IterInv _ _ (foundNone_ContIterInv _)
  | p3_some | p3_nil | p4_nil => exact goUpd_IterInv _ _ trivial
  | u1_fail | u2 => exact finish_IterInv hI
  | @next_some it pred hpred =>
    obtain ⟨a, b, c⟩ := hI.1 pred hpred
    exact ⟨hpred, rfl, a, b, c⟩
  | remove_some hl => exact ⟨hI, hl⟩
  | n0_nil | n2_nil => exact ⟨(fun q hq => nomatch hq), fun l hl => hI.2.1.symm.trans hl⟩
  | n1_live =>
    exact ⟨fun q hq => by cases hq; exact ⟨by have := hL.1; omega, hL.2.1, rfl⟩, fun l hl => hI.2.1.symm.trans hl⟩
  | r0 => exact ⟨hI.1.1, fun l hl => nomatch hl⟩
  | u1_cas | hasNext | next_nil | remove_nil | n0_self | n0_adv | n0h | n1_dead | n2_self | n2_adv | n2h
  | n3_cas | n3_fail => exact hI
  | _ => trivial

/-- `Inv` and `IterInv`, and the dummy node never carries an item -/
structure Inv2 (c : Config M) : Prop where
  inv : Inv c
  live0 : c.g.live 0 = false
  iter : ∀ t, IterInv c.g (c.l t)

theorem inv2_reach : ∀ c, Garr.Conc.Reach M c → Inv2 c := by
  intro c hc
  induction hc with
  | init => exact ⟨inv_init, rfl, fun t => trivial⟩
  | @step c t a g' l' obs hc hstep ih =>
    obtain ⟨⟨hG, hLs⟩, h0, hIs⟩ := ih
    have hs : step t c.g (c.l t) a = some (g', l', obs) := hstep
    have hn := n_mono_step hs
    have hv := val_stable hs
    exact ⟨inv_reach _ (Reach.step hc hstep), live_only_dies hG (hLs t) hs 0 hG.npos h0,
      forall_upd (IterInv_mono hn hv _ (IterInv_own_step (hLs t) h0 (hIs t) hs))
        (fun u _ h => IterInv_mono hn hv _ h) hIs⟩

/-- the iterator object carried by a program counter -/
def iterOf : L → Option Iter
  | .idleIt it | .n0 it _ | .n0h it _ | .n1 it _ _ | .n2 it _ _ | .n2h it _ _ | .n3 it _ _ _ | .r0 it _ => some it
  | .u1 _ _ (.iter it) | .u2 _ (.iter it) => some it
  | _ => none

/-- everything there is to know about a step that emits `itNext pos v`.  The conclusion is taken apart
    by position; in order: (1) the shared state is unchanged, (2) the observations; then, for the iterator
    object before (`it`) and after (`it'`): (3) `iterOf l`, (4) `l'`, (5) `it.nextNode`, (6) `it.lastRet`,
    (7)–(9) `pos` is a node created by `Offer` and holds `v`, (10) `pos` lies beyond `it.prev`,
    (11) `it'.prev`, (12) `it'.lastRet`, (13), (14) only dead nodes between `pos` and the next element,
    or the end of the list. -/
theorem itNext_step {t : Tid} {g g' : G} {l l' : L} {a : Act} {obs : List Obs} {pos v : Nat}
    (hG : GInv g) (hL : LInv g l) (hI : IterInv g l)
    (hs : step t g l a = some (g', l', obs)) (hm : Obs.itNext pos v ∈ obs) :
    g' = g ∧ obs = [.itNext pos v, .retAux (.val v)] ∧
    ∃ it it', iterOf l = some it ∧ l' = .idleIt it' ∧
      it.nextNode = some pos ∧ it.lastRet = some pos ∧ 0 < pos ∧ pos < g.n ∧ v = g.val pos ∧
      (∀ r, it.prev = some r → r < pos) ∧
      it'.prev = some pos ∧ it'.lastRet = some pos ∧
      (∀ p, it'.nextNode = some p → pos < p ∧ ∀ k, pos < k → k < p → g.live k = false) ∧
      (it'.nextNode = none → ∀ k, pos < k → k < g.n → g.live k = false) := by
  have quiet : ∀ {xs : List Obs}, (∀ o ∈ xs, o.quiet = true) → Obs.itNext pos v ∉ xs := fun h hm => nomatch h _ hm
  have other : ∀ {xs : List Obs}, (xs.all fun o => o matches .itNext _ _ |> not) = true → Obs.itNext pos v ∉ xs :=
    fun h hm => nomatch List.all_eq_true.1 h _ hm
  have h := Step.of_step hs
  induction h with
  | @n0_nil it pred hnone =>
    obtain ⟨a, b, c, d, e⟩ := hI
    simp at hm; obtain ⟨rfl, rfl⟩ := hm
    refine ⟨rfl, rfl, it, _, rfl, rfl, a, b, c, d, e, ?_, rfl, b, ?_, ?_⟩
    · intro r hr; exact (hL.2.2.2 r pos hr a).1
    · intro p hp; simp at hp
    · intro _ k hk1 hk2
      have := (hG.last pos d).1 hnone; omega
  | @n1_live it pred p hlive =>
    obtain ⟨a, b, c, d, e⟩ := hI
    obtain ⟨hpp, hpn, hdb, h1, h2, h3⟩ := hL
    simp at hm; obtain ⟨rfl, rfl⟩ := hm
    refine ⟨rfl, rfl, it, _, rfl, rfl, a, b, c, d, e, ?_, rfl, b, ?_, ?_⟩
    · intro r hr; exact (h3 r pos hr a).1
    · intro q hq; simp at hq; subst hq; exact ⟨hpp, hdb⟩
    · intro hq; simp at hq
  | @n2_nil it pred p hnone =>
    obtain ⟨a, b, c, d, e⟩ := hI
    obtain ⟨hpp, hpn, hdb, h1, h2, h3⟩ := hL
    simp at hm; obtain ⟨rfl, rfl⟩ := hm
    refine ⟨rfl, rfl, it, _, rfl, rfl, a, b, c, d, e, ?_, rfl, b, ?_, ?_⟩
    · intro r hr; exact (h3 r pos hr a).1
    · intro q hq; simp at hq
    · intro _ k hk1 hk2
      have := (hG.last p hpn).1 hnone
      exact hdb k hk1 (by omega)
  | p3_some | p3_nil => exact absurd hm (quiet (goUpd_quiet _ _ _))
  | p4_nil => exact absurd ((List.mem_cons.1 hm).resolve_left (fun e => nomatch e)) (quiet (goUpd_quiet _ _ _))
  | k1_live => exact absurd hm (quiet (List.forall_mem_append.2 ⟨foundLive_quiet _ _ _, goUpd_quiet _ _ _⟩))
  | k2_nil => exact absurd hm (quiet (List.forall_mem_append.2 ⟨foundNone_quiet _, goUpd_quiet _ _ _⟩))
  | u1_fail | u2 => exact absurd hm (quiet (finish_quiet _))
  | _ => exact absurd hm (other rfl)

/-- the observations that take part in the accounting of elements -/
def Obs.acct : Obs → Bool
  | .lpOffer _ => true
  | .lpPoll (.val _) => true
  | .lpRemove _ _ => true
  | _ => false

def NoAcct (obs : List Obs) : Prop := ∀ o ∈ obs, o.acct = false

theorem NoAcct_of_quiet {xs : List Obs} (h : ∀ o ∈ xs, o.quiet = true) : NoAcct xs := fun o ho => by
  have := h o ho
  cases o <;> simp [Obs.quiet] at this <;> rfl

/-- Every step is exactly one of: the linking CAS of `Offer` (adds the new last node, live, with the
    offered value), the item CAS of `Poll` (kills the live node it is at), the item store of
    `Remove` (kills `lastRet`), or a step that changes neither `n`, `val` nor `live` and emits no
    `lpOffer`, `lpPoll (.val _)`, `lpRemove`. -/
theorem step_effect {t : Tid} {g g' : G} {l l' : L} {a : Act} {obs : List Obs}
    (hL : LInv g l) (hs : step t g l a = some (g', l', obs)) :
    (∃ v tl p, l = .o2 v tl p ∧ g.next p = none ∧ g' = link g p v ∧
        (obs = [.lpOffer v] ∨ obs = [.lpOffer v, .ret .unit])) ∨
    (∃ h p, l = .p2 h p ∧ p < g.n ∧ g.live p = true ∧ g' = kill g p ∧
        (obs = [.lpPoll (.val (g.val p))] ∨ obs = [.lpPoll (.val (g.val p)), .ret (.val (g.val p))])) ∨
    (∃ it k, l = .r0 it k ∧ k < g.n ∧ g' = kill g k ∧ obs = [.lpRemove k (g.live k), .ret .unit]) ∨
    (g'.n = g.n ∧ g'.val = g.val ∧ g'.live = g.live ∧ NoAcct obs) := by
  have other : ∀ {xs : List Obs}, (xs.all fun o => !o.acct) = true → NoAcct xs :=
    fun h o ho => Bool.not_eq_true' _ ▸ List.all_eq_true.1 h o ho
  have h := Step.of_step hs
  induction h with
  | @o2_link v tl p hnone _ => exact Or.inl ⟨v, tl, p, rfl, hnone, rfl, Or.inl rfl⟩
  | @o2_link_ret v tl p hnone _ => exact Or.inl ⟨v, tl, p, rfl, hnone, rfl, Or.inr rfl⟩
  | @p2_kill h p hlive _ => exact Or.inr (Or.inl ⟨h, p, rfl, hL.2.1, hlive, rfl, Or.inl rfl⟩)
  | @p2_kill_ret h p hlive _ => exact Or.inr (Or.inl ⟨h, p, rfl, hL.2.1, hlive, rfl, Or.inr rfl⟩)
  | @r0 it k => exact Or.inr (Or.inr (Or.inl ⟨it, k, rfl, hL.1, rfl, rfl⟩))
  | p3_some | p3_nil => exact .inr (.inr (.inr ⟨rfl, rfl, rfl, NoAcct_of_quiet (goUpd_quiet _ _ _)⟩))
  | p4_nil => exact .inr (.inr (.inr ⟨rfl, rfl, rfl, List.forall_mem_cons.2 ⟨rfl, NoAcct_of_quiet (goUpd_quiet _ _ _)⟩⟩))
  | k1_live => exact .inr (.inr (.inr ⟨rfl, rfl, rfl, NoAcct_of_quiet (List.forall_mem_append.2 ⟨foundLive_quiet _ _ _, goUpd_quiet _ _ _⟩)⟩))
  | k2_nil => exact .inr (.inr (.inr ⟨rfl, rfl, rfl, NoAcct_of_quiet (List.forall_mem_append.2 ⟨foundNone_quiet _, goUpd_quiet _ _ _⟩)⟩))
  | u1_fail | u2 => exact .inr (.inr (.inr ⟨rfl, rfl, rfl, NoAcct_of_quiet (finish_quiet _)⟩))
  | _ => exact .inr (.inr (.inr ⟨rfl, rfl, rfl, other rfl⟩))

theorem not_mem_of_NoAcct {obs : List Obs} (h : NoAcct obs) {o : Obs} (ho : o.acct = true) : o ∉ obs :=
  fun hm => by rw [h o hm] at ho; contradiction

theorem kill_dead {g : G} {k : Nat} (hl : g.live k = false) : kill g k = g := by
  have : (fun j => if j = k then false else g.live j) = g.live := by
    funext j; split
    · rename_i e; subst e; exact hl.symm
    · rfl
  simp only [kill, this]

theorem iterOf_goUpd (h tgt : Nat) (it : Iter) : iterOf (goUpd h tgt (.iter it)).1 = some it :=
  goUpd_ind (P := fun x => iterOf x.1 = some it) h tgt _ rfl rfl

/-- `updateHead` hands the iterator through unchanged: `Iterator()` returns the object chosen above -/
theorem iterOf_updateHead_step {t : Tid} {g g' : G} {l l' : L} {a : Act} {obs : List Obs} {it : Iter}
    (hl : (∃ h tgt, l = .u1 h tgt (.iter it)) ∨ (∃ h, l = .u2 h (.iter it)))
    (hs : step t g l a = some (g', l', obs)) : iterOf l' = some it := by
  rcases hl with ⟨h, tgt, rfl⟩ | ⟨h, rfl⟩ <;> cases Step.of_step hs <;> rfl

section Reachable
variable {c : Config M} {t : Tid} {a : Act} {g' : G} {l' : L} {obs : List Obs}

theorem reach_invs (hc : Reach M c) (t : Tid) : GInv c.g ∧ LInv c.g (c.l t) ∧ IterInv c.g (c.l t) :=
  ⟨(inv2_reach c hc).inv.1, (inv2_reach c hc).inv.2 t, (inv2_reach c hc).iter t⟩

/-- the value returned by `Next()` is the value of a linked node created by `Offer` -/
theorem itNext_offered (hc : Reach M c) (hs : step t c.g (c.l t) a = some (g', l', obs))
    {pos v : Nat} (hm : Obs.itNext pos v ∈ obs) : 0 < pos ∧ pos < c.g.n ∧ v = c.g.val pos := by
  obtain ⟨hG, hL, hI⟩ := reach_invs hc t
  obtain ⟨_, _, it, it', _, _, _, _, hpos, hlt, hval, _⟩ := itNext_step hG hL hI hs hm
  exact ⟨hpos, hlt, hval⟩

/-- the position returned lies strictly after the one returned before by the same iterator,
    and becomes the new `prev` -/
theorem itNext_increasing (hc : Reach M c) (hs : step t c.g (c.l t) a = some (g', l', obs))
    {pos v : Nat} (hm : Obs.itNext pos v ∈ obs) :
    ∃ it it', iterOf (c.l t) = some it ∧ l' = .idleIt it' ∧ (∀ r, it.prev = some r → r < pos) ∧
      it'.prev = some pos := by
  obtain ⟨hG, hL, hI⟩ := reach_invs hc t
  obtain ⟨_, _, it, it', hit, hl', _, _, _, _, _, hprev, hprev', _⟩ := itNext_step hG hL hI hs hm
  exact ⟨it, it', hit, hl', hprev, hprev'⟩

/-- everything between the element returned now and the element that will be returned next is dead
    at this moment; if there is no next element, everything after the returned one is dead -/
theorem itNext_skips_only_dead (hc : Reach M c) (hs : step t c.g (c.l t) a = some (g', l', obs))
    {pos v : Nat} (hm : Obs.itNext pos v ∈ obs) :
    g' = c.g ∧ ∃ it', l' = .idleIt it' ∧
      (∀ p, it'.nextNode = some p → pos < p ∧ ∀ k, pos < k → k < p → c.g.live k = false) ∧
      (it'.nextNode = none → ∀ k, pos < k → k < c.g.n → c.g.live k = false) := by
  obtain ⟨hG, hL, hI⟩ := reach_invs hc t
  obtain ⟨hg, _, it, it', _, hl', _, _, _, _, _, _, _, _, hskip, hend⟩ := itNext_step hG hL hI hs hm
  exact ⟨hg, it', hl', hskip, hend⟩

/-- a node that is live when `Next()` returns is not skipped -/
theorem never_skips_live (hc : Reach M c) (hs : step t c.g (c.l t) a = some (g', l', obs))
    {pos v : Nat} (hm : Obs.itNext pos v ∈ obs) {it' : Iter} (hl' : l' = .idleIt it')
    {k : Nat} (hk : c.g.live k = true) :
    (∀ p, it'.nextNode = some p → ¬ (pos < k ∧ k < p)) ∧ (it'.nextNode = none → ¬ (pos < k ∧ k < c.g.n)) := by
  obtain ⟨_, it'', h2, h5, h6⟩ := itNext_skips_only_dead hc hs hm
  rw [hl'] at h2; cases h2
  refine ⟨fun p hp ⟨h1, h2⟩ => ?_, fun hn ⟨h1, h2⟩ => ?_⟩
  · rw [(h5 p hp).2 k h1 h2] at hk; contradiction
  · rw [h6 hn k h1 h2] at hk; contradiction

/-- the construction traversal finds node `p` live: everything before `p` is dead at this
    moment, and `p` becomes the iterator's first element -/
theorem iter_first_live (hc : Reach M c) {h p : Nat} (hl : c.l t = .k1 .iter h p)
    (hs : step t c.g (c.l t) a = some (g', l', obs)) (hlive : c.g.live p = true) :
    g' = c.g ∧ deadBelow c.g p ∧ p < c.g.n ∧
    iterOf l' = some { nextNode := some p, nextVal := c.g.val p, lastRet := none, prev := none } := by
  obtain ⟨_, hL, _⟩ := reach_invs hc t
  rw [hl] at hL hs
  cases Step.of_step hs with
  | k1_live => exact ⟨rfl, hL.2.2, hL.2.1, iterOf_goUpd _ _ _⟩
  | k1_dead hd => exact nomatch hd.symm.trans hlive

/-- the construction traversal reaches the end of the list: every node is dead at this
    moment, and the iterator is created exhausted -/
theorem iter_first_none (hc : Reach M c) {h p : Nat} (hl : c.l t = .k2 .iter h p)
    (hs : step t c.g (c.l t) a = some (g', l', obs)) (hnone : c.g.next p = none) :
    g' = c.g ∧ (∀ k, k < c.g.n → c.g.live k = false) ∧
    iterOf l' = some { nextNode := none, nextVal := 0, lastRet := none, prev := none } := by
  obtain ⟨hG, hL, _⟩ := reach_invs hc t
  rw [hl] at hL hs
  cases Step.of_step hs with
  | k2_nil =>
    refine ⟨rfl, fun k hk => hL.2.2 k ?_, iterOf_goUpd _ _ _⟩
    have := (hG.last p hL.2.1).1 hnone; omega
  | k2_self hq | k2_adv hq => exact nomatch hnone.symm.trans hq

/-- `Remove` deletes exactly the element last returned by `Next` (if it is still present) -/
theorem remove_exact (hc : Reach M c) {it : Iter} {l : Nat} (hl : c.l t = .r0 it l)
    (hs : step t c.g (c.l t) a = some (g', l', obs)) :
    (∀ k, k ≠ l → g'.live k = c.g.live k) ∧ g'.live l = false ∧
    obs = [.lpRemove l (c.g.live l), .ret .unit] ∧ it.lastRet = some l ∧ it.prev = some l ∧
    l' = .idleIt { it with lastRet := none } ∧ g'.n = c.g.n ∧ g'.val = c.g.val := by
  obtain ⟨_, _, hI⟩ := reach_invs hc t
  rw [hl] at hI hs
  cases Step.of_step hs
  exact ⟨fun k hk => if_neg hk, if_pos rfl, rfl, hI.2, hI.1.2 l hI.2, rfl, rfl, rfl⟩

/-- every node that dies was polled or removed, and the marker names it -/
theorem live_change_accounted (hc : Reach M c) (hs : step t c.g (c.l t) a = some (g', l', obs))
    {k : Nat} (hlive : c.g.live k = true) (hdead : g'.live k = false) :
    (Obs.lpPoll (.val (c.g.val k)) ∈ obs ∧ ∃ h, c.l t = .p2 h k) ∨ Obs.lpRemove k true ∈ obs := by
  rcases step_effect (reach_invs hc t).2.1 hs with ⟨v, tl, p, _, _, rfl, _⟩ | ⟨h, p, hl, _, _, rfl, ho⟩ |
      ⟨it, j, _, _, rfl, rfl⟩ | ⟨_, _, h3, _⟩
  · simp only [link] at hdead
    split at hdead
    · contradiction
    · rw [hlive] at hdead; contradiction
  · simp only [kill] at hdead
    split at hdead
    · rename_i e; subst e
      refine Or.inl ⟨?_, h, hl⟩
      rcases ho with rfl | rfl <;> simp
    · rw [hlive] at hdead; contradiction
  · simp only [kill] at hdead
    split at hdead
    · rename_i e; subst e
      rw [hlive]; exact Or.inr (by simp)
    · rw [hlive] at hdead; contradiction
  · rw [h3, hlive] at hdead; contradiction

/-- a step emitting `lpPoll (.val v)` kills exactly one live node, whose value is `v` -/
theorem lpPoll_kills_one (hc : Reach M c) (hs : step t c.g (c.l t) a = some (g', l', obs))
    {v : Nat} (hm : Obs.lpPoll (.val v) ∈ obs) :
    ∃ k, k < c.g.n ∧ c.g.live k = true ∧ c.g.val k = v ∧ g'.live k = false ∧
      (∀ j, j ≠ k → g'.live j = c.g.live j) ∧ g'.n = c.g.n ∧ ∃ h, c.l t = .p2 h k := by
  rcases step_effect (reach_invs hc t).2.1 hs with ⟨v, tl, p, _, _, rfl, ho⟩ | ⟨h, p, hl, hp, hlive, rfl, ho⟩ |
      ⟨it, j, _, _, rfl, rfl⟩ | ⟨_, _, _, h4⟩
  · rcases ho with rfl | rfl <;> simp at hm
  · refine ⟨p, hp, hlive, ?_, if_pos rfl, fun j hj => if_neg hj, rfl, h, hl⟩
    rcases ho with rfl | rfl <;> simp at hm <;> exact hm.symm
  · simp at hm
  · exact absurd hm (not_mem_of_NoAcct h4 rfl)

/-- a step emitting `lpRemove k b` is the item store of `Remove` on node `k`; `b` is the liveness of `k`
    before: `true` kills exactly node `k`, `false` kills nothing -/
theorem lpRemove_step (hc : Reach M c) (hs : step t c.g (c.l t) a = some (g', l', obs))
    {k : Nat} {b : Bool} (hm : Obs.lpRemove k b ∈ obs) :
    k < c.g.n ∧ b = c.g.live k ∧ g'.live k = false ∧ (∀ j, j ≠ k → g'.live j = c.g.live j) ∧ g'.n = c.g.n ∧
      (b = false → ∀ j, g'.live j = c.g.live j) := by
  rcases step_effect (reach_invs hc t).2.1 hs with ⟨v, tl, p, _, _, rfl, ho⟩ | ⟨h, p, _, hp, hlive, rfl, ho⟩ |
      ⟨it, j, _, hj, rfl, rfl⟩ | ⟨_, _, _, h4⟩
  · rcases ho with rfl | rfl <;> simp at hm
  · rcases ho with rfl | rfl <;> simp at hm
  · simp at hm; obtain ⟨rfl, rfl⟩ := hm
    exact ⟨hj, rfl, if_pos rfl, fun j hj => if_neg hj, rfl, fun hb j => by rw [kill_dead (g := c.g) hb]⟩
  · exact absurd hm (not_mem_of_NoAcct h4 rfl)

/-- a step emitting `lpRemove k true` kills exactly node `k` (which was live) -/
theorem lpRemove_true_kills (hc : Reach M c) (hs : step t c.g (c.l t) a = some (g', l', obs))
    {k : Nat} (hm : Obs.lpRemove k true ∈ obs) :
    k < c.g.n ∧ c.g.live k = true ∧ g'.live k = false ∧ (∀ j, j ≠ k → g'.live j = c.g.live j) ∧ g'.n = c.g.n := by
  obtain ⟨h1, h2, h3, h4, h5, _⟩ := lpRemove_step hc hs hm
  exact ⟨h1, h2.symm, h3, h4, h5⟩

/-- a step emitting `lpRemove k false` kills nothing (node `k` was dead already) -/
theorem lpRemove_false_kills_nothing (hc : Reach M c) (hs : step t c.g (c.l t) a = some (g', l', obs))
    {k : Nat} (hm : Obs.lpRemove k false ∈ obs) :
    c.g.live k = false ∧ (∀ j, g'.live j = c.g.live j) ∧ g'.n = c.g.n := by
  obtain ⟨_, h2, _, _, h5, h6⟩ := lpRemove_step hc hs hm
  exact ⟨h2.symm, h6 rfl, h5⟩

/-- a step emitting `lpOffer v` adds exactly one node: the new last node, live, with value `v` -/
theorem lpOffer_adds_one (hc : Reach M c) (hs : step t c.g (c.l t) a = some (g', l', obs))
    {v : Nat} (hm : Obs.lpOffer v ∈ obs) :
    g'.n = c.g.n + 1 ∧ g'.val c.g.n = v ∧ g'.live c.g.n = true ∧ (∀ j, j ≠ c.g.n → g'.live j = c.g.live j) ∧
      (∀ j, j ≠ c.g.n → g'.val j = c.g.val j) := by
  rcases step_effect (reach_invs hc t).2.1 hs with ⟨v', tl, p, _, _, rfl, ho⟩ | ⟨h, p, _, hp, hlive, rfl, ho⟩ |
      ⟨it, j, _, hj, rfl, rfl⟩ | ⟨_, _, _, h4⟩
  · have : v' = v := by rcases ho with rfl | rfl <;> simp at hm <;> exact hm.symm
    subst this
    exact ⟨rfl, if_pos rfl, if_pos rfl, fun j hj => if_neg hj, fun j hj => if_neg hj⟩
  · rcases ho with rfl | rfl <;> simp at hm
  · simp at hm
  · exact absurd hm (not_mem_of_NoAcct h4 rfl)

/-- only the linking CAS of `Offer` changes `n` -/
theorem n_changes_only_at_offer (hc : Reach M c) (hs : step t c.g (c.l t) a = some (g', l', obs))
    (hno : ∀ v, Obs.lpOffer v ∉ obs) : g'.n = c.g.n := by
  rcases step_effect (reach_invs hc t).2.1 hs with ⟨v', tl, p, _, _, rfl, ho⟩ | ⟨h, p, _, hp, hlive, rfl, ho⟩ |
      ⟨it, j, _, hj, rfl, rfl⟩ | ⟨h1, _, _, _⟩
  · exact absurd (by rcases ho with rfl | rfl <;> simp) (hno v')
  · rfl
  · rfl
  · exact h1

end Reachable

/-- `run_ind_gen` for the queue machine, with the types unfolded -/
theorem run_ind (A : Tid → Act → Prop) (P : List (Tid × Obs) → G → (Tid → L) → Prop)
    (hstep : ∀ (lg : List (Tid × Obs)) (g : G) (ls : Tid → L) (t : Tid) (a : Act) (g' : G) (l' : L)
      (obs : List Obs), Reach M ⟨g, ls⟩ → P lg g ls → A t a → step t g (ls t) a = some (g', l', obs) →
      P (lg ++ obs.map (fun o => (t, o))) g' (upd ls t l'))
    (s : List (Tid × Act)) (c : Config M) (hc : Reach M c) (hP : P [] c.g c.l) (hA : ∀ e ∈ s, A e.1 e.2) :
    P (run M c s).2 (run M c s).1.g (run M c s).1.l :=
  run_ind_gen M A (fun lg c => P lg c.g c.l) (fun lg c => hstep lg c.g c.l) s c [] hc hP hA

def liveCount (g : G) : Nat := ((List.range g.n).filter g.live).length

def Obs.isOffer : Obs → Bool | .lpOffer _ => true | _ => false
def Obs.isPollVal : Obs → Bool | .lpPoll (.val _) => true | _ => false
def Obs.isRemoveLive : Obs → Bool | .lpRemove _ true => true | _ => false
def Obs.offerVal : Obs → Option Nat | .lpOffer v => some v | _ => none

def offered (lg : List (Tid × Obs)) : Nat := lg.countP (fun e => e.2.isOffer)
def polled (lg : List (Tid × Obs)) : Nat := lg.countP (fun e => e.2.isPollVal)
def removed (lg : List (Tid × Obs)) : Nat := lg.countP (fun e => e.2.isRemoveLive)

theorem length_filter_kill {f : Nat → Bool} {n k : Nat} (hk : k < n) (hf : f k = true) :
    ((List.range n).filter fun j => if j = k then false else f j).length + 1 = ((List.range n).filter f).length := by
  induction n with
  | zero => omega
  | succ n ih =>
    rw [List.range_succ, List.filter_append, List.filter_append, List.length_append, List.length_append]
    by_cases e : n = k
    · subst e
      rw [List.filter_congr (q := f) fun j hj => if_neg (Nat.ne_of_lt (List.mem_range.1 hj))]
      simp [hf]
    · have := ih (by omega)
      simp only [List.filter_cons, List.filter_nil, if_neg e]
      omega

theorem liveCount_link (g : G) (p v : Nat) : liveCount (link g p v) = liveCount g + 1 := by
  show ((List.range (g.n + 1)).filter (link g p v).live).length = _
  rw [List.range_succ, List.filter_append, List.length_append,
    List.filter_congr (p := (link g p v).live) (q := g.live) fun j hj => if_neg (Nat.ne_of_lt (List.mem_range.1 hj))]
  simp [link, liveCount]

theorem not_acct {o : Obs} (h : o.acct = false) :
    o.isOffer = false ∧ o.isPollVal = false ∧ o.isRemoveLive = false ∧ o.offerVal = none := by
  cases o with
  | lpPoll r =>
    cases r with
    | val => cases h
    | _ => exact ⟨rfl, rfl, rfl, rfl⟩
  | lpOffer | lpRemove => cases h
  | _ => exact ⟨rfl, rfl, rfl, rfl⟩

theorem countP_zero_of_NoAcct {obs : List Obs} (h : NoAcct obs) {p : Obs → Bool}
    (hp : ∀ o, o.acct = false → p o = false) : obs.countP p = 0 :=
  List.countP_eq_zero.2 fun o ho => by rw [hp o (h o ho)]; exact Bool.false_ne_true

theorem accounting_step {t : Tid} {g g' : G} {l l' : L} {a : Act} {obs : List Obs}
    (hL : LInv g l) (hs : step t g l a = some (g', l', obs)) :
    liveCount g' + obs.countP Obs.isPollVal + obs.countP Obs.isRemoveLive
      = liveCount g + obs.countP Obs.isOffer ∧
    g'.n = g.n + obs.countP Obs.isOffer := by
  rcases step_effect hL hs with ⟨v', tl, p, rfl, _, rfl, ho⟩ | ⟨h, p, rfl, hp, hlive, rfl, ho⟩ |
      ⟨it, j, rfl, hj, rfl, rfl⟩ | ⟨h1, _, h3, h4⟩
  · rw [liveCount_link]
    rcases ho with rfl | rfl <;> exact ⟨rfl, rfl⟩
  · have : liveCount (kill g p) + 1 = liveCount g := length_filter_kill hp hlive
    rcases ho with rfl | rfl <;> exact ⟨this, rfl⟩
  · cases hl : g.live j
    · rw [kill_dead hl]; exact ⟨rfl, rfl⟩
    · have : liveCount (kill g j) + 1 = liveCount g := length_filter_kill hj hl
      exact ⟨this, rfl⟩
  · rw [countP_zero_of_NoAcct h4 fun _ h => (not_acct h).1, countP_zero_of_NoAcct h4 fun _ h => (not_acct h).2.1,
      countP_zero_of_NoAcct h4 fun _ h => (not_acct h).2.2.1]
    unfold liveCount
    rw [h1, h3]
    exact ⟨rfl, rfl⟩

theorem countP_tag (p : Obs → Bool) (t : Tid) (lg : List (Tid × Obs)) (obs : List Obs) :
    (lg ++ obs.map (fun o => (t, o))).countP (fun e => p e.2) = lg.countP (fun e => p e.2) + obs.countP p := by
  rw [List.countP_append, List.countP_map]; rfl

theorem accounting_from (c : Config M) (hc : Reach M c) (s : List (Tid × Act)) :
    liveCount (run M c s).1.g + polled (run M c s).2 + removed (run M c s).2
      = liveCount c.g + offered (run M c s).2 ∧
    (run M c s).1.g.n = c.g.n + offered (run M c s).2 := by
  refine run_ind (fun _ _ => True)
    (fun lg g _ => liveCount g + polled lg + removed lg = liveCount c.g + offered lg ∧ g.n = c.g.n + offered lg)
    ?_ s c hc ⟨rfl, rfl⟩ (fun _ _ => trivial)
  intro lg g ls t a g' l' obs hr hP _ hs
  have hL : LInv g (ls t) := (reach_invs hr t).2.1
  obtain ⟨h1, h2⟩ := accounting_step hL hs
  obtain ⟨i1, i2⟩ := hP
  simp only [polled, removed, offered, countP_tag] at i1 i2 ⊢
  omega

/-- **Accounting.** At any moment of any run from the initial state, every offered element is exactly one
    of: still queued, polled, removed; and there is one node per offered element plus the dummy. -/
theorem accounting (s : List (Tid × Act)) :
    let r := run M (Config.init M) s
    offered r.2 = liveCount r.1.g + polled r.2 + removed r.2 ∧ r.1.g.n = offered r.2 + 1 := by
  have h := accounting_from (Config.init M) Reach.init s
  have e1 : liveCount (Config.init M).g = 0 := rfl
  have e2 : (Config.init M).g.n = 1 := rfl
  rw [e1, e2] at h
  exact ⟨by omega, by omega⟩

/-- the values of the `lpOffer` entries of a log, oldest first -/
def offeredVals (lg : List (Tid × Obs)) : List Nat := lg.filterMap (fun e => e.2.offerVal)

/-- the values of the linked nodes, in link order (position 0 is the dummy) -/
def nodeVals (g : G) : List Nat := (List.range g.n).map g.val

theorem nodeVals_step {t : Tid} {g g' : G} {l l' : L} {a : Act} {obs : List Obs}
    (hL : LInv g l) (hs : step t g l a = some (g', l', obs)) :
    nodeVals g' = nodeVals g ++ obs.filterMap Obs.offerVal := by
  rcases step_effect hL hs with ⟨v', tl, p, rfl, _, rfl, ho⟩ | ⟨h, p, rfl, hp, hlive, rfl, ho⟩ |
      ⟨it, j, rfl, hj, rfl, rfl⟩ | ⟨h1, h2, _, h4⟩
  · have e1 : nodeVals (link g p v') = nodeVals g ++ [v'] := by
      show (List.range (g.n + 1)).map (link g p v').val = _
      rw [List.range_succ, List.map_append,
        List.map_congr_left (f := (link g p v').val) (g := g.val) fun j hj => if_neg (Nat.ne_of_lt (List.mem_range.1 hj))]
      simp [link, nodeVals]
    rw [e1]
    rcases ho with rfl | rfl <;> rfl
  · rcases ho with rfl | rfl <;> exact (List.append_nil (nodeVals g)).symm
  · cases g.live j <;> exact (List.append_nil (nodeVals g)).symm
  · rw [List.filterMap_eq_nil_iff.2 fun o ho => (not_acct (h4 o ho)).2.2.2, List.append_nil]
    unfold nodeVals; rw [h1, h2]

theorem offeredVals_tag (t : Tid) (lg : List (Tid × Obs)) (obs : List Obs) :
    offeredVals (lg ++ obs.map (fun o => (t, o))) = offeredVals lg ++ obs.filterMap Obs.offerVal := by
  unfold offeredVals; rw [List.filterMap_append, List.filterMap_map]; rfl

theorem values_are_offered_from (c : Config M) (hc : Reach M c) (s : List (Tid × Act)) :
    nodeVals (run M c s).1.g = nodeVals c.g ++ offeredVals (run M c s).2 := by
  refine run_ind (fun _ _ => True) (fun lg g _ => nodeVals g = nodeVals c.g ++ offeredVals lg)
    ?_ s c hc (List.append_nil _).symm (fun _ _ => trivial)
  intro lg g ls t a g' l' obs hr hP _ hs
  have hL : LInv g (ls t) := (reach_invs hr t).2.1
  rw [nodeVals_step hL hs, hP, offeredVals_tag, List.append_assoc]

/-- in any run from the initial state, the node at position `k ≥ 1` carries the value of the `k`-th
    `lpOffer` of the log -/
theorem values_are_offered (s : List (Tid × Act)) :
    nodeVals (run M (Config.init M) s).1.g = 0 :: offeredVals (run M (Config.init M) s).2 :=
  values_are_offered_from (Config.init M) Reach.init s

def Obs.itPos : Obs → Option Nat | .itNext pos _ => some pos | _ => none

/-- the positions returned by the `Next()` calls of thread `t`, oldest first -/
def itPositions (t : Tid) (lg : List (Tid × Obs)) : List Nat :=
  lg.filterMap (fun e => if e.1 = t then e.2.itPos else none)

theorem itPositions_tag (t t' : Tid) (lg : List (Tid × Obs)) (obs : List Obs) :
    itPositions t (lg ++ obs.map (fun o => (t', o))) =
      itPositions t lg ++ (if t' = t then obs.filterMap Obs.itPos else []) := by
  unfold itPositions
  rw [List.filterMap_append, List.filterMap_map]
  by_cases h : t' = t <;> simp [h, Function.comp_def]

/-- `x` is at most the position returned last by this iterator object -/
def BelowIt (x : Nat) (it : Iter) : Prop := ∃ r, it.prev = some r ∧ x ≤ r

def BelowC (x : Nat) : Cont → Prop
  | .iter it => BelowIt x it
  | _ => True

/-- "`x` may have been returned already by the current iterator of the thread at this pc": false while
    the iterator is under construction, `x ≤ prev` for an existing iterator, true without an iterator -/
def Below (x : Nat) : L → Prop
  | .k0 m | .k1 m _ _ | .k2 m _ _ => m ≠ .iter
  | .u1 _ _ k | .u2 _ k => BelowC x k
  | .idleIt it | .n0 it _ | .n0h it _ | .n1 it _ _ | .n2 it _ _ | .n2h it _ _ | .n3 it _ _ _ | .r0 it _ => BelowIt x it
  | _ => True

theorem Below_finish {x : Nat} {k : Cont} (h : BelowC x k) : Below x (finish k).1 := by
  cases k with
  | ret r => trivial
  | size p => cases p <;> trivial
  | iter it => exact h

theorem Below_goUpd {x : Nat} (h tgt : Nat) {k : Cont} (hk : BelowC x k) : Below x (goUpd h tgt k).1 :=
  goUpd_ind (P := fun y => Below x y.1) h tgt k (Below_finish hk) hk

theorem BelowC_foundLive {x : Nat} {m : Mode} (hm : m ≠ .iter) (p v : Nat) : BelowC x (foundLive m p v).2 := by
  cases m <;> first | trivial | exact absurd rfl hm

theorem BelowC_foundNone {x : Nat} {m : Mode} (hm : m ≠ .iter) : BelowC x (foundNone m).2 := by
  cases m <;> first | trivial | exact absurd rfl hm

theorem Below_iterOf {x : Nat} {l : L} {it : Iter} (h : iterOf l = some it) (hB : Below x l) : BelowIt x it := by
  cases l with
  | idleIt | n0 | n0h | n1 | n2 | n2h | n3 | r0 => cases h; exact hB
  | u1 _ _ k | u2 _ k =>
    cases k with
    | iter => cases h; exact hB
    | _ => cases h
  | _ => cases h

theorem below_step {t : Tid} {g g' : G} {l l' : L} {a : Act} {obs : List Obs} {x : Nat}
    (hs : step t g l a = some (g', l', obs)) (ha : a ≠ .iterator) (hno : ∀ pos v, Obs.itNext pos v ∉ obs)
    (hB : Below x l) : Below x l' := by
  have h := Step.of_step hs
  induction h with
  | iterator => exact absurd rfl ha
  | k1_live => exact Below_goUpd _ _ (BelowC_foundLive hB _ _)
  | k2_nil => exact Below_goUpd _ _ (BelowC_foundNone hB)
  | p3_some | p3_nil | p4_nil => exact Below_goUpd _ _ trivial
  | u1_fail | u2 => exact Below_finish hB
  | n0_nil | n1_live | n2_nil => exact absurd (List.mem_cons_self ..) (hno _ _)
  | peek | isEmpty | size | s2_self => exact fun h => nomatch h
  | k0 | k1_dead | k2_self | k2_adv | u1_cas | hasNext | next_nil | next_some | remove_nil | remove_some
  | n0_self | n0_adv | n0h | n1_dead | n2_self | n2_adv | n2h | n3_cas | n3_fail | r0 => exact hB
  | _ => trivial

theorem traversal_inv (c : Config M) (hc : Reach M c) (t : Tid) (s : List (Tid × Act))
    (hs : ∀ e ∈ s, ¬ (e.1 = t ∧ e.2 = Act.iterator)) :
    (itPositions t (run M c s).2).Pairwise (· < ·) ∧
    ∀ x ∈ itPositions t (run M c s).2, Below x ((run M c s).1.l t) := by
  refine run_ind (fun t' a => ¬ (t' = t ∧ a = Act.iterator))
    (fun lg _ ls => (itPositions t lg).Pairwise (· < ·) ∧ ∀ x ∈ itPositions t lg, Below x (ls t))
    ?_ s c hc ⟨List.Pairwise.nil, fun x hx => by simp [itPositions] at hx⟩ hs
  intro lg g ls t' a g' l' obs hr ⟨hP1, hP2⟩ hA hstep
  rw [itPositions_tag]
  by_cases htt : t' = t
  · subst htt
    simp only [if_true, upd_same]
    obtain ⟨hG, hL, hI⟩ := reach_invs hr t'
    -- the step emits no position, or exactly the one of its `itNext` marker
    by_cases hno : ∀ pos v, Obs.itNext pos v ∉ obs
    · have e : obs.filterMap Obs.itPos = [] := List.filterMap_eq_nil_iff.2 fun o ho => by
        cases o with
        | itNext pos v => exact absurd ho (hno pos v)
        | _ => rfl
      rw [e, List.append_nil]
      exact ⟨hP1, fun x hx => below_step hstep (fun h => hA ⟨rfl, h⟩) hno (hP2 x hx)⟩
    · obtain ⟨pos, v, hm⟩ : ∃ pos v, Obs.itNext pos v ∈ obs := by simpa using hno
      obtain ⟨_, e, it, it', hit, hl', _, _, _, _, _, hprev, hprev', _⟩ := itNext_step hG hL hI hstep hm
      rw [e]
      have hlt : ∀ x ∈ itPositions t' lg, x < pos := by
        intro x hx
        obtain ⟨r, hr1, hr2⟩ := Below_iterOf hit (hP2 x hx)
        have := hprev r hr1; omega
      refine ⟨List.pairwise_append.2 ⟨hP1, List.pairwise_singleton _ _, fun x hx y hy => ?_⟩, fun x hx => ?_⟩
      · rw [List.mem_singleton.1 hy]; exact hlt x hx
      · subst hl'
        refine ⟨pos, hprev', ?_⟩
        rcases List.mem_append.1 hx with hx | hx
        · exact Nat.le_of_lt (hlt x hx)
        · rw [List.mem_singleton.1 hx]; exact Nat.le_refl _
  · simp only [htt, if_false, List.append_nil, upd_other _ _ _ _ (Ne.symm htt)]
    exact ⟨hP1, hP2⟩

/-- From any reachable configuration and for any schedule in which thread `t` does
    not invoke `Iterator()` again (so that all `Next()` calls of `t` belong to one iterator object), the
    positions returned to `t` are strictly increasing: each element at most once, in queue order. -/
theorem traversal_strictly_increasing (c : Config M) (hc : Reach M c) (t : Tid) (s : List (Tid × Act))
    (hs : ∀ e ∈ s, ¬ (e.1 = t ∧ e.2 = Act.iterator)) :
    (itPositions t (run M c s).2).Pairwise (· < ·) :=
  (traversal_inv c hc t s hs).1

theorem traversal_nodup (c : Config M) (hc : Reach M c) (t : Tid) (s : List (Tid × Act))
    (hs : ∀ e ∈ s, ¬ (e.1 = t ∧ e.2 = Act.iterator)) :
    (itPositions t (run M c s).2).Nodup :=
  List.nodup_iff_pairwise_ne.2
    ((traversal_strictly_increasing c hc t s hs).imp (fun h => Nat.ne_of_lt h))

theorem run_guar (c : Config M) (hc : Reach M c) (s : List (Tid × Act)) : Guar c.g (run M c s).1.g := by
  refine run_ind (fun _ _ => True) (fun _ g _ => Guar c.g g) ?_ s c hc (Guar.refl _) (fun _ _ => trivial)
  intro lg g ls t a g' l' obs hr hP _ hs
  obtain ⟨hG, hL, _⟩ := reach_invs hr t
  exact hP.trans (step_pres hG hL hs).2.1

theorem run_live_mono (c : Config M) (hc : Reach M c) (s : List (Tid × Act)) (k : Nat) (hk : k < c.g.n)
    (h : (run M c s).1.g.live k = true) : c.g.live k = true := by
  cases e : c.g.live k with
  | true => rfl
  | false => rw [(run_guar c hc s).live_mono k hk e] at h; contradiction

/-- the iterator has not yet passed position `k` -/
def AheadIt (k : Nat) (it : Iter) : Prop := ∃ p, it.nextNode = some p ∧ p ≤ k

def AheadC (k : Nat) : Cont → Prop
  | .iter it => AheadIt k it
  | _ => True

/-- the traversal of the thread at this pc (construction or iterator) has not yet passed position `k` -/
def Ahead (k : Nat) : L → Prop
  | .k1 _ _ p => p ≤ k
  | .k2 _ _ p => p < k
  | .u1 _ _ c | .u2 _ c => AheadC k c
  | .idleIt it | .n0 it _ | .n0h it _ | .n1 it _ _ | .n2 it _ _ | .n2h it _ _ | .n3 it _ _ _ | .r0 it _ => AheadIt k it
  | _ => True

theorem Ahead_finish {k : Nat} {c : Cont} (h : AheadC k c) : Ahead k (finish c).1 := by
  cases c with
  | ret r => trivial
  | size p => cases p <;> trivial
  | iter it => exact h

theorem Ahead_goUpd {k : Nat} (h tgt : Nat) {c : Cont} (hc : AheadC k c) : Ahead k (goUpd h tgt c).1 :=
  goUpd_ind (P := fun x => Ahead k x.1) h tgt c (Ahead_finish hc) hc

theorem AheadC_foundLive {k : Nat} (m : Mode) {p : Nat} (v : Nat) (h : p ≤ k) : AheadC k (foundLive m p v).2 := by
  cases m <;> first | trivial | exact ⟨p, rfl, h⟩

/-- one step of the traversing thread: a node `k` that is live and not yet passed is returned by this
    step or is still not passed afterwards -/
theorem ahead_step {t : Tid} {g g' : G} {l l' : L} {a : Act} {obs : List Obs} {k : Nat}
    (hG : GInv g) (hL : LInv g l) (hI : IterInv g l) (hs : step t g l a = some (g', l', obs))
    (hk : k < g.n) (hlive : g.live k = true) (hA : Ahead k l) :
    k ∈ obs.filterMap Obs.itPos ∨ Ahead k l' := by
  have hdead : ∀ j, g.live j = false → j ≠ k := fun j hj e => by subst e; rw [hlive] at hj; contradiction
  have h := Step.of_step hs
  induction h with
  | k0 =>
    refine Or.inr (Nat.le_of_not_lt fun h => ?_)
    exact hdead k (hG.dead_before_head k h) rfl
  | k1_live => exact Or.inr (Ahead_goUpd _ _ (AheadC_foundLive _ _ hA))
  | @k1_dead m h p hd => exact Or.inr (Nat.lt_of_le_of_ne hA (hdead p hd))
  | @k2_nil m h p hnone =>
    have hA' : p < k := hA
    have := (hG.last p hL.2.1).1 hnone
    omega
  | @k2_adv m h p q hq hne =>
    exact Or.inr (Nat.le_of_not_lt fun h' => hdead k ((hG.fwd_ne hL.2.1 hq hne).2.2 k hA h') rfl)
  | p3_some | p3_nil | p4_nil => exact Or.inr (Ahead_goUpd _ _ trivial)
  | u1_fail | u2 => exact Or.inr (Ahead_finish hA)
  | n0_nil | n1_live | n2_nil =>
    -- `Next()` returns `pred ≤ k`: either `k` itself, or everything between `pred` and the new cursor is dead
    obtain ⟨p, hp1, hp2⟩ := hA
    rw [hI.1] at hp1; cases hp1
    obtain ⟨_, _, _, it', _, hl', _, _, _, _, _, _, _, _, hskip, hend⟩ := itNext_step hG hL hI hs (List.mem_cons_self ..)
    rw [hl']
    rcases Nat.eq_or_lt_of_le hp2 with e | e
    · subst e; exact Or.inl (List.mem_cons_self ..)
    · cases hn : it'.nextNode with
      | none => exact absurd rfl (hdead k (hend hn k e hk))
      | some q => exact Or.inr ⟨q, hn, Nat.le_of_not_lt fun h' => hdead k ((hskip q hn).2 k e h') rfl⟩
  | u1_cas | hasNext | next_nil | next_some | remove_nil | remove_some | n0_self | n0_adv | n0h | n1_dead
  | n2_self | n2_adv | n2h | n3_cas | n3_fail | r0 => exact Or.inr hA
  | _ => exact Or.inr trivial

/-- Let `n0 ≤ c.g.n` and suppose the traversal of thread `t` has at `c`
    not yet passed any live node below `n0` (e.g. `Iterator()` was just invoked).  Then after any schedule,
    every node below `n0` that is still live (hence was live all the time, `run_live_mono`) has been
    returned to `t` or has still not been passed. -/
theorem traversal_complete_gen (c : Config M) (hc : Reach M c) (t : Tid) (s : List (Tid × Act))
    (n0 : Nat) (hn0 : n0 ≤ c.g.n) (h0 : ∀ k, k < n0 → c.g.live k = true → Ahead k (c.l t)) :
    ∀ k, k < n0 → (run M c s).1.g.live k = true →
      k ∈ itPositions t (run M c s).2 ∨ Ahead k ((run M c s).1.l t) := by
  have := run_ind (fun _ _ => True)
    (fun lg g ls => n0 ≤ g.n ∧ ∀ k, k < n0 → g.live k = true → k ∈ itPositions t lg ∨ Ahead k (ls t))
    ?_ s c hc ⟨hn0, fun k hk hl => Or.inr (h0 k hk hl)⟩ (fun _ _ => trivial)
  · exact this.2
  · intro lg g ls t' a g' l' obs hr ⟨h1, h2⟩ _ hstep
    obtain ⟨hG, hL, hI⟩ := reach_invs hr t'
    refine ⟨Nat.le_trans h1 (n_mono_step hstep), fun k hk hl' => ?_⟩
    have hl : g.live k = true := by
      cases e : g.live k with
      | true => rfl
      | false => rw [live_only_dies hG hL hstep k (Nat.lt_of_lt_of_le hk h1) e] at hl'; contradiction
    rw [itPositions_tag]
    by_cases htt : t' = t
    · subst htt
      simp only [if_true, upd_same]
      rcases h2 k hk hl with h | h
      · exact Or.inl (List.mem_append_left _ h)
      · rcases ahead_step hG hL hI hstep (Nat.lt_of_lt_of_le hk h1) hl h with h' | h'
        · exact Or.inl (List.mem_append_right _ h')
        · exact Or.inr h'
    · simp only [htt, if_false, List.append_nil, upd_other _ _ _ _ (Ne.symm htt)]
      exact h2 k hk hl

/-- Thread `t` has just invoked `Iterator()` at the reachable configuration `c`.
    If after the schedule `s` its iterator is exhausted (`nextNode = none`, `HasNext() = false`), then every
    element that was in the list at `c` and is still live at the end (hence was live during the whole
    traversal) has been returned by a `Next()` of `t`.  (With `traversal_strictly_increasing`: exactly once,
    if `s` contains no further `Iterator()` invocation of `t`.) -/
theorem traversal_complete (c : Config M) (hc : Reach M c) (t : Tid) (s : List (Tid × Act))
    (hstart : c.l t = .k0 .iter) {it : Iter} (hend : (run M c s).1.l t = .idleIt it)
    (hex : it.nextNode = none) :
    ∀ k, k < c.g.n → (run M c s).1.g.live k = true → k ∈ itPositions t (run M c s).2 := by
  intro k hk hl
  rcases traversal_complete_gen c hc t s c.g.n (Nat.le_refl _) (fun _ _ _ => by rw [hstart]; trivial) k hk hl
    with h | h
  · exact h
  · rw [hend] at h
    obtain ⟨p, hp, _⟩ := h
    rw [hex] at hp; contradiction

/-- the same while the traversal is still under way: everything before the element that `Next()` will return
    next has been returned, if it is still live -/
theorem traversal_complete_upto (c : Config M) (hc : Reach M c) (t : Tid) (s : List (Tid × Act))
    (hstart : c.l t = .k0 .iter) {it : Iter} (hend : (run M c s).1.l t = .idleIt it)
    {p : Nat} (hp : it.nextNode = some p) :
    ∀ k, k < c.g.n → k < p → (run M c s).1.g.live k = true → k ∈ itPositions t (run M c s).2 := by
  intro k hk hkp hl
  rcases traversal_complete_gen c hc t s c.g.n (Nat.le_refl _) (fun _ _ _ => by rw [hstart]; trivial) k hk hl
    with h | h
  · exact h
  · rw [hend] at h
    obtain ⟨q, hq, hqk⟩ := h
    rw [hp] at hq; cases hq; omega

theorem itNext_log_inv (c : Config M) (hc : Reach M c) (s : List (Tid × Act)) :
    ∀ t pos v, (t, Obs.itNext pos v) ∈ (run M c s).2 →
      0 < pos ∧ pos < (run M c s).1.g.n ∧ v = (run M c s).1.g.val pos := by
  refine run_ind (fun _ _ => True)
    (fun lg g _ => ∀ t pos v, (t, Obs.itNext pos v) ∈ lg → 0 < pos ∧ pos < g.n ∧ v = g.val pos)
    ?_ s c hc (fun _ _ _ h => by simp at h) (fun _ _ => trivial)
  intro lg g ls t a g' l' obs hr hP _ hstep t' pos v hm
  obtain ⟨hG, hL, hI⟩ := reach_invs hr t
  rcases List.mem_append.1 hm with h | h
  · obtain ⟨a1, a2, a3⟩ := hP t' pos v h
    exact ⟨a1, Nat.lt_of_lt_of_le a2 (n_mono_step hstep), by rw [val_stable hstep pos a2]; exact a3⟩
  · obtain ⟨o, ho, e⟩ := List.mem_map.1 h
    cases e
    obtain ⟨rfl, _, _, _, _, _, _, _, hpos, hlt, hval, _⟩ := itNext_step hG hL hI hstep ho
    exact ⟨hpos, hlt, hval⟩

/-- In any run from the initial state, a value returned by `Next()` at position `pos`
    is the value of the `pos`-th `lpOffer` of the log: the iterator returns only offered values. -/
theorem iterator_returns_offered (s : List (Tid × Act)) (t : Tid) (pos v : Nat)
    (hm : (t, Obs.itNext pos v) ∈ (run M (Config.init M) s).2) :
    0 < pos ∧ (offeredVals (run M (Config.init M) s).2)[pos - 1]? = some v := by
  obtain ⟨h1, h2, h3⟩ := itNext_log_inv (Config.init M) Reach.init s t pos v hm
  refine ⟨h1, ?_⟩
  have e : (nodeVals (run M (Config.init M) s).1.g)[pos]? = some v := by
    unfold nodeVals
    rw [List.getElem?_map, List.getElem?_range h2, h3]; rfl
  rw [values_are_offered s] at e
  obtain ⟨q, rfl⟩ : ∃ q, pos = q + 1 := ⟨pos - 1, by omega⟩
  rw [List.getElem?_cons_succ] at e
  simpa using e

end Garr.Queue

