import Garr.Queue.Inv
/-!
# Linearization points of the lock-free queue model: forward simulation and LP discipline

* `absP`/`absS`: the abstract state (content with stable handles = node positions, next handle).
* `specApply`: the sequential specification (FIFO queue + handle-based `removeAt`).
* `disc_step`: every step is of one of the six kinds of `Disc`, which say how the step moves the thread
  with respect to the specification operation it is executing (`curOp`), what it observes, and what it does
  to the abstract state: each operation emits exactly one LP marker, in one of its own steps between
  invocation and response; that step acts on the abstract state as `specApply` does for the operation,
  with the result recorded in the marker, which is also the result of the response; every other step
  leaves the abstract state alone.
* read by LP marker: `step_refines`, `marker_spec`, `refines_no_lp`/`refines_lp`; read by phase of the
  thread: `disc_idle`/`disc_pending`/`disc_done`.
* corollaries `poll_takes_head`, `empty_only_if_empty`, `offer_appends`.
-/
namespace Garr.Queue
open Garr.Conc

/-- positions of the live nodes, in link order -/
def liveIdx (n : Nat) (live : Nat → Bool) : List Nat := (List.range n).filter live

/-- abstract content: (position, value) of the live nodes in link order -/
def absP (g : G) : List (Nat × Nat) := (liveIdx g.n g.live).map (fun i => (i, g.val i))

/-- specification state: content + number of nodes ever linked (the next handle) -/
structure SpecSt where
  items : List (Nat × Nat)
  next : Nat

def absS (g : G) : SpecSt := ⟨absP g, g.n⟩

inductive Op | offer (v : Nat) | poll | peek | isEmpty | removeAt (pos : Nat)
deriving DecidableEq, Repr

/-- the sequential specification: a FIFO queue whose elements carry stable handles -/
def specApply (s : SpecSt) : Op → SpecSt × Ret
  | .offer v => (⟨s.items ++ [(s.next, v)], s.next + 1⟩, .unit)
  | .poll =>
    match s.items with
    | [] => (s, .nil)
    | (_, v) :: q => (⟨q, s.next⟩, .val v)
  | .peek =>
    match s.items with
    | [] => (s, .nil)
    | (_, v) :: _ => (s, .val v)
  | .isEmpty => (s, .bool (decide (s.items = [])))
  | .removeAt p => (⟨s.items.filter (fun x => x.1 ≠ p), s.next⟩, .unit)

def liveIn (live : Nat → Bool) (a b : Nat) : List Nat := (List.range' a (b - a)).filter live

theorem liveIdx_eq_liveIn (n : Nat) (live : Nat → Bool) : liveIdx n live = liveIn live 0 n := by
  unfold liveIdx liveIn; rw [List.range_eq_range']; rfl

theorem liveIn_congr {l1 l2 : Nat → Bool} {a b : Nat} (h : ∀ k, a ≤ k → k < b → l1 k = l2 k) :
    liveIn l1 a b = liveIn l2 a b := by
  unfold liveIn
  apply List.filter_congr
  intro x hx
  obtain ⟨h1, h2⟩ := List.mem_range'_1.mp hx
  exact h x h1 (by omega)

theorem liveIn_dead {live : Nat → Bool} {a b : Nat} (h : ∀ j, a ≤ j → j < b → live j = false) :
    liveIn live a b = [] := by
  unfold liveIn
  rw [List.filter_eq_nil_iff]
  intro x hx
  obtain ⟨h1, h2⟩ := List.mem_range'_1.mp hx
  simp [h x h1 (by omega)]

theorem liveIn_append {live : Nat → Bool} {a b c : Nat} (hab : a ≤ b) (hbc : b ≤ c) :
    liveIn live a c = liveIn live a b ++ liveIn live b c := by
  obtain ⟨m, rfl⟩ := Nat.exists_eq_add_of_le hab
  obtain ⟨n, rfl⟩ := Nat.exists_eq_add_of_le hbc
  unfold liveIn
  rw [Nat.add_sub_cancel_left, Nat.add_sub_cancel_left, Nat.add_assoc, Nat.add_sub_cancel_left,
    ← List.filter_append, List.range'_append_1]

theorem liveIn_cons {live : Nat → Bool} {q n : Nat} (hq : q < n) (hl : live q = true) :
    liveIn live q n = q :: liveIn live (q + 1) n := by
  obtain ⟨m, rfl⟩ := Nat.exists_eq_add_of_le hq
  unfold liveIn
  rw [Nat.add_sub_cancel_left, Nat.succ_add, Nat.succ_sub (Nat.le_add_right q m), Nat.add_sub_cancel_left,
    List.range'_succ,
    List.filter_cons, if_pos hl]

theorem liveIn_first {live : Nat → Bool} {a q n : Nat} (haq : a ≤ q) (hqn : q < n)
    (hd : ∀ j, a ≤ j → j < q → live j = false) (hl : live q = true) :
    liveIn live a n = q :: liveIn live (q + 1) n := by
  rw [liveIn_append haq (Nat.le_of_lt hqn), liveIn_dead hd, List.nil_append, liveIn_cons hqn hl]

theorem liveIdx_append {n a : Nat} (live : Nat → Bool) (h : a ≤ n) :
    liveIdx n live = liveIdx a live ++ liveIn live a n := by
  rw [liveIdx_eq_liveIn, liveIdx_eq_liveIn, liveIn_append (Nat.zero_le a) h]

theorem liveIdx_all_dead {n : Nat} {l : Nat → Bool} (h : ∀ k, k < n → l k = false) : liveIdx n l = [] := by
  rw [liveIdx_eq_liveIn]; exact liveIn_dead (fun k _ hk => h k hk)

theorem liveIdx_succ (n : Nat) (l : Nat → Bool) :
    liveIdx (n+1) l = liveIdx n l ++ (if l n then [n] else []) := by
  rw [liveIdx_append l (Nat.le_succ n)]
  cases hl : l n with
  | true => rw [liveIn_cons (Nat.lt_succ_self n) hl, liveIn_dead (fun j h1 h2 => by omega)]; rfl
  | false => rw [liveIn_dead (fun j h1 h2 => by rw [show j = n by omega]; exact hl)]; rfl

theorem mem_liveIdx {n : Nat} {l : Nat → Bool} {x : Nat} (h : x ∈ liveIdx n l) : x < n ∧ l x = true := by
  have := List.mem_filter.mp h
  exact ⟨List.mem_range.mp this.1, this.2⟩


theorem absP_link (g : G) (p v : Nat) : absP (link g p v) = absP g ++ [(g.n, v)] := by
  unfold absP
  simp only [link]
  rw [liveIdx_succ]
  simp only [ite_true, List.map_append, List.map_cons, List.map_nil]
  have h1 : liveIdx g.n (fun j => if j = g.n then true else g.live j) = liveIdx g.n g.live := by
    rw [liveIdx_eq_liveIn, liveIdx_eq_liveIn]
    exact liveIn_congr (fun k _ hk => if_neg (Nat.ne_of_lt hk))
  rw [h1]
  congr 1
  apply List.map_congr_left
  intro x hx
  have : x ≠ g.n := by have := (mem_liveIdx hx).1; omega
  simp [this]

theorem absP_kill_first (g : G) (p : Nat) (hp : p < g.n) (hd : deadBelow g p) (hl : g.live p = true) :
    absP g = (p, g.val p) :: absP (kill g p) := by
  have e : liveIdx g.n g.live = p :: liveIdx g.n (fun j => if j = p then false else g.live j) := by
    rw [liveIdx_eq_liveIn, liveIdx_eq_liveIn, liveIn_first (Nat.zero_le p) hp (fun j _ hj => hd j hj) hl,
      liveIn_append (Nat.zero_le (p + 1)) hp, liveIn_dead (a := 0) (b := p + 1), List.nil_append]
    · exact congrArg _ (liveIn_congr (fun k hk _ => (if_neg (by omega)).symm))
    · intro j _ hj
      by_cases e : j = p
      · exact if_pos e
      · rw [if_neg e]; exact hd j (by omega)
  unfold absP kill
  simp only
  rw [e]
  simp

theorem absP_kill (g : G) (l : Nat) : absP (kill g l) = (absP g).filter (fun x => x.1 ≠ l) := by
  unfold absP liveIdx kill
  simp only [List.filter_map, List.filter_filter]
  congr 1
  apply List.filter_congr
  intro x _
  by_cases hx : x = l <;> simp [hx]

theorem absP_head (g : G) (t : Nat) : absP { g with head := t } = absP g := rfl
theorem absP_tail (g : G) (t : Nat) : absP { g with tail := t } = absP g := rfl
theorem absP_setNext (g : G) (i : Nat) (x : Option Nat) : absP (setNext g i x) = absP g := rfl

/-- relation to the value-only abstraction `abs` of `Model.lean` -/
theorem absFrom_eq (g : G) (i k : Nat) :
    absFrom g i k = ((List.range' i k).filter g.live).map g.val := by
  induction k generalizing i with
  | zero => rfl
  | succ k ih =>
    rw [absFrom, List.range'_succ, List.filter_cons, ih]
    split <;> simp

theorem abs_eq_absP (g : G) : abs g = (absP g).map (·.2) := by
  unfold abs absP liveIdx
  rw [absFrom_eq, List.range_eq_range', List.map_map]
  rfl

/-- the specification operation a `first()`-traversal in mode `m` belongs to -/
def modeOp : Mode → Option Op
  | .peek => some .peek
  | .isEmpty => some .isEmpty
  | .size => none
  | .iter => none

/-- the specification operation a thread in local state `l` is executing (while its LP has not happened) -/
def curOp : L → Option Op
  | .o0 v => some (.offer v)
  | .o1 v _ _ => some (.offer v)
  | .o2 v _ _ => some (.offer v)
  | .o4 v _ _ => some (.offer v)
  | .o4b v _ => some (.offer v)
  | .o5 v _ _ _ => some (.offer v)
  | .p0 => some .poll
  | .p1 _ _ => some .poll
  | .p2 _ _ => some .poll
  | .p4 _ _ => some .poll
  | .k0 m => modeOp m
  | .k1 m _ _ => modeOp m
  | .k2 m _ _ => modeOp m
  | .r0 _ l => some (.removeAt l)
  | _ => none

/-- result carried by an LP marker -/
def lpRet : Obs → Option Ret
  | .lpOffer _ => some .unit
  | .lpPoll r => some r
  | .lpPeek r => some r
  | .lpEmpty b => some (.bool b)
  | .lpRemove _ _ => some .unit
  | .itNext _ _ => none
  | .ret _ => none
  | .retAux _ => none

/-- operation and result recorded by an LP marker -/
def lpInfo : Obs → Option (Op × Ret)
  | .lpOffer v => some (.offer v, .unit)
  | .lpPoll r => some (.poll, r)
  | .lpPeek r => some (.peek, r)
  | .lpEmpty b => some (.isEmpty, .bool b)
  | .lpRemove p _ => some (.removeAt p, .unit)
  | .itNext _ _ => none
  | .ret _ => none
  | .retAux _ => none

theorem filterMap_lpRet (obs : List Obs) : obs.filterMap lpRet = (obs.filterMap lpInfo).map (·.2) := by
  rw [List.map_filterMap]
  congr 1
  funext o
  cases o <;> rfl


def contRet : Cont → Option Ret
  | .ret r => some r
  | _ => none

/-- the result fixed at the LP that the thread will return (for local states after the LP, before the response) -/
def doneRet : L → Option Ret
  | .o3 _ _ => some .unit
  | .p3 _ _ v => some (.val v)
  | .u1 _ _ k => contRet k
  | .u2 _ k => contRet k
  | _ => none

def retOf : Obs → Option Ret
  | .ret r => some r
  | .lpOffer _ => none
  | .lpPoll _ => none
  | .lpPeek _ => none
  | .lpEmpty _ => none
  | .lpRemove _ _ => none
  | .itNext _ _ => none
  | .retAux _ => none

/-- the responses (of specification operations) among the observations of a step -/
def rets (obs : List Obs) : List Ret := obs.filterMap retOf

/-- the specification operation invoked by taking action `a` in local state `l` (if any) -/
def invOp : L → Act → Option Op
  | .idle, .offer v => some (.offer v)
  | .idle, .poll => some .poll
  | .idle, .peek => some .peek
  | .idle, .isEmpty => some .isEmpty
  | .idleIt it, .remove => it.lastRet.map .removeAt
  | _, _ => none

/-- the invocations of specification operations: `Offer`/`Poll`/`Peek`/`IsEmpty` from `idle`, and an
effective iterator `Remove` (one with a `lastRet` target) from `idleIt` -/
theorem invOp_eq_some {l : L} {a : Act} {op : Op} : invOp l a = some op ↔
    (l = .idle ∧ ((∃ v, a = .offer v ∧ op = .offer v) ∨ (a = .poll ∧ op = .poll) ∨
      (a = .peek ∧ op = .peek) ∨ (a = .isEmpty ∧ op = .isEmpty))) ∨
    (∃ it p, l = .idleIt it ∧ a = .remove ∧ it.lastRet = some p ∧ op = .removeAt p) := by
  constructor
  · intro h
    unfold invOp at h
    split at h
    · cases h; simp
    · cases h; simp
    · cases h; simp
    · cases h; simp
    · rename_i it
      cases hl : it.lastRet with
      | none => rw [hl] at h; cases h
      | some p => rw [hl] at h; cases h; exact .inr ⟨it, p, rfl, rfl, hl, rfl⟩
    · cases h
  · rintro (⟨rfl, ⟨v, rfl, rfl⟩ | ⟨rfl, rfl⟩ | ⟨rfl, rfl⟩ | ⟨rfl, rfl⟩⟩ | ⟨it, p, rfl, rfl, hl, rfl⟩)
    all_goals first | rfl | exact congrArg (Option.map Op.removeAt) hl

theorem doneRet_none_of_curOp {l : L} {op : Op} (h : curOp l = some op) : doneRet l = none := by
  cases l <;> first | rfl | cases h

/-- a classified observation: LP marker (with the result fixed there) or response -/
inductive Mark | lp (r : Ret) | res (r : Ret)
deriving DecidableEq, Repr

def markOf : Obs → Option Mark
  | .lpOffer _ => some (.lp .unit)
  | .lpPoll r => some (.lp r)
  | .lpPeek r => some (.lp r)
  | .lpEmpty b => some (.lp (.bool b))
  | .lpRemove _ _ => some (.lp .unit)
  | .ret r => some (.res r)
  | .itNext _ _ => none
  | .retAux _ => none

/-- the LP markers and responses among the observations of a step, in order -/
def marks (obs : List Obs) : List Mark := obs.filterMap markOf

def Mark.lp? : Mark → Option Ret
  | .lp r => some r
  | .res _ => none

def Mark.res? : Mark → Option Ret
  | .lp _ => none
  | .res r => some r

theorem markOf_eq (o : Obs) : markOf o =
    match lpRet o, retOf o with
    | some r, _ => some (.lp r)
    | none, some r => some (.res r)
    | none, none => none := by cases o <;> rfl

theorem lpRet_retOf_not_both (o : Obs) : lpRet o = none ∨ retOf o = none := by
  cases o <;> first | exact Or.inl rfl | exact Or.inr rfl

theorem filterMap_lpRet_marks (obs : List Obs) : obs.filterMap lpRet = (marks obs).filterMap Mark.lp? := by
  unfold marks
  rw [List.filterMap_filterMap]
  congr 1
  funext o
  cases o <;> rfl

theorem rets_marks (obs : List Obs) : rets obs = (marks obs).filterMap Mark.res? := by
  unfold marks rets
  rw [List.filterMap_filterMap]
  congr 1
  funext o
  cases o <;> rfl

theorem invOp_tau (l : L) : invOp l .tau = none := by cases l <;> rfl

theorem markOf_lp_iff {m : Obs} {r : Ret} : markOf m = some (.lp r) ↔ ∃ op, lpInfo m = some (op, r) := by
  constructor
  · intro h; cases m <;> cases h <;> exact ⟨_, rfl⟩
  · rintro ⟨op, h⟩; cases m <;> cases h <;> rfl

theorem marks_lp {m : Obs} {op : Op} {r : Ret} (h : lpInfo m = some (op, r)) (obs : List Obs) :
    marks (m :: obs) = .lp r :: marks obs := by
  rw [marks, List.filterMap_cons, markOf_lp_iff.mpr ⟨op, h⟩]; rfl

theorem lpInfo_nil_of_marks {obs : List Obs} (h : marks obs = []) : obs.filterMap lpInfo = [] := by
  rw [marks, List.filterMap_eq_nil_iff] at h
  rw [List.filterMap_eq_nil_iff]
  intro o ho
  have := h o ho
  cases o <;> first | rfl | cases this

theorem spec_offer (g : G) (p v : Nat) : specApply (absS g) (.offer v) = (absS (link g p v), .unit) := by
  simp only [specApply, absS, absP_link]
  rfl

theorem spec_remove (g : G) (l : Nat) : specApply (absS g) (.removeAt l) = (absS (kill g l), .unit) := by
  simp only [specApply, absS, absP_kill]
  rfl

/-- at the first live node `p`: `Poll` takes it, `Peek` and `IsEmpty` see it -/
theorem spec_at_first (g : G) (p : Nat) (hp : p < g.n) (hd : deadBelow g p) (hl : g.live p = true) :
    specApply (absS g) .poll = (absS (kill g p), .val (g.val p)) ∧
    specApply (absS g) .peek = (absS g, .val (g.val p)) ∧
    specApply (absS g) .isEmpty = (absS g, .bool false) := by
  simp [specApply, absS, absP_kill_first g p hp hd hl, kill]

/-- a traversal that reaches the last node with everything up to it dead has seen an empty queue -/
theorem spec_at_end {g : G} (hG : GInv g) {p : Nat} (hp : p < g.n) (hd : deadBelow g (p+1))
    (hn : g.next p = none) :
    specApply (absS g) .poll = (absS g, .nil) ∧ specApply (absS g) .peek = (absS g, .nil) ∧
    specApply (absS g) .isEmpty = (absS g, .bool true) := by
  have he : absP g = [] := by
    unfold absP
    rw [liveIdx_all_dead (by rw [← (hG.last p hp).1 hn]; exact hd)]; rfl
  simp [specApply, absS, he]

/-! ## The kinds of step: LP discipline and forward simulation in one -/

/-- how one step moves a thread with respect to the specification operation it is executing, what it
observes (inside an operation nothing but the LP marker and the response) and what it does to the
abstract state: at the LP it applies the operation, with the result recorded in the marker (this
needs the invariants of the state the step is taken from); otherwise nothing.  The shared state
changes at `link` and `kill`, which are LPs, and at the writes to `head`, `tail` and `next`, which
`absS` does not see; the empty-queue LPs are reads. -/
inductive Disc (g : G) (l : L) (a : Act) (g' : G) (l' : L) (obs : List Obs) : Prop
  /-- a step outside any operation that is not an invocation; it may respond (`retAux`) -/
  | out : curOp l = none → doneRet l = none → marks obs = [] → invOp l a = none →
      curOp l' = none → doneRet l' = none → absS g' = absS g → Disc g l a g' l' obs
  /-- a silent step that is not an invocation: with respect to its operation the thread stays where
  it is (outside any, before the LP, or after it) -/
  | cont : obs = [] → invOp l a = none → curOp l' = curOp l → doneRet l' = doneRet l → absS g' = absS g →
      Disc g l a g' l' obs
  /-- the invocation of `invOp l a` -/
  | call : obs = [] → curOp l = none → doneRet l = none → curOp l' = invOp l a → doneRet l' = none →
      absS g' = absS g → Disc g l a g' l' obs
  /-- the LP, whose marker `m` fixes the result `r` -/
  | lp (op : Op) (r : Ret) (m : Obs) : curOp l = some op → invOp l a = none → obs = [m] →
      lpInfo m = some (op, r) → doneRet l' = some r → curOp l' = none →
      (GInv g → LInv g l → specApply (absS g) op = (absS g', r)) → Disc g l a g' l' obs
  /-- the LP and the response in one step; only the iterator's `Remove` does not end in `idle` -/
  | lpRes (op : Op) (r : Ret) (m : Obs) : curOp l = some op → invOp l a = none → obs = [m, .ret r] →
      lpInfo m = some (op, r) → curOp l' = none → doneRet l' = none → ((∀ p, op ≠ .removeAt p) → l' = .idle) →
      (GInv g → LInv g l → specApply (absS g) op = (absS g', r)) → Disc g l a g' l' obs
  /-- the response, with the result fixed at the LP -/
  | res (r : Ret) : doneRet l = some r → invOp l a = none → obs = [.ret r] → l' = .idle → absS g' = absS g →
      Disc g l a g' l' obs

/-- leaving `updateHead` responds iff the continuation carries a result -/
theorem Disc.finish {g g' : G} {l : L} {k : Cont} (hc : curOp l = none) (hd : doneRet l = contRet k)
    (hg : absS g' = absS g) : Disc g l .tau g' (finish k).1 (finish k).2 := by
  cases k with
  | ret r => exact .res r hd (invOp_tau l) rfl rfl hg
  | size p => cases p <;> exact .out hc hd rfl (invOp_tau l) rfl rfl hg
  | iter it => exact .out hc hd rfl (invOp_tau l) rfl rfl hg

theorem Disc.goUpd {g : G} {l : L} (h tgt : Nat) {k : Cont} (hc : curOp l = none) (hd : doneRet l = contRet k) :
    Disc g l .tau g (goUpd h tgt k).1 (goUpd h tgt k).2 :=
  goUpd_ind (P := fun x => Disc g l .tau g x.1 x.2) h tgt k (.finish hc hd rfl)
    (.cont rfl (invOp_tau l) hc.symm hd.symm rfl)

/-- a reading LP: marker `m`, then `updateHead` with the result as continuation -/
theorem Disc.lp_goUpd {g : G} {l : L} {op : Op} {m : Obs} {r : Ret} (h tgt : Nat) (hc : curOp l = some op)
    (hm : lpInfo m = some (op, r)) (hsp : GInv g → LInv g l → specApply (absS g) op = (absS g, r)) :
    Disc g l .tau g (Garr.Queue.goUpd h tgt (.ret r)).1 (m :: (Garr.Queue.goUpd h tgt (.ret r)).2) :=
  goUpd_ind (P := fun x => Disc g l .tau g x.1 (m :: x.2)) h tgt _
    (.lpRes op r m hc (invOp_tau l) rfl hm rfl rfl (fun _ => rfl) hsp) (.lp op r m hc (invOp_tau l) rfl hm rfl rfl hsp)

theorem disc_step {t : Tid} {g g' : G} {l l' : L} {a : Act} {obs : List Obs}
    (hs : step t g l a = some (g', l', obs)) : Disc g l a g' l' obs := by
  induction Step.of_step hs with
  | offer | poll | peek | isEmpty => exact .call rfl rfl rfl rfl rfl rfl
  | remove_nil hl => exact .out rfl rfl rfl (congrArg (Option.map Op.removeAt) hl) rfl rfl rfl
  | remove_some hl => exact .call rfl rfl rfl (congrArg (Option.map Op.removeAt) hl).symm rfl rfl
  | s1_max | s2_nil | hasNext | next_nil | n0_nil | n1_live | n2_nil => exact .out rfl rfl rfl rfl rfl rfl rfl
  | o2_link => exact .lp _ _ _ rfl rfl rfl rfl rfl rfl (fun _ _ => spec_offer g _ _)
  | o2_link_ret => exact .lpRes _ _ _ rfl rfl rfl rfl rfl rfl (fun _ => rfl) (fun _ _ => spec_offer g _ _)
  | p2_kill hl => exact .lp _ _ _ rfl rfl rfl rfl rfl rfl (fun _ hL => (spec_at_first g _ hL.2.1 hL.2.2 hl).1)
  | p2_kill_ret hl =>
    exact .lpRes _ _ _ rfl rfl rfl rfl rfl rfl (fun _ => rfl) (fun _ hL => (spec_at_first g _ hL.2.1 hL.2.2 hl).1)
  | r0 => exact .lpRes _ _ _ rfl rfl rfl rfl rfl rfl (fun h => (h _ rfl).elim) (fun _ _ => spec_remove g _)
  | o3_swing | o3_skip => exact .res _ rfl rfl rfl rfl rfl
  | p3_some | p3_nil => exact .goUpd _ _ rfl rfl
  | u1_fail | u2 => exact .finish rfl rfl rfl
  | p4_nil hn => exact .lp_goUpd _ _ rfl rfl (fun hG hL => (spec_at_end hG hL.2.1 hL.2.2 hn).1)
  | @k1_live m _ _ hl =>
    cases m
    · exact .lp_goUpd _ _ rfl rfl (fun _ hL => (spec_at_first g _ hL.2.1 hL.2.2 hl).2.1)
    · exact .lp_goUpd _ _ rfl rfl (fun _ hL => (spec_at_first g _ hL.2.1 hL.2.2 hl).2.2)
    · exact .goUpd _ _ rfl rfl
    · exact .goUpd _ _ rfl rfl
  | @k2_nil m _ _ hn =>
    cases m
    · exact .lp_goUpd _ _ rfl rfl (fun hG hL => (spec_at_end hG hL.2.1 hL.2.2 hn).2.1)
    · exact .lp_goUpd _ _ rfl rfl (fun hG hL => (spec_at_end hG hL.2.1 hL.2.2 hn).2.2)
    · exact .goUpd _ _ rfl rfl
    · exact .goUpd _ _ rfl rfl
  | _ => exact .cont rfl rfl rfl rfl rfl

/-! ## Forward simulation, read by LP marker -/

/-- the two ways a step can act on the abstract state: without a marker not at all, with a marker as the
operation the thread is executing, which the marker names -/
theorem step_refines_op {t : Tid} {g g' : G} {l l' : L} {a : Act} {obs : List Obs}
    (hG : GInv g) (hL : LInv g l) (hs : step t g l a = some (g', l', obs)) :
    (obs.filterMap lpInfo = [] ∧ absS g' = absS g) ∨
    (∃ op r, obs.filterMap lpInfo = [(op, r)] ∧ curOp l = some op ∧ specApply (absS g) op = (absS g', r)) := by
  cases disc_step hs with
  | out _ _ hm _ _ _ hg => exact .inl ⟨lpInfo_nil_of_marks hm, hg⟩
  | cont ho _ _ _ hg | call ho _ _ _ _ hg => exact .inl ⟨ho ▸ rfl, hg⟩
  | res _ _ _ ho _ hg => exact .inl ⟨ho ▸ rfl, hg⟩
  | lp op r _ hc _ ho hm _ _ hsp | lpRes op r _ hc _ ho hm _ _ _ hsp =>
    exact .inr ⟨op, r, by rw [ho, List.filterMap_cons, hm]; rfl, hc, hsp hG hL⟩

/-- **Forward simulation at the linearization points.**  A step without LP marker leaves the
abstract state unchanged; a step with a marker carrying result `r` acts on the abstract state
exactly as the sequential specification does for the operation the thread is executing, with
result `r`. -/
theorem step_refines {t : Tid} {g g' : G} {l l' : L} {a : Act} {obs : List Obs}
    (hG : GInv g) (hL : LInv g l) (hs : step t g l a = some (g', l', obs)) :
    (obs.filterMap lpRet = [] ∧ absS g' = absS g) ∨
    (∃ r op, obs.filterMap lpRet = [r] ∧ curOp l = some op ∧ specApply (absS g) op = (absS g', r)) := by
  rw [filterMap_lpRet]
  rcases step_refines_op hG hL hs with ⟨h1, h2⟩ | ⟨op, r, h1, h2, h3⟩
  · exact Or.inl ⟨by rw [h1]; rfl, h2⟩
  · exact Or.inr ⟨r, op, by rw [h1]; rfl, h2, h3⟩

theorem marker_spec {t : Tid} {g g' : G} {l l' : L} {a : Act} {obs : List Obs}
    (hG : GInv g) (hL : LInv g l) (hs : step t g l a = some (g', l', obs))
    {m : Obs} {op : Op} {r : Ret} (hm : m ∈ obs) (hi : lpInfo m = some (op, r)) :
    curOp l = some op ∧ specApply (absS g) op = (absS g', r) := by
  have hmem : (op, r) ∈ obs.filterMap lpInfo := List.mem_filterMap.mpr ⟨m, hm, hi⟩
  rcases step_refines_op hG hL hs with ⟨h1, _⟩ | ⟨op', r', h1, h2, h3⟩
  · rw [h1] at hmem; cases hmem
  · rw [h1] at hmem
    simp only [List.mem_singleton, Prod.mk.injEq] at hmem
    obtain ⟨rfl, rfl⟩ := hmem
    exact ⟨h2, h3⟩

/-- a successful `Poll` takes the head of the abstract queue -/
theorem poll_takes_head {t : Tid} {g g' : G} {l l' : L} {a : Act} {obs : List Obs}
    (hG : GInv g) (hL : LInv g l) (hs : step t g l a = some (g', l', obs))
    {v : Nat} (hm : Obs.lpPoll (.val v) ∈ obs) : ∃ p, absP g = (p, v) :: absP g' := by
  have h := (marker_spec hG hL hs hm rfl).2
  simp only [specApply, absS] at h
  split at h
  · simp at h
  · rename_i p w q heq
    simp at h
    obtain ⟨⟨rfl, _⟩, rfl⟩ := h
    exact ⟨p, heq⟩

/-- `Poll`/`Peek` return nil and `IsEmpty` returns true only if the abstract queue is empty at the LP -/
theorem empty_only_if_empty {t : Tid} {g g' : G} {l l' : L} {a : Act} {obs : List Obs}
    (hG : GInv g) (hL : LInv g l) (hs : step t g l a = some (g', l', obs))
    (hm : Obs.lpPoll .nil ∈ obs ∨ Obs.lpPeek .nil ∈ obs ∨ Obs.lpEmpty true ∈ obs) : absP g = [] := by
  -- on a non-empty queue the specification returns none of these results
  cases hi : absP g with
  | nil => rfl
  | cons x q =>
    rcases hm with hm | hm | hm <;> have h := (marker_spec hG hL hs hm rfl).2 <;>
      simp [specApply, absS, hi] at h

/-- `Offer(v)` appends `v` (with the fresh handle `g.n`) at the end of the abstract queue -/
theorem offer_appends {t : Tid} {g g' : G} {l l' : L} {a : Act} {obs : List Obs}
    (hG : GInv g) (hL : LInv g l) (hs : step t g l a = some (g', l', obs))
    {v : Nat} (hm : Obs.lpOffer v ∈ obs) : absP g' = absP g ++ [(g.n, v)] := by
  have h := (marker_spec hG hL hs hm rfl).2
  simp only [specApply, absS, Prod.mk.injEq, SpecSt.mk.injEq] at h
  exact h.1.1.symm


/-! ## The LP discipline, read by phase of the thread -/

theorem curOp_none_of_doneRet {l : L} {r : Ret} (h : doneRet l = some r) : curOp l = none := by
  cases hc : curOp l with
  | none => rfl
  | some op => rw [doneRet_none_of_curOp hc] at h; cases h

/-- a thread outside any specification operation emits neither LP markers nor responses; it enters
a specification operation exactly by an invocation (`invOp`) -/
theorem disc_idle_marks {t : Tid} {g g' : G} {l l' : L} {a : Act} {obs : List Obs}
    (hs : step t g l a = some (g', l', obs)) (hc : curOp l = none) (hd : doneRet l = none) :
    marks obs = [] ∧ curOp l' = invOp l a ∧ doneRet l' = none := by
  cases disc_step hs with
  | out _ _ hm hi hc' hd' => exact ⟨hm, hc'.trans hi.symm, hd'⟩
  | cont ho hi hc' hd' => exact ⟨ho ▸ rfl, hc'.trans (hc.trans hi.symm), hd'.trans hd⟩
  | call ho _ _ hc' hd' => exact ⟨ho ▸ rfl, hc', hd'⟩
  | lp _ _ _ h | lpRes _ _ _ h => rw [hc] at h; cases h
  | res _ h => rw [hd] at h; cases h

/-- a thread executing specification operation `op` whose LP has not happened yet: it either goes
on, or passes its LP (marker with result `r`) and remembers `r`, or passes its LP and responds
with the same `r` in the same step (marker first) -/
theorem disc_pending_marks {t : Tid} {g g' : G} {l l' : L} {a : Act} {obs : List Obs}
    (hs : step t g l a = some (g', l', obs)) {op : Op} (hc : curOp l = some op) :
    invOp l a = none ∧
    ((marks obs = [] ∧ curOp l' = some op) ∨
     (∃ r, marks obs = [.lp r] ∧ doneRet l' = some r ∧ curOp l' = none) ∨
     (∃ r, marks obs = [.lp r, .res r] ∧ curOp l' = none ∧ doneRet l' = none)) := by
  cases disc_step hs with
  | out h | call _ h => rw [hc] at h; cases h
  | cont ho hi hc' => exact ⟨hi, .inl ⟨ho ▸ rfl, hc'.trans hc⟩⟩
  | lp _ r _ _ hi ho hm hd' hc' => exact ⟨hi, .inr (.inl ⟨r, ho ▸ marks_lp hm [], hd', hc'⟩)⟩
  | lpRes _ r _ _ hi ho hm hc' hd' => exact ⟨hi, .inr (.inr ⟨r, ho ▸ marks_lp hm _, hc', hd'⟩)⟩
  | res _ h => rw [doneRet_none_of_curOp hc] at h; cases h

/-- a thread past its LP (result `r` fixed) emits no further marker and responds with exactly `r` -/
theorem disc_done_marks {t : Tid} {g g' : G} {l l' : L} {a : Act} {obs : List Obs}
    (hs : step t g l a = some (g', l', obs)) {r : Ret} (hd : doneRet l = some r) :
    invOp l a = none ∧
    ((marks obs = [] ∧ doneRet l' = some r ∧ curOp l' = none) ∨
     (marks obs = [.res r] ∧ curOp l' = none ∧ doneRet l' = none)) := by
  have hc := curOp_none_of_doneRet hd
  cases disc_step hs with
  | out _ h | call _ _ h => rw [hd] at h; cases h
  | cont ho hi hc' hd' => exact ⟨hi, .inl ⟨ho ▸ rfl, hd'.trans hd, hc'.trans hc⟩⟩
  | lp _ _ _ h | lpRes _ _ _ h => rw [hc] at h; cases h
  | res r' h hi ho hl =>
    cases h.symm.trans hd
    exact ⟨hi, .inr ⟨ho ▸ rfl, hl ▸ rfl, hl ▸ rfl⟩⟩

/-! ### The same discipline, phrased with the separate projections `filterMap lpRet` / `rets` -/

theorem disc_idle {t : Tid} {g g' : G} {l l' : L} {a : Act} {obs : List Obs}
    (hs : step t g l a = some (g', l', obs)) (hc : curOp l = none) (hd : doneRet l = none) :
    obs.filterMap lpRet = [] ∧ rets obs = [] ∧ curOp l' = invOp l a ∧ doneRet l' = none := by
  obtain ⟨hm, h1, h2⟩ := disc_idle_marks hs hc hd
  rw [filterMap_lpRet_marks, rets_marks, hm]
  exact ⟨rfl, rfl, h1, h2⟩

theorem disc_pending {t : Tid} {g g' : G} {l l' : L} {a : Act} {obs : List Obs}
    (hs : step t g l a = some (g', l', obs)) {op : Op} (hc : curOp l = some op) :
    (obs.filterMap lpRet = [] ∧ rets obs = [] ∧ curOp l' = some op) ∨
    (∃ r, obs.filterMap lpRet = [r] ∧ rets obs = [] ∧ doneRet l' = some r ∧ curOp l' = none) ∨
    (∃ r, obs.filterMap lpRet = [r] ∧ rets obs = [r] ∧ marks obs = [.lp r, .res r] ∧
      curOp l' = none ∧ doneRet l' = none) := by
  rw [filterMap_lpRet_marks, rets_marks]
  rcases (disc_pending_marks hs hc).2 with ⟨hm, h1⟩ | ⟨r, hm, h1, h2⟩ | ⟨r, hm, h1, h2⟩
  · rw [hm]; exact Or.inl ⟨rfl, rfl, h1⟩
  · rw [hm]; exact Or.inr (Or.inl ⟨r, rfl, rfl, h1, h2⟩)
  · rw [hm]; exact Or.inr (Or.inr ⟨r, rfl, rfl, rfl, h1, h2⟩)

theorem disc_done {t : Tid} {g g' : G} {l l' : L} {a : Act} {obs : List Obs}
    (hs : step t g l a = some (g', l', obs)) {r : Ret} (hd : doneRet l = some r) :
    obs.filterMap lpRet = [] ∧
    ((rets obs = [] ∧ doneRet l' = some r) ∨ (rets obs = [r] ∧ curOp l' = none ∧ doneRet l' = none)) := by
  rw [filterMap_lpRet_marks, rets_marks]
  rcases (disc_done_marks hs hd).2 with ⟨hm, h1, _⟩ | ⟨hm, h1, h2⟩
  · rw [hm]; exact ⟨rfl, Or.inl ⟨rfl, h1⟩⟩
  · rw [hm]; exact ⟨rfl, Or.inr ⟨rfl, h1, h2⟩⟩

/-! ## The simulation in the form `Garr.Lin` asks for ("LP discipline + refinement ⇒ linearizable") -/

/-- the initial abstract state: empty content, next handle 1 (node 0 is the dummy) -/
theorem absS_init : absS init = ⟨[], 1⟩ := rfl


theorem refines_no_lp {t : Tid} {g g' : G} {l l' : L} {a : Act} {obs : List Obs}
    (hG : GInv g) (hL : LInv g l) (hs : step t g l a = some (g', l', obs))
    (h : ∀ r, Mark.lp r ∉ marks obs) : absS g' = absS g := by
  rcases step_refines_op hG hL hs with ⟨_, h2⟩ | ⟨op, r, h1, _, _⟩
  · exact h2
  · obtain ⟨m, hm, e⟩ := List.mem_filterMap.mp (h1 ▸ List.mem_singleton.mpr rfl : (op, r) ∈ obs.filterMap lpInfo)
    exact absurd (List.mem_filterMap.mpr ⟨m, hm, markOf_lp_iff.mpr ⟨op, e⟩⟩) (h r)

theorem refines_lp {t : Tid} {g g' : G} {l l' : L} {a : Act} {obs : List Obs}
    (hG : GInv g) (hL : LInv g l) (hs : step t g l a = some (g', l', obs))
    {r : Ret} {op : Op} (hm : Mark.lp r ∈ marks obs) (hc : curOp l = some op) :
    specApply (absS g) op = (absS g', r) := by
  obtain ⟨m, hm, e⟩ := List.mem_filterMap.mp hm
  obtain ⟨op', e'⟩ := markOf_lp_iff.mp e
  obtain ⟨h1, h2⟩ := marker_spec hG hL hs hm e'
  cases h1.symm.trans hc
  exact h2

theorem reach_step_refines {c : Config M} (hr : Reach M c) {t : Tid} {a : Act} {g' : G} {l' : L}
    {obs : List Obs} (hs : step t c.g (c.l t) a = some (g', l', obs)) :
    (obs.filterMap lpRet = [] ∧ absS g' = absS c.g) ∨
    (∃ r op, obs.filterMap lpRet = [r] ∧ curOp (c.l t) = some op ∧
      specApply (absS c.g) op = (absS g', r)) :=
  let hI := inv_reach c hr
  step_refines hI.1 (hI.2 t) hs

end Garr.Queue

/-! The sequential specification run on a list of operations: what the single-thread results of
`Queue/Quiescent.lean` and `Props/C15.lean` are stated against; it stands here, below both. -/
namespace Garr.Props.C01
open Garr.Queue

/-- run a sequence of operations through the sequential specification; returns the final state
and the (operation, result) pairs in order -/
def runSpec : SpecSt → List Op → SpecSt × List (Op × Ret)
  | st, [] => (st, [])
  | st, op :: ops =>
    ((runSpec (specApply st op).1 ops).1, (op, (specApply st op).2) :: (runSpec (specApply st op).1 ops).2)

/-- a plain queue operation (not the iterator's handle-based `Remove`) -/
def plain : Op → Prop
  | .removeAt _ => False
  | _ => True

end Garr.Props.C01
