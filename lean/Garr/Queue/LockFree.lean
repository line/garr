import Garr.Queue.Term
/-!
# C07 (lock-freedom): no interleaving can livelock the queue — bounded TOTAL work

`Term.lean` proves obstruction-freedom (`C07_solo_bound`: a thread running ALONE finishes within
`16·n+15` own steps).  This file proves the interleaved statement: from every reachable configuration,
EVERY executable schedule without new invocations — any interleaving of any number of threads, fair or
not — has length at most an explicit `F n k` (`n` linked nodes, `k` threads involved).  So there is no
infinite run of internal steps (no livelock), a non-resting thread always has an enabled step
(`nonblocking`, no deadlock), hence every maximal run is finite and ends with every thread at rest,
and under every fair infinite schedule every operation returns.

Proof: a ranking function `Phi = Psi · B + Σ_t mu`.

* `Σ_t mu` (the obstruction-freedom measure of `Term.lean`, summed over the participating threads)
  strictly decreases on every step that leaves the shared state `g` unchanged: the stepping thread's
  `mu` decreases (`mu_dec`), every other thread's `mu g l_u` is unchanged because `g` and `l_u` are.
* `Psi = 2·(N − head) + Σ_t psiL N l_t` is a "history" potential that never increases and strictly
  decreases on every step that changes `g`.  `N` is a fixed upper bound on the final number of nodes
  (`n` + number of `Offer`s that have not linked yet, invariant under internal steps).  The writes:
  - `o2` link CAS: once per `Offer` (`psiL`: 2 → 1/0);   `o3` tail CAS: once per `Offer` (1 → 0);
  - `p2` item CAS: once per `Poll` (1 → 0);               `r0` item store: once per `Remove` (1 → 0);
  - `u1` head CAS: `head` moves strictly forward (`2·(N − head)` drops by ≥ 2, `psiL` 0 → 1);
  - `u2` self-link store: once per successful head CAS (1 → 0);
  - `n3` unlink CAS: the cursor `p` of `Next` moves strictly forward (`psiL = N − p`).
* A step that changes `g` may increase `Σ mu`, but only up to `k·(16N+15) < B`.
-/
namespace Garr.Queue.LockFree
open Garr.Conc Garr.Queue

/-- `Exec c σ c'`: the schedule `σ` is executable from `c` — every listed step is enabled when its
    turn comes — and leads to `c'`. -/
inductive Exec : Config M → List (Tid × Act) → Config M → Prop
  | nil (c : Config M) : Exec c [] c
  | cons {c : Config M} {t : Tid} {a : Act} {g' : G} {l' : L} {obs : List Obs}
      {σ : List (Tid × Act)} {c' : Config M} :
      step t c.g (c.l t) a = some (g', l', obs) → Exec ⟨g', upd c.l t l'⟩ σ c' → Exec c ((t, a) :: σ) c'

/-- number of invocations (non-`tau` actions) in a schedule -/
def invs : List (Tid × Act) → Nat
  | [] => 0
  | (_, a) :: σ => (if a = Act.tau then 0 else 1) + invs σ

/-- only internal steps: no new invocation -/
def TauOnly (σ : List (Tid × Act)) : Prop := ∀ x ∈ σ, x.2 = Act.tau

instance (σ : List (Tid × Act)) : Decidable (TauOnly σ) := by unfold TauOnly; infer_instance

theorem Exec.reach {c c' : Config M} {σ : List (Tid × Act)} (h : Exec c σ c') (hc : Reach M c) :
    Reach M c' := by
  induction h with
  | nil c => exact hc
  | cons hs _ ih => exact ih (Reach.step (M := M) hc hs)

theorem Exec.append {c c' c'' : Config M} {σ σ' : List (Tid × Act)} (h : Exec c σ c')
    (h' : Exec c' σ' c'') : Exec c (σ ++ σ') c'' := by
  induction h with
  | nil c => exact h'
  | cons hs _ ih => exact Exec.cons hs (ih h')

theorem Exec.single {c : Config M} {t : Tid} {a : Act} {g' : G} {l' : L} {obs : List Obs}
    (hs : step t c.g (c.l t) a = some (g', l', obs)) : Exec c [(t, a)] ⟨g', upd c.l t l'⟩ :=
  Exec.cons hs (Exec.nil _)

theorem Exec.run_eq {c c' : Config M} {σ : List (Tid × Act)} (h : Exec c σ c') : (run M c σ).1 = c' := by
  induction h with
  | nil c => rfl
  | cons hs _ ih => exact (congrArg Prod.fst (run_cons_some (M := M) hs)).trans ih

/-- all steps of `σ` are enabled in turn (computable) -/
def enabledAll : Config M → List (Tid × Act) → Bool
  | _, [] => true
  | c, (t, a) :: σ =>
    match step t c.g (c.l t) a with
    | none => false
    | some (g', l', _) => enabledAll ⟨g', upd c.l t l'⟩ σ

theorem exec_of_enabledAll : ∀ (σ : List (Tid × Act)) (c c' : Config M), enabledAll c σ = true →
    (run M c σ).1 = c' → Exec c σ c'
  | [], c, _, _, rfl => Exec.nil c
  | (t, a) :: σ, c, c', h, hr => by
    simp only [enabledAll] at h
    split at h
    · cases h
    · rename_i g' l' obs hs
      exact Exec.cons hs
        (exec_of_enabledAll σ _ c' h ((congrArg Prod.fst (run_cons_some (M := M) hs)).symm.trans hr))

/-- the steps of an arbitrary schedule that `run` actually executes (it skips disabled ones) -/
def effective : Config M → List (Tid × Act) → List (Tid × Act)
  | _, [] => []
  | c, (t, a) :: σ =>
    match step t c.g (c.l t) a with
    | none => effective c σ
    | some (g', l', _) => (t, a) :: effective ⟨g', upd c.l t l'⟩ σ

theorem exec_effective : ∀ (σ : List (Tid × Act)) (c c' : Config M), (run M c σ).1 = c' →
    Exec c (effective c σ) c'
  | [], c, _, rfl => Exec.nil c
  | (t, a) :: σ, c, c', h => by
    simp only [effective]
    split
    · rename_i hs
      exact exec_effective σ c c' ((congrArg Prod.fst (run_cons_none (M := M) hs)).symm.trans h)
    · rename_i g' l' obs hs
      exact Exec.cons hs
        (exec_effective σ _ c' ((congrArg Prod.fst (run_cons_some (M := M) hs)).symm.trans h))

theorem effective_mem : ∀ (σ : List (Tid × Act)) (c : Config M) (x : Tid × Act), x ∈ effective c σ → x ∈ σ := by
  intro σ
  induction σ with
  | nil => intro c x h; cases h
  | cons y σ ih =>
    intro c x h
    obtain ⟨t, a⟩ := y
    simp only [effective] at h
    split at h
    · exact List.mem_cons_of_mem _ (ih _ _ h)
    · rcases List.mem_cons.1 h with e | e
      · exact e ▸ List.mem_cons_self ..
      · exact List.mem_cons_of_mem _ (ih _ _ e)

theorem effective_invs : ∀ (σ : List (Tid × Act)) (c : Config M), invs (effective c σ) ≤ invs σ := by
  intro σ
  induction σ with
  | nil => intro c; exact Nat.le_refl _
  | cons y σ ih =>
    intro c
    obtain ⟨t, a⟩ := y
    simp only [effective]
    split
    · have := ih c; simp only [invs]; omega
    · rename_i g' l' obs hs
      have := ih ⟨g', upd c.l t l'⟩; simp only [invs]; omega

theorem invs_tauOnly {σ : List (Tid × Act)} (h : TauOnly σ) : invs σ = 0 := by
  induction σ with
  | nil => rfl
  | cons x σ ih =>
    obtain ⟨t, a⟩ := x
    have ha : a = Act.tau := h (t, a) (List.mem_cons_self ..)
    have := ih (fun y hy => h y (List.mem_cons_of_mem _ hy))
    simp only [invs, ha, this]; rfl

def invokers : List (Tid × Act) → List Tid
  | [] => []
  | (t, a) :: σ => if a = Act.tau then invokers σ else t :: invokers σ

theorem invokers_length (σ : List (Tid × Act)) : (invokers σ).length = invs σ := by
  induction σ with
  | nil => rfl
  | cons x σ ih =>
    obtain ⟨t, a⟩ := x
    simp only [invokers, invs]
    split <;> simp [ih] <;> omega

theorem exec_movers {c c' : Config M} {σ : List (Tid × Act)} (h : Exec c σ c') :
    ∀ x, x ∈ σ → atRest (c.l x.1) = false ∨ x.1 ∈ invokers σ := by
  induction h with
  | nil c => intro x hx; cases hx
  | @cons c t a g' l' obs σ c' hs _ ih =>
    have hhead : atRest (c.l t) = false ∨ t ∈ invokers ((t, a) :: σ) := by
      by_cases ha : a = Act.tau
      · subst ha; exact Or.inl (tau_not_rest hs)
      · right; simp only [invokers, if_neg ha]; exact List.mem_cons_self ..
    intro x hx
    by_cases hxt : x.1 = t
    · rw [hxt]; exact hhead
    · -- another thread: its entry lies in `σ`, and the step of `t` has not moved it
      rcases List.mem_cons.1 hx with e | e
      · exact absurd (congrArg Prod.fst e) hxt
      · refine (ih x e).imp (fun h1 => (congrArg atRest (upd_other c.l t x.1 l' hxt)).symm.trans h1)
          fun h1 => ?_
        simp only [invokers]; split
        · exact h1
        · exact List.mem_cons_of_mem _ h1

/-- an `Offer` that has not linked its node yet (it will increase `n` by one) -/
def pre : L → Nat
  | .o0 _ => 1
  | .o1 _ _ _ => 1
  | .o2 _ _ _ => 1
  | .o4 _ _ _ => 1
  | .o4b _ _ => 1
  | .o5 _ _ _ _ => 1
  | _ => 0

/-- the thread-local part of the history potential: how many writes this operation may still perform
    that are not paid for by the forward movement of `head`.  In `Next` the unlink CAS (`n3`) is paid
    for by the cursor `p`, which only moves forward: `N − p`.  At `n0`/`n0h` the cursor is not chosen
    yet (it will be `next pred` or `head`), hence `N`, which bounds `N − p` whatever `p` becomes. -/
def psiL (N : Nat) : L → Nat
  | .o0 _ => 2
  | .o1 _ _ _ => 2
  | .o2 _ _ _ => 2
  | .o3 _ _ => 1
  | .o4 _ _ _ => 2
  | .o4b _ _ => 2
  | .o5 _ _ _ _ => 2
  | .p0 => 1
  | .p1 _ _ => 1
  | .p2 _ _ => 1
  | .p4 _ _ => 1
  | .u2 _ _ => 1
  | .n0 _ _ => N
  | .n0h _ _ => N
  | .n1 _ _ p => N - p
  | .n2 _ _ p => N - p
  | .n2h _ _ p => N - p
  | .n3 _ _ p _ => N - p
  | .r0 _ _ => 1
  | _ => 0

def shared (N : Nat) (g : G) : Nat := 2 * (N - g.head)

theorem psiL_le (N : Nat) (l : L) : psiL N l ≤ N + 2 := by
  cases l with
  | n0 | n0h => exact Nat.le_add_right _ _
  | n1 | n2 | n2h | n3 => exact Nat.le_trans (Nat.sub_le _ _) (Nat.le_add_right _ _)
  | _ => exact Nat.le_trans (Nat.le_of_ble_eq_true rfl) (Nat.le_add_left 2 N)

theorem pre_le (l : L) : pre l ≤ 1 := by
  cases l <;> exact Nat.le_of_ble_eq_true rfl

theorem quiet_finish (N : Nat) : ∀ k : Cont, pre (finish k).1 = 0 ∧ psiL N (finish k).1 = 0 :=
  finish_ind (P := fun x => pre x.1 = 0 ∧ psiL N x.1 = 0) (fun _ => ⟨rfl, rfl⟩) ⟨rfl, rfl⟩ (fun _ => ⟨rfl, rfl⟩)
    (fun _ => ⟨rfl, rfl⟩)

theorem quiet_goUpd (N : Nat) (h tgt : Nat) (k : Cont) :
    pre (goUpd h tgt k).1 = 0 ∧ psiL N (goUpd h tgt k).1 = 0 :=
  goUpd_ind (P := fun x => pre x.1 = 0 ∧ psiL N x.1 = 0) h tgt k (quiet_finish N k) ⟨rfl, rfl⟩

/-- An internal step never creates a pending link (`n + pre` does not grow); it either leaves the
    shared state untouched and does not increase the local potential, or strictly decreases
    `shared + psiL`. -/
theorem psi_step {t : Tid} {g g' : G} {l l' : L} {obs : List Obs} {N : Nat}
    (hG : GInv g) (hL : LInv g l) (hN : g.n ≤ N) (hs : step t g l .tau = some (g', l', obs)) :
    g'.n + pre l' ≤ g.n + pre l ∧
    ((g' = g ∧ psiL N l' ≤ psiL N l) ∨ shared N g' + psiL N l' + 1 ≤ shared N g + psiL N l) := by
  have hhead := hG.head_lt
  have h := Step.of_step hs
  -- with the action a variable, `induction` applies (see `Step`); the constructors for invocations
  -- and iterator calls carry an action other than `.tau`, so `cases ha` closes them
  generalize ha : Act.tau = a at h
  induction h with
  | offer | poll | peek | isEmpty | size | iterator | hasNext | drop | next_nil | next_some | remove_nil
  | remove_some => cases ha
  -- the writes
  | o2_link | o3_swing | p2_kill | p2_kill_ret | r0 => exact ⟨Nat.le_refl _, .inr (Nat.le_refl _)⟩
  | o2_link_ret => exact ⟨Nat.le_refl _, .inr (Nat.le_succ _)⟩
  | u1_cas hh =>
    have := hL.1; have := hL.2.1
    exact ⟨Nat.le_refl _, .inr (by simp only [psiL, shared]; omega)⟩
  | u2 => exact ⟨Nat.le_of_eq (congrArg _ (quiet_finish N _).1), .inr ((quiet_finish N _).2 ▸ Nat.le_refl _)⟩
  | n3_cas =>
    obtain ⟨_, hpq, hqn, _⟩ := hL
    exact ⟨Nat.le_refl _, .inr (by simp only [psiL, shared, setNext]; omega)⟩
  -- the cursor of `Next` moves on, or `Next` returns
  | n3_fail =>
    obtain ⟨_, hpq, hqn, _⟩ := hL
    exact ⟨Nat.le_refl _, .inl ⟨rfl, by simp only [psiL]; omega⟩⟩
  | n0_adv | n0h => exact ⟨Nat.le_refl _, .inl ⟨rfl, Nat.sub_le _ _⟩⟩
  | o3_skip | n0_nil | n1_live | n2_nil => exact ⟨Nat.le_refl _, .inl ⟨rfl, Nat.zero_le _⟩⟩
  | p3_some | p3_nil | p4_nil | k1_live | k2_nil =>
    exact ⟨Nat.le_of_eq (congrArg _ (quiet_goUpd N ..).1), .inl ⟨rfl, (quiet_goUpd N ..).2 ▸ Nat.zero_le _⟩⟩
  | u1_fail =>
    exact ⟨Nat.le_of_eq (congrArg _ (quiet_finish N _).1), .inl ⟨rfl, (quiet_finish N _).2 ▸ Nat.zero_le _⟩⟩
  -- every other step keeps `pre` and `psiL`
  | _ => exact ⟨Nat.le_refl _, .inl ⟨rfl, Nat.le_refl _⟩⟩

theorem sum_step {ts : List Tid} (hnd : ts.Nodup) {t : Tid} (ht : t ∈ ts) (f : M.L → Nat) (ls : Tid → M.L) (l' : M.L) :
    (ts.map fun u => f (upd ls t l' u)).sum + f (ls t) = (ts.map fun u => f (ls u)).sum + f l' := by
  induction ts with
  | nil => cases ht
  | cons a ts ih =>
    simp only [List.map_cons, List.sum_cons]
    rw [List.nodup_cons] at hnd
    by_cases hat : a = t
    · subst hat
      have : (ts.map fun u => f (upd ls a l' u)) = ts.map fun u => f (ls u) :=
        List.map_congr_left fun u hu => by rw [upd_other _ _ _ _ (fun e => hnd.1 (e ▸ hu) : u ≠ a)]
      rw [upd_same, this]; omega
    · have := ih hnd.2 ((List.mem_cons.1 ht).resolve_left fun e => hat e.symm)
      rw [upd_other _ _ _ _ hat]; omega

theorem sum_le {ts : List Tid} {f : Tid → Nat} {b : Nat} (h : ∀ u, u ∈ ts → f u ≤ b) :
    (ts.map f).sum ≤ ts.length * b := by
  induction ts with
  | nil => exact Nat.zero_le _
  | cons a ts ih =>
    simp only [List.map_cons, List.sum_cons, List.length_cons]
    have := h a (List.mem_cons_self ..)
    have := ih (fun u hu => h u (List.mem_cons_of_mem _ hu))
    rw [Nat.add_mul]; omega

/-- number of `Offer`s of threads in `ts` that have not linked yet -/
def Pend (ts : List Tid) (c : Config M) : Nat := (ts.map fun u => pre (c.l u)).sum

def Psi (N : Nat) (ts : List Tid) (c : Config M) : Nat :=
  shared N c.g + (ts.map fun u => psiL N (c.l u)).sum

def Mu (ts : List Tid) (c : Config M) : Nat := (ts.map fun u => mu c.g (c.l u)).sum

def Phi (N B : Nat) (ts : List Tid) (c : Config M) : Nat := Psi N ts c * B + Mu ts c

theorem Mu_le (ts : List Tid) (c : Config M) : Mu ts c ≤ ts.length * (16 * c.g.n + 15) :=
  sum_le (fun u _ => mu_le c.g (c.l u))

theorem Pend_le (ts : List Tid) (c : Config M) : Pend ts c ≤ ts.length :=
  Nat.le_trans (sum_le (b := 1) fun u _ => pre_le (c.l u)) (Nat.le_of_eq (Nat.mul_one _))

theorem Psi_le (N : Nat) (ts : List Tid) (c : Config M) : Psi N ts c ≤ 2 * N + ts.length * (N + 2) := by
  have := sum_le (ts := ts) (f := fun u => psiL N (c.l u)) (b := N + 2) (fun u _ => psiL_le N (c.l u))
  unfold Psi shared; omega

theorem rank_dec {P P' M M' B : Nat} (h : (P' ≤ P ∧ M' < M) ∨ (P' < P ∧ M' < B)) :
    P' * B + M' + 1 ≤ P * B + M := by
  rcases h with ⟨hP, hM⟩ | ⟨hP, hM⟩
  · have := Nat.mul_le_mul_right B hP
    omega
  · have := Nat.mul_le_mul_right B hP
    rw [Nat.succ_mul] at this
    omega

/-- **The ranking step.**  A step of a thread of `ts` takes one unit of `Phi` if it is internal, and
    adds less than `(N+2)·B + 16N + 16` to it if it is an invocation (`i = 1`); `n + Pend`, the bound on
    the final number of nodes, grows only at invocations. -/
theorem step_Phi {N B : Nat} {ts : List Tid} (hnd : ts.Nodup) (hB : ts.length * (16 * N + 15) + 1 ≤ B)
    {c : Config M} (hinv : Inv c) {t : Tid} (ht : t ∈ ts) {a : Act} {g' : G} {l' : L} {obs : List Obs}
    (hs : step t c.g (c.l t) a = some (g', l', obs)) {i : Nat} (hi : i = if a = Act.tau then 0 else 1)
    (hN : c.g.n + Pend ts c + i ≤ N) :
    g'.n + Pend ts ⟨g', upd c.l t l'⟩ ≤ c.g.n + Pend ts c + i ∧
    Phi N B ts ⟨g', upd c.l t l'⟩ + 1 ≤ Phi N B ts c + i * ((N + 2) * B + 16 * N + 16) := by
  have hPend : Pend ts ⟨g', upd c.l t l'⟩ + pre (c.l t) = Pend ts c + pre l' := sum_step hnd ht pre c.l l'
  have hPsi : Psi N ts ⟨g', upd c.l t l'⟩ + (shared N c.g + psiL N (c.l t)) =
      Psi N ts c + (shared N g' + psiL N l') := by
    have := sum_step hnd ht (psiL N) c.l l'
    simp only [Psi]; omega
  by_cases ha : a = Act.tau
  · subst ha hi
    obtain ⟨h1, h2⟩ := psi_step (N := N) hinv.1 (hinv.2 t) (by omega) hs
    refine ⟨by omega, Nat.le_trans (rank_dec ?_) (Nat.le_add_right ..)⟩
    rcases h2 with ⟨rfl, hle⟩ | hdec
    · -- the shared state is unchanged: `Psi` does not grow, `Σ mu` strictly decreases
      have hMu : Mu ts ⟨c.g, upd c.l t l'⟩ + mu c.g (c.l t) = Mu ts c + mu c.g l' :=
        sum_step hnd ht (mu c.g) c.l l'
      have := mu_dec hinv.1 (hinv.2 t) hs
      exact .inl ⟨by omega, by omega⟩
    · -- the shared state changed: `Psi` strictly decreases, which pays for any growth of `Σ mu`
      have hMu : Mu ts ⟨g', upd c.l t l'⟩ ≤ ts.length * (16 * g'.n + 15) := Mu_le ts _
      have : ts.length * (16 * g'.n + 15) ≤ ts.length * (16 * N + 15) := Nat.mul_le_mul_left _ (by omega)
      exact .inr ⟨by omega, by omega⟩
  · -- an invocation leaves the shared state alone; the new local potentials are at most the largest
    rw [if_neg ha] at hi
    subst hi
    obtain rfl : g' = c.g := ((Step.of_step hs).nontau ha).1
    have hMu : Mu ts ⟨c.g, upd c.l t l'⟩ + mu c.g (c.l t) = Mu ts c + mu c.g l' :=
      sum_step hnd ht (mu c.g) c.l l'
    have := pre_le l'
    have := psiL_le N l'
    have := mu_le c.g l'
    have := Nat.mul_le_mul_right B (show Psi N ts ⟨c.g, upd c.l t l'⟩ ≤ Psi N ts c + (N + 2) by omega)
    rw [Nat.add_mul] at this
    exact ⟨by omega, by unfold Phi; omega⟩

theorem exec_rank {N B : Nat} {ts : List Tid} (hnd : ts.Nodup) (hB : ts.length * (16 * N + 15) + 1 ≤ B)
    {c c' : Config M} {σ : List (Tid × Act)} (h : Exec c σ c') :
    Reach M c → (∀ x, x ∈ σ → x.1 ∈ ts) → c.g.n + Pend ts c + invs σ ≤ N →
    Phi N B ts c' + σ.length ≤ Phi N B ts c + invs σ * ((N + 2) * B + 16 * N + 16) := by
  induction h with
  | nil c => intro _ _ _; simp [invs]
  | @cons c t a g' l' obs σ c' hs _ ih =>
    intro hc hts hN
    simp only [invs, List.length_cons] at hN ⊢
    obtain ⟨h1, h2⟩ :=
      step_Phi (t := t) hnd hB (inv_reach c hc) (hts _ (List.mem_cons_self ..)) hs rfl (by omega)
    have := ih (Reach.step (M := M) hc hs) (fun x hx => hts x (List.mem_cons_of_mem _ hx))
      (by show g'.n + _ + _ ≤ N; omega)
    rw [Nat.add_mul]
    omega

/-- `B`: one more than the largest possible value of `Σ_t mu` with `k` threads and at most `N` nodes -/
def Bc (N k : Nat) : Nat := k * (16 * N + 15) + 1

/-- the bound in terms of `N` (an upper bound on the final number of nodes), `k` threads and at most
    `m` invocations -/
def FN (N k m : Nat) : Nat :=
  (2 * N + k * (N + 2) + 1) * Bc N k + m * ((N + 2) * Bc N k + 16 * N + 16)

/-- **the bound on total work without new invocations**: `n` linked nodes, `k` threads.
    `F n k = (2(n+k) + k(n+k+2) + 1) · (k(16(n+k)+15) + 1)`, i.e. `O(k²·(n+k)²)`. -/
def F (n k : Nat) : Nat := FN (n + k) k 0

/-- the bound with at most `m` new invocations -/
def FI (n k m : Nat) : Nat := FN (n + k + m) k m

theorem exec_bound_N {N m : Nat} {ts : List Tid} (hnd : ts.Nodup) {c c' : Config M} {σ : List (Tid × Act)}
    (hc : Reach M c) (h : Exec c σ c') (hts : ∀ x, x ∈ σ → x.1 ∈ ts) (hm : invs σ ≤ m)
    (hN : c.g.n + Pend ts c + m ≤ N) : σ.length < FN N ts.length m := by
  have h1 := exec_rank (N := N) (B := Bc N ts.length) hnd (Nat.le_refl _) h hc hts (by omega)
  have h2 := Nat.mul_le_mul_right ((N + 2) * Bc N ts.length + 16 * N + 16) hm
  -- `Phi` at `c` is less than `(2N + k(N+2) + 1) · B`, since `Σ mu < B`
  have h3 := Nat.mul_le_mul_right (Bc N ts.length) (Psi_le N ts c)
  have h4 := Mu_le ts c
  have h5 : ts.length * (16 * c.g.n + 15) ≤ ts.length * (16 * N + 15) := Nat.mul_le_mul_left _ (by omega)
  have : Bc N ts.length = ts.length * (16 * N + 15) + 1 := rfl
  unfold FN
  rw [Nat.add_mul _ 1, Nat.one_mul]
  unfold Phi at h1
  omega

theorem exec_bound_inv {m : Nat} {ts : List Tid} (hnd : ts.Nodup) {c c' : Config M} {σ : List (Tid × Act)}
    (hc : Reach M c) (h : Exec c σ c') (hts : ∀ x, x ∈ σ → x.1 ∈ ts) (hm : invs σ ≤ m) :
    σ.length < FI c.g.n ts.length m := by
  have := Pend_le ts c
  exact exec_bound_N hnd hc h hts hm (by omega)

/-- `k` = number of threads inside an operation at `c` (any duplicate-free list containing them) -/
theorem exec_bound_active {ts : List Tid} (hnd : ts.Nodup) {c c' : Config M} {σ : List (Tid × Act)}
    (hc : Reach M c) (hts : ∀ t, atRest (c.l t) = false → t ∈ ts) (h : Exec c σ c') (hτ : TauOnly σ) :
    σ.length < F c.g.n ts.length :=
  exec_bound_inv (m := 0) hnd hc h
    (fun x hx => hts _ <| (exec_movers h x hx).resolve_right fun hi => by
      rw [List.eq_nil_of_length_eq_zero ((invokers_length σ).trans (invs_tauOnly hτ))] at hi
      cases hi)
    (Nat.le_of_eq (invs_tauOnly hτ))

theorem Bc_mono {N N' k k' : Nat} (hN : N ≤ N') (hk : k ≤ k') : Bc N k ≤ Bc N' k' := by
  unfold Bc
  have : k * (16 * N + 15) ≤ k' * (16 * N' + 15) := Nat.mul_le_mul hk (by omega)
  omega

theorem FN_mono {N N' k k' m : Nat} (hN : N ≤ N') (hk : k ≤ k') : FN N k m ≤ FN N' k' m := by
  have hB := Bc_mono hN hk
  have h1 : (2 * N + k * (N + 2) + 1) * Bc N k ≤ (2 * N' + k' * (N' + 2) + 1) * Bc N' k' := by
    apply Nat.mul_le_mul _ hB
    have : k * (N + 2) ≤ k' * (N' + 2) := Nat.mul_le_mul hk (by omega)
    omega
  have h2 : (N + 2) * Bc N k ≤ (N' + 2) * Bc N' k' := Nat.mul_le_mul (by omega) hB
  have h3 : m * ((N + 2) * Bc N k + 16 * N + 16) ≤ m * ((N' + 2) * Bc N' k' + 16 * N' + 16) :=
    Nat.mul_le_mul_left _ (by omega)
  unfold FN; omega

theorem FI_mono_k {n k k' m : Nat} (hk : k ≤ k') : FI n k m ≤ FI n k' m :=
  FN_mono (by omega) hk

theorem F_mono_k {n k k' : Nat} (hk : k ≤ k') : F n k ≤ F n k' :=
  FN_mono (by omega) hk

def dedupT : List Tid → List Tid
  | [] => []
  | t :: ts => if t ∈ dedupT ts then dedupT ts else t :: dedupT ts

theorem mem_dedupT {ts : List Tid} {t : Tid} : t ∈ dedupT ts ↔ t ∈ ts := by
  induction ts generalizing t with
  | nil => simp [dedupT]
  | cons a ts ih =>
    simp only [dedupT]
    split
    · rename_i h
      rw [List.mem_cons, ih, or_iff_right_of_imp]
      rintro rfl; exact ih.1 h
    · rw [List.mem_cons, List.mem_cons, ih]

theorem nodup_dedupT (ts : List Tid) : (dedupT ts).Nodup := by
  induction ts with
  | nil => simp [dedupT]
  | cons a ts ih =>
    simp only [dedupT]
    split
    · exact ih
    · rename_i h; exact List.nodup_cons.2 ⟨h, ih⟩

/-- the distinct thread ids occurring in a schedule -/
def tids (σ : List (Tid × Act)) : List Tid := dedupT (σ.map Prod.fst)

theorem mem_tids {σ : List (Tid × Act)} {x : Tid × Act} (h : x ∈ σ) : x.1 ∈ tids σ :=
  mem_dedupT.2 (List.mem_map_of_mem h)

theorem dedupT_length_le (ts : List Tid) : (dedupT ts).length ≤ ts.length := by
  induction ts with
  | nil => exact Nat.le_refl _
  | cons a ts ih => simp only [dedupT]; split <;> simp only [List.length_cons] <;> omega

/-- the configuration after the first `i` slots of the infinite schedule `s`: in slot `j` thread
    `s j` is offered its next internal step (a thread at rest does nothing) -/
def cfgAt (s : Nat → Tid) (c : Config M) : Nat → Config M
  | 0 => c
  | i + 1 => soloStep (s i) (cfgAt s c i)

/-- the steps actually taken during the first `i` slots -/
def effSched (s : Nat → Tid) (c : Config M) : Nat → List (Tid × Act)
  | 0 => []
  | i + 1 => effSched s c i ++ (if atRest ((cfgAt s c i).l (s i)) = true then [] else [(s i, Act.tau)])

/-- how often thread `t` has been scheduled during the first `j` slots -/
def occ (s : Nat → Tid) (t : Tid) : Nat → Nat
  | 0 => 0
  | j + 1 => occ s t j + (if s j = t then 1 else 0)

theorem soloStep_rest {t : Tid} {c : Config M} (h : atRest (c.l t) = true) : soloStep t c = c := by
  unfold soloStep; rw [rest_no_tau (g := c.g) h]

theorem exec_eff (s : Nat → Tid) (c : Config M) :
    ∀ i, Exec c (effSched s c i) (cfgAt s c i) ∧ TauOnly (effSched s c i)
  | 0 => ⟨Exec.nil c, fun _ hx => nomatch hx⟩
  | i + 1 => by
    obtain ⟨ih, ihτ⟩ := exec_eff s c i
    simp only [effSched, cfgAt]
    cases hr : atRest ((cfgAt s c i).l (s i)) with
    | true => simp only [if_true, List.append_nil, soloStep_rest hr]; exact ⟨ih, ihτ⟩
    | false =>
      obtain ⟨⟨g', l', obs⟩, hs⟩ := nonblocking (s i) (cfgAt s c i).g _ hr
      have : soloStep (s i) (cfgAt s c i) = ⟨g', upd (cfgAt s c i).l (s i) l'⟩ := by
        simp only [soloStep, hs]
      rw [this]
      simp only [Bool.false_eq_true, if_false]
      exact ⟨ih.append (Exec.single hs),
        fun x hx => (List.mem_append.1 hx).elim (ihτ x) fun h => by rw [List.mem_singleton.1 h]⟩

theorem cfgAt_rest_stays (s : Nat → Tid) (c : Config M) (t : Tid) {i : Nat}
    (h : atRest ((cfgAt s c i).l t) = true) : ∀ j, i ≤ j → atRest ((cfgAt s c j).l t) = true := by
  intro j hij
  induction hij with
  | refl => exact h
  | @step j _ hr =>
    simp only [cfgAt]
    by_cases hst : s j = t
    · subst hst; rw [soloStep_rest hr]; exact hr
    · rw [soloStep_others (fun e => hst e.symm)]; exact hr

theorem cfgAt_active_before (s : Nat → Tid) (c : Config M) (t : Tid) {i j : Nat} (hij : i ≤ j)
    (h : atRest ((cfgAt s c j).l t) = false) : atRest ((cfgAt s c i).l t) = false :=
  Bool.eq_false_iff.2 fun hi => nomatch h.symm.trans (cfgAt_rest_stays s c t hi j hij)

/-- **Bounded work under any infinite schedule.**  A counter that advances by at most one per slot, and
    only in slots whose thread is inside an operation, stays below `F n k`: every such slot contributes
    a step to the executable schedule `effSched`. -/
theorem slot_count_bound {ts : List Tid} (hnd : ts.Nodup) {c : Config M} (hc : Reach M c)
    (hts : ∀ t, atRest (c.l t) = false → t ∈ ts) (s : Nat → Tid) (w : Nat → Nat) (h0 : w 0 = 0) (j : Nat)
    (hw : ∀ i, i < j → w (i + 1) = w i ∨ w (i + 1) = w i + 1 ∧ atRest ((cfgAt s c i).l (s i)) = false) :
    w j < F c.g.n ts.length := by
  have hle : ∀ i, i ≤ j → w i ≤ (effSched s c i).length := by
    intro i
    induction i with
    | zero => intro _; exact Nat.le_of_eq h0
    | succ i ih =>
      intro hi
      have := ih (Nat.le_of_succ_le hi)
      simp only [effSched, List.length_append]
      rcases hw i hi with e | ⟨e, hr⟩
      · omega
      · simp only [hr, Bool.false_eq_true, if_false, List.length_singleton]; omega
  exact Nat.lt_of_le_of_lt (hle j (Nat.le_refl _))
    (exec_bound_active hnd hc hts (exec_eff s c j).1 (exec_eff s c j).2)

theorem occ_mono (s : Nat → Tid) (t : Tid) {i j : Nat} (h : i ≤ j) : occ s t i ≤ occ s t j := by
  induction h with
  | refl => exact Nat.le_refl _
  | step _ ih => exact Nat.le_trans ih (Nat.le_add_right _ _)

theorem fair_occ (s : Nat → Tid) (t : Tid) (hfair : ∀ i, ∃ j, i ≤ j ∧ s j = t) :
    ∀ m, ∃ j, m ≤ occ s t j := by
  intro m
  induction m with
  | zero => exact ⟨0, Nat.zero_le _⟩
  | succ m ih =>
    obtain ⟨j, hj⟩ := ih
    obtain ⟨j', hjj', hs⟩ := hfair j
    refine ⟨j' + 1, ?_⟩
    have := occ_mono s t hjj'
    simp only [occ, hs, if_true]; omega

theorem switch_slot (P : Nat → Bool) (h0 : P 0 = false) :
    ∀ j, P j = true → ∃ i, i < j ∧ P i = false ∧ P (i + 1) = true
  | 0, h => nomatch h0.symm.trans h
  | j + 1, h =>
    match hr : P j with
    | false => ⟨j, Nat.lt_succ_self _, hr, h⟩
    | true => let ⟨i, hi, h1, h2⟩ := switch_slot P h0 j hr; ⟨i, Nat.lt_succ_of_lt hi, h1, h2⟩

theorem eventually_all {P : Nat → Tid → Prop} : ∀ us : List Tid,
    (∀ u, u ∈ us → ∃ j, ∀ j', j ≤ j' → P j' u) → ∃ j, ∀ j', j ≤ j' → ∀ u, u ∈ us → P j' u
  | [], _ => ⟨0, fun _ _ _ hu => nomatch hu⟩
  | a :: us, h =>
    let ⟨j1, h1⟩ := eventually_all us fun u hu => h u (List.mem_cons_of_mem _ hu)
    let ⟨j2, h2⟩ := h a (List.mem_cons_self ..)
    ⟨j1 + j2, fun j' hj' u hu => (List.mem_cons.1 hu).elim (fun e => e ▸ h2 j' (by omega))
      (h1 j' (by omega) u)⟩

end Garr.Queue.LockFree
