import Garr.Queue.LP
import Garr.Queue.Term
import Garr.Queue.Iter
/-!
# C15 (lemmas): one thread running alone sees a plain FIFO list

A *solo call* of thread `t` is the run of the machine under the schedule
`(t, a) :: replicate k (t, .tau)`: the invocation `a` followed by `k` own steps (`k` at least the
bound of C07; own steps of a thread at rest are disabled and skipped by `Garr.Conc.run`).  Nothing is
assumed about the other threads except that they do not move: they may be suspended anywhere inside
their operations, or all be at rest (`Quiet`, "after a concurrent phase has finished").

Every result about a solo call comes from the generic rule `solo_call`: an invariant of `t`'s own
steps (`SoloInv`) holds when `t` has come to rest, which it has after `bound` steps; `SoloRun` bundles
the outcome, and `SoloRO` adds that nodes, values and liveness are untouched (it composes along `++` of
schedules).  The invariants: `OpInv` for a specification operation (from the kinds of step of
`LP.lean`), `FirstPc` for the traversal `first()` that `Size` and `Iterator()` share, `NxInv` (cursor
predicate `CurOK`) for `Next()`.
-/
namespace Garr.Queue
open Garr.Conc

/-- every thread is between operations (possibly owning a private iterator) -/
def Quiet (c : Config M) : Prop := ∀ u, atRest (c.l u) = true

/-- `k` own steps of thread `t` -/
abbrev taus (t : Tid) (k : Nat) : List (Tid × M.Act) := List.replicate k (t, Act.tau)

/-- the schedule of a solo call: invocation `a`, then `k` own steps -/
abbrev soloSched (t : Tid) (a : Act) (k : Nat) : List (Tid × M.Act) := (t, a) :: taus t k

/-- tag a list of observations with the thread that made them -/
abbrev tag (t : Tid) (obs : List Obs) : List (Tid × M.Obs) := obs.map (fun o => (t, o))

theorem rest_no_cur {l : L} (h : atRest l = true) : curOp l = none ∧ doneRet l = none := by
  cases l with
  | idle | idleIt => exact ⟨rfl, rfl⟩
  | _ => cases h

theorem run_taus_rest {c : Config M} {t : Tid} (h : atRest (c.l t) = true) (k : Nat) :
    run M c (taus t k) = (c, []) := by
  induction k with
  | zero => rfl
  | succ k ih =>
    show run M c ((t, Act.tau) :: taus t k) = (c, [])
    rw [run_cons_none (show M.step t c.g (c.l t) Act.tau = none from rest_no_tau (t := t) h)]; exact ih

theorem run_taus_settle {c : Config M} (hc : Reach M c) (t : Tid) :
    ∃ k0, k0 ≤ bound c ∧ atRest ((run M c (taus t k0)).1.l t) = true ∧
      ∀ k, k0 ≤ k → run M c (taus t k) = run M c (taus t k0) := by
  obtain ⟨k0, hk0, hrest⟩ := C07_solo_bound c t hc
  rw [solo_eq_run] at hrest
  refine ⟨k0, hk0, hrest, fun k hk => ?_⟩
  have e : taus t k = taus t k0 ++ taus t (k - k0) := by
    show List.replicate k _ = List.replicate k0 _ ++ List.replicate (k - k0) _
    rw [List.replicate_append_replicate]; congr 1; omega
  rw [e, run_append, run_taus_rest hrest]
  simp

/-- `I`, relating the shared state, the observations made so far and `t`'s local state, is preserved by
every own step of `t` from states satisfying the structural invariants -/
def SoloInv (t : Tid) (I : G → List Obs → L → Prop) : Prop :=
  ∀ {g lg l g' l' obs}, GInv g → LInv g l → I g lg l → step t g l .tau = some (g', l', obs) → I g' (lg ++ obs) l'

/-- `r` is the outcome of a run from `c` in which only `t` has moved, observing `lg` -/
structure SoloRun (c : Config M) (t : Tid) (r : Config M × List (Tid × M.Obs)) (lg : List Obs) : Prop where
  reach : Reach M r.1
  others : ∀ u, u ≠ t → r.1.l u = c.l u
  log : r.2 = tag t lg

/-- **Solo call.**  A silent invocation step of `t` followed by `k ≥ bound` own steps: `t` is at rest,
nobody else has moved, the log consists of `t`'s observations only, and an invariant `I` of `t`'s own
steps that holds after the invocation holds at the end. -/
theorem solo_call {c : Config M} (hc : Reach M c) {t : Tid} {a : Act} {g1 : G} {l1 : L}
    (hinv : step t c.g (c.l t) a = some (g1, l1, []))
    (I : G → List Obs → L → Prop) (h0 : I g1 [] l1) (hstep : SoloInv t I)
    {k : Nat} (hk : 16 * g1.n + 15 ≤ k) {r : Config M × List (Tid × M.Obs)}
    (hr : run M c (soloSched t a k) = r) :
    ∃ lg, SoloRun c t r lg ∧ atRest (r.1.l t) = true ∧ I r.1.g lg (r.1.l t) := by
  have hinv' : M.step t c.g (c.l t) a = some (g1, l1, []) := hinv
  have hc1 : Reach M ⟨g1, upd c.l t l1⟩ := Reach.step hc hinv'
  obtain ⟨k0, hk0, hrest, hstable⟩ := run_taus_settle hc1 t
  have e : run M c (soloSched t a k) = run M ⟨g1, upd c.l t l1⟩ (taus t k0) := by
    show run M c ((t, a) :: taus t k) = _
    rw [run_cons_some hinv', hstable k (Nat.le_trans hk0 hk)]; simp
  subst hr; rw [e]
  have := run_ind (fun t' a => t' = t ∧ a = Act.tau)
    (fun lg g ls => (∀ u, u ≠ t → ls u = c.l u) ∧ ∃ lg', lg = tag t lg' ∧ I g lg' (ls t))
    ?_ (taus t k0) _ hc1 ⟨fun u hu => upd_other _ _ _ _ hu, [], rfl, (congrArg (I g1 []) (upd_same c.l t l1)).mpr h0⟩
    (fun e he => by rw [List.eq_of_mem_replicate he]; exact ⟨rfl, rfl⟩)
  · obtain ⟨h1, lg, h2, h3⟩ := this
    exact ⟨lg, ⟨reach_run M _ hc1 _, h1, h2⟩, hrest, h3⟩
  · intro lg g ls t' a g' l' obs hr ⟨h1, lg', h2, h3⟩ ⟨ht, ha⟩ hs
    subst ht; subst ha
    obtain ⟨hG, hL, _⟩ := reach_invs hr t'
    refine ⟨fun u hu => by rw [upd_other _ _ _ _ hu]; exact h1 u hu, lg' ++ obs, ?_, ?_⟩
    · rw [h2]; exact (List.map_append ..).symm
    · rw [upd_same]; exact hstep hG hL h3 hs

section
variable {c : Config M} {t : Tid} {r : Config M × List (Tid × M.Obs)} {lg : List Obs}

/-- a `SoloRun` that has left the nodes, their values and their liveness as they were -/
structure SoloRO (c : Config M) (t : Tid) (r : Config M × List (Tid × M.Obs)) (lg : List Obs) : Prop
    extends SoloRun c t r lg where
  n_eq : r.1.g.n = c.g.n
  live_eq : r.1.g.live = c.g.live
  val_eq : r.1.g.val = c.g.val

theorem SoloRO.append {r2 : Config M × List (Tid × M.Obs)} {lg2 : List Obs}
    (h1 : SoloRO c t r lg) (h2 : SoloRO r.1 t r2 lg2) : SoloRO c t (r2.1, r.2 ++ r2.2) (lg ++ lg2) :=
  ⟨⟨h2.reach, fun u hu => (h2.others u hu).trans (h1.others u hu),
    by show _ ++ _ = _; rw [h1.log, h2.log]; exact (List.map_append ..).symm⟩,
    h2.n_eq.trans h1.n_eq, h2.live_eq.trans h1.live_eq, h2.val_eq.trans h1.val_eq⟩

theorem SoloRO.absS_eq (h : SoloRO c t r lg) : absS r.1.g = absS c.g := by
  unfold absS absP; rw [h.n_eq, h.live_eq, h.val_eq]

theorem SoloRO.bound_eq (h : SoloRO c t r lg) : bound r.1 = bound c := by
  unfold bound; rw [h.n_eq]

theorem SoloRun.l_eq (h : SoloRun c t r lg) (ht : r.1.l t = c.l t) : r.1.l = c.l := by
  funext u
  by_cases hu : u = t
  · rw [hu, ht]
  · exact h.others u hu

theorem solo_step_run (hc : Reach M c) {a : Act} {l1 : L} {obs : List Obs}
    (hs : step t c.g (c.l t) a = some (c.g, l1, obs)) :
    SoloRO c t (run M c [(t, a)]) obs ∧ (run M c [(t, a)]).1.l t = l1 := by
  have hs' : M.step t c.g (c.l t) a = some (c.g, l1, obs) := hs
  rw [run_cons_some hs']
  exact ⟨⟨⟨Reach.step hc hs', fun u hu => upd_other _ _ _ _ hu, List.append_nil _⟩, rfl, rfl, rfl⟩, upd_same _ _ _⟩

/-- **Solo call outside the specification** (`Size`, `Iterator()`, `Next()`): the invocation leads to a
state `l1` outside any specification operation; then moreover the nodes, their values and their
liveness are unchanged. -/
theorem solo_call_aux (hc : Reach M c) {a : Act} {l1 : L}
    (hinv : step t c.g (c.l t) a = some (c.g, l1, [])) (hc1 : curOp l1 = none) (hd1 : doneRet l1 = none)
    (I : G → List Obs → L → Prop) (h0 : I c.g [] l1) (hstep : SoloInv t I)
    {k : Nat} (hk : bound c ≤ k) (hr : run M c (soloSched t a k) = r) :
    ∃ lg, SoloRO c t r lg ∧ atRest (r.1.l t) = true ∧ I r.1.g lg (r.1.l t) := by
  obtain ⟨lg, r1, r2, ⟨_, _, r5, r6, r7⟩, r8⟩ := solo_call hc hinv
    (fun g lg l => (curOp l = none ∧ doneRet l = none ∧ g.n = c.g.n ∧ g.live = c.g.live ∧ g.val = c.g.val) ∧
      I g lg l)
    ⟨⟨hc1, hd1, rfl, rfl, rfl⟩, h0⟩
    (fun {g lg l g' l' obs} hG hL ⟨⟨hc, hd, a1, a2, a3⟩, hI⟩ hs => by
      obtain ⟨_, hc', hd'⟩ := disc_idle_marks hs hc hd
      -- outside the specification operations the writes left are those to `head`, `tail` and `next`
      have ⟨b1, b2, b3⟩ : g'.n = g.n ∧ g'.live = g.live ∧ g'.val = g.val := by
        rcases (Step.of_step hs).write with rfl | hw
        · exact ⟨rfl, rfl, rfl⟩
        · cases hw with
          | link | poll | remove => cases hc
          | _ => exact ⟨rfl, rfl, rfl⟩
      exact ⟨⟨hc'.trans (invOp_tau l), hd', b1.trans a1, b2.trans a2, b3.trans a3⟩, hstep hG hL hI hs⟩)
    hk hr
  exact ⟨lg, ⟨r1, r5, r6, r7⟩, r2, r8⟩

end

/-! ## Single-thread refinement for `Offer` / `Poll` / `Peek` / `IsEmpty` -/

open Garr.Props.C01 (plain runSpec)

theorem invoke_plain {t : Tid} {g : G} {a : Act} {op : Op} (h : invOp .idle a = some op) :
    plain op ∧ ∃ l1, step t g .idle a = some (g, l1, []) ∧ curOp l1 = some op := by
  cases a <;> simp [invOp] at h <;> subst h <;> exact ⟨trivial, _, rfl, rfl⟩

/-- the invariant of a solo specification operation `op` that the specification takes from `s0` to `s1`
with result `r`: before the LP nothing has been observed and the abstract state is `s0`; the LP marker
`m` carries `r` and the abstract state becomes `s1`; the response carries `r` too -/
def OpInv (s0 s1 : SpecSt) (op : Op) (r : Ret) (g : G) (lg : List Obs) (l : L) : Prop :=
  (lg = [] ∧ curOp l = some op ∧ absS g = s0) ∨
  ∃ m, lpInfo m = some (op, r) ∧ absS g = s1 ∧
    ((lg = [m] ∧ doneRet l = some r) ∨ (lg = [m, .ret r] ∧ l = .idle))

/-- the result carried by any response, of a specification operation (`ret`) or not (`retAux`) -/
def Obs.resp : Obs → Option Ret
  | .ret r => some r
  | .retAux r => some r
  | _ => none

/-- all responses among a list of observations, in order -/
def resps (obs : List Obs) : List Ret := obs.filterMap Obs.resp

theorem resps_append (a b : List Obs) : resps (a ++ b) = resps a ++ resps b := by
  unfold resps; exact List.filterMap_append ..

theorem OpInv_step {s0 s1 : SpecSt} {op : Op} {r : Ret} (hsp : specApply s0 op = (s1, r)) (hp : plain op)
    {t : Tid} : SoloInv t (OpInv s0 s1 op r) := by
  intro g lg l g' l' obs hG hL hI hs
  rcases hI with ⟨rfl, h2, rfl⟩ | ⟨m, hm, h3, ⟨rfl, h2⟩ | ⟨_, rfl⟩⟩
  · cases disc_step hs with
    | out h | call _ h => rw [h2] at h; cases h
    | cont ho _ hc' _ hg => subst ho; exact .inl ⟨rfl, hc'.trans h2, hg⟩
    | lp _ _ m hc _ ho hm hd' _ hsp' =>
      subst ho; cases hc.symm.trans h2; cases (hsp' hG hL).symm.trans hsp
      exact .inr ⟨m, hm, rfl, .inl ⟨rfl, hd'⟩⟩
    | lpRes _ _ m hc _ ho hm _ _ hidle hsp' =>
      subst ho; cases hc.symm.trans h2; cases (hsp' hG hL).symm.trans hsp
      exact .inr ⟨m, hm, rfl, .inr ⟨rfl, hidle (fun p e => by subst e; exact hp)⟩⟩
    | res _ h => rw [doneRet_none_of_curOp h2] at h; cases h
  · have hc := curOp_none_of_doneRet h2
    cases disc_step hs with
    | out _ h | call _ _ h => rw [h2] at h; cases h
    | cont ho _ _ hd' hg => subst ho; exact .inr ⟨m, hm, hg.trans h3, .inl ⟨rfl, hd'.trans h2⟩⟩
    | lp _ _ _ h | lpRes _ _ _ h => rw [hc] at h; cases h
    | res _ h _ ho hl hg =>
      subst ho; cases h.symm.trans h2
      exact .inr ⟨m, hm, hg.trans h3, .inr ⟨rfl, hl⟩⟩
  · cases hs

/-- **Single-thread refinement.**  Thread `t` is idle in the reachable configuration `c` and invokes
the specification operation `op` (`Offer v`, `Poll`, `Peek` or `IsEmpty`) by `a`; it then runs alone
for `k ≥ bound c` steps (the others do not move, wherever they are).  Then `t` is idle again, nobody
else has moved, the log consists of exactly one LP marker and one response of `t`, both carrying
the result the sequential specification computes from the abstract state at `c`, and the abstract state
has become the one the specification computes. -/
theorem solo_op_matches_spec {c : Config M} (hc : Reach M c) {t : Tid} (ht : c.l t = .idle)
    {a : Act} {op : Op} (hop : invOp .idle a = some op) {k : Nat} (hk : bound c ≤ k) :
    Reach M (run M c (soloSched t a k)).1 ∧
    (run M c (soloSched t a k)).1.l = c.l ∧
    absS (run M c (soloSched t a k)).1.g = (specApply (absS c.g) op).1 ∧
    ∃ lg, (run M c (soloSched t a k)).2 = tag t lg ∧
      marks lg = [.lp (specApply (absS c.g) op).2, .res (specApply (absS c.g) op).2] ∧
      resps lg = [(specApply (absS c.g) op).2] := by
  obtain ⟨hp, l1, hinv, hcur⟩ := invoke_plain (t := t) (g := c.g) hop
  rw [← ht] at hinv
  obtain ⟨lg, hr, r2, r5⟩ := solo_call hc hinv (OpInv (absS c.g) _ op _) (.inl ⟨rfl, hcur, rfl⟩)
    (OpInv_step rfl hp) (k := k) hk rfl
  obtain ⟨hcn, hdn⟩ := rest_no_cur r2
  rcases r5 with ⟨_, h, _⟩ | ⟨m, hm, h3, ⟨_, h⟩ | ⟨rfl, h2⟩⟩
  · rw [hcn] at h; cases h
  · rw [hdn] at h; cases h
  · -- an LP marker is not a response
    exact ⟨hr.reach, hr.l_eq (h2.trans ht.symm), h3, _, hr.log, marks_lp hm _,
      by cases m <;> first | rfl | cases hm⟩

/-! ## A sequence of operations executed by one thread behaves like `runSpec` -/

def opAct : Op → Act
  | .offer v => .offer v
  | .poll => .poll
  | .peek => .peek
  | .isEmpty => .isEmpty
  | .removeAt _ => .remove

theorem invOp_opAct {op : Op} (h : plain op) : invOp .idle (opAct op) = some op := by
  cases op <;> first | rfl | exact h.elim

/-- the schedule "thread `t` executes `ops` one after the other", each call with `k` own steps -/
def seqSched (t : Tid) (k : Nat) : List Op → List (Tid × M.Act)
  | [] => []
  | op :: ops => soloSched t (opAct op) k ++ seqSched t k ops

/-- the markers of a sequential execution: per operation its LP and its response, with the same result -/
def seqMarks (tr : List (Op × Ret)) : List Mark := tr.flatMap (fun x => [.lp x.2, .res x.2])

theorem specApply_next_le (s : SpecSt) (op : Op) : (specApply s op).1.next ≤ s.next + 1 := by
  obtain ⟨items, nx⟩ := s
  cases op <;> simp only [specApply] <;> first | omega | (split <;> simp)

theorem rets_seqMarks {lg : List Obs} {tr : List (Op × Ret)} (h : marks lg = seqMarks tr) :
    rets lg = tr.map (·.2) := by
  rw [rets_marks, h, seqMarks, List.filterMap_flatMap, List.map_eq_flatMap]
  rfl

/-- **Sequential behaviour.**  From a reachable configuration in which `t` is idle (the others do not
move), `t` executes the plain operations `ops` one after the other.  The LP markers / responses are
those of `runSpec` from the abstract state at `c`, and the final abstract state is the one of `runSpec`:
the queue behaves like a plain FIFO list. -/
theorem seq_refines_list {t : Tid} (ops : List Op) (hp : ∀ op ∈ ops, plain op) {k : Nat} :
    ∀ {c : Config M}, Reach M c → c.l t = .idle → 16 * (c.g.n + ops.length) + 15 ≤ k →
    Reach M (run M c (seqSched t k ops)).1 ∧
    (run M c (seqSched t k ops)).1.l = c.l ∧
    absS (run M c (seqSched t k ops)).1.g = (runSpec (absS c.g) ops).1 ∧
    ∃ lg, (run M c (seqSched t k ops)).2 = tag t lg ∧ marks lg = seqMarks (runSpec (absS c.g) ops).2 ∧
      resps lg = (runSpec (absS c.g) ops).2.map (·.2) := by
  induction ops with
  | nil => intro c hc _ _; exact ⟨hc, rfl, rfl, [], rfl, rfl, rfl⟩
  | cons op ops ih =>
    intro c hc ht hk
    obtain ⟨hpop, hp'⟩ := List.forall_mem_cons.mp hp
    have hk1 : bound c ≤ k := by simp only [bound, List.length_cons] at hk ⊢; omega
    obtain ⟨a1, a2, a3, lg1, a4, a5, a6⟩ := solo_op_matches_spec hc ht (invOp_opAct hpop) hk1
    -- a call links at most one node, so `k` is still at least `bound` for the remaining calls
    have hn : (run M c (soloSched t (opAct op) k)).1.g.n ≤ c.g.n + 1 := by
      have := specApply_next_le (absS c.g) op
      rw [← a3] at this; exact this
    obtain ⟨b1, b2, b3, lg2, b4, b5, b6⟩ := ih hp' a1
      (by rw [a2]; exact ht) (by simp only [List.length_cons] at hk; omega)
    have e : seqSched t k (op :: ops) = soloSched t (opAct op) k ++ seqSched t k ops := rfl
    rw [e, run_append]
    refine ⟨b1, b2.trans a2, ?_, lg1 ++ lg2, ?_, ?_, ?_⟩
    · rw [b3, a3]; rfl
    · show _ ++ _ = _
      rw [a4, b4]; exact (List.map_append ..).symm
    · unfold marks at a5 b5 ⊢
      rw [List.filterMap_append, a5, b5, a3]; rfl
    · rw [resps_append, a6, b6, a3]; rfl

theorem seq_refines_list_rets {t : Tid} (ops : List Op) (hp : ∀ op ∈ ops, plain op) {k : Nat}
    {c : Config M} (hc : Reach M c) (ht : c.l t = .idle) (hk : 16 * (c.g.n + ops.length) + 15 ≤ k) :
    ∃ lg, (run M c (seqSched t k ops)).2 = tag t lg ∧ rets lg = (runSpec (absS c.g) ops).2.map (·.2) := by
  obtain ⟨_, _, _, lg, h1, h2, _⟩ := seq_refines_list ops hp hc ht hk
  exact ⟨lg, h1, rets_seqMarks h2⟩

theorem runSpec_drain (s : SpecSt) {n : Nat} (hn : n = s.items.length) :
    runSpec s (List.replicate (n + 1) Op.poll) =
      (⟨[], s.next⟩, s.items.map (fun x => (Op.poll, Ret.val x.2)) ++ [(Op.poll, Ret.nil)]) := by
  obtain ⟨items, nx⟩ := s
  subst hn
  induction items with
  | nil => rfl
  | cons x q ih =>
    obtain ⟨p, v⟩ := x
    rw [List.length_cons, List.replicate_succ]
    simp only [runSpec, specApply, ih, List.map_cons, List.cons_append]

theorem abs_eq_items (g : M.G) : abs g = (absS g).items.map (·.2) := abs_eq_absP g

theorem abs_length (g : M.G) : (abs g).length = (absP g).length := by
  rw [abs_eq_items, List.length_map]; rfl

/-! ## `first()`: `Size` counts the live nodes, `Iterator()` finds the first -/

theorem abs_length_live (g : M.G) : (abs g).length = (liveIdx g.n g.live).length := by
  rw [abs_length]; unfold absP; rw [List.length_map]

/-- the iterator's cursor: `nextNode` is the first live node at or after position `a` (and `nextVal` its
value), or nil if there is none -/
def CurOK (g : G) (a : Nat) (it : Iter) : Prop :=
  (∀ q, it.nextNode = some q → a ≤ q ∧ q < g.n ∧ (∀ j, a ≤ j → j < q → g.live j = false) ∧
    g.live q = true ∧ it.nextVal = g.val q) ∧
  (it.nextNode = none → ∀ j, a ≤ j → j < g.n → g.live j = false)

theorem CurOK_some {g : G} {a : Nat} {it : Iter} (h : CurOK g a it) {q : Nat} (hq : it.nextNode = some q) :
    liveIn g.live a g.n = q :: liveIn g.live (q + 1) g.n ∧ it.nextVal = g.val q := by
  obtain ⟨h1, h2, h3, h4, h5⟩ := h.1 q hq
  exact ⟨liveIn_first h1 h2 h3 h4, h5⟩

/-- what `first()` in mode `m` hands on: to `Size` the first live node (none if all nodes are dead), to
`Iterator()` the new iterator with its cursor on that node -/
def FirstOK (g : G) (m : Mode) : Cont → Prop
  | .ret _ => False
  | .size none => m = .size ∧ deadBelow g g.n
  | .size (some p) => m = .size ∧ deadBelow g p ∧ g.live p = true
  | .iter it => m = .iter ∧ CurOK g 0 it

/-- the invariant of a solo `Size` (`m = .size`) or `Iterator()` (`m = .iter`), one rule per program
counter: nothing is observed before the response; in the counting loop of `Size` at node `p` with
counter `c`, `c` is the number of live nodes before `p` (`s1`) resp. up to `p` (`s2`), `p` is not before
`head` (so it is not self-linked and the loop never restarts), and the counter has not saturated -/
inductive FirstPc (g : G) : Mode → List Obs → L → Prop
  | k0 {m : Mode} : FirstPc g m [] (.k0 m)
  | k1 {m : Mode} (h p : Nat) : FirstPc g m [] (.k1 m h p)
  | k2 {m : Mode} (h p : Nat) : FirstPc g m [] (.k2 m h p)
  | u1 {m : Mode} (h tgt : Nat) {k : Cont} : FirstOK g m k → FirstPc g m [] (.u1 h tgt k)
  | u2 {m : Mode} (h : Nat) {k : Cont} : FirstOK g m k → FirstPc g m [] (.u2 h k)
  | s1 {p c : Nat} : g.head ≤ p → c = (liveIdx p g.live).length → c < maxInt32 → FirstPc g .size [] (.s1 p c)
  | s2 {p c : Nat} : g.head ≤ p → c = (liveIdx (p + 1) g.live).length → c < maxInt32 →
      FirstPc g .size [] (.s2 p c)
  | sized {c : Nat} : c = min (liveIdx g.n g.live).length maxInt32 → FirstPc g .size [.retAux (.int c)] .idle
  | iter {it : Iter} : CurOK g 0 it → FirstPc g .iter [.retAux .unit] (.idleIt it)

theorem FirstPc.finish {g : G} (hd : ∀ i, i < g.head → g.live i = false) {m : Mode} {k : Cont}
    (hx : FirstOK g m k) : FirstPc g m (finish k).2 (finish k).1 := by
  cases k with
  | ret => exact hx.elim
  | size x =>
    cases x with
    | none => obtain ⟨rfl, hx⟩ := hx; exact .sized (by rw [liveIdx_all_dead hx]; rfl)
    | some p =>
      obtain ⟨rfl, hx⟩ := hx
      have hh : g.head ≤ p := Nat.le_of_not_lt fun h => by rw [hd p h] at hx; exact nomatch hx.2
      exact .s1 hh (by rw [liveIdx_all_dead hx.1]; rfl) (by decide)
  | iter it => obtain ⟨rfl, hx⟩ := hx; exact .iter hx

theorem FirstPc.goUpd {g : G} (hd : ∀ i, i < g.head → g.live i = false) (h tgt : Nat) {m : Mode} {k : Cont}
    (hx : FirstOK g m k) : FirstPc g m (goUpd h tgt k).2 (goUpd h tgt k).1 :=
  goUpd_ind (P := fun y => FirstPc g m y.2 y.1) h tgt _ (.finish hd hx) (.u1 h tgt hx)

theorem First_step {t : Tid} {m : Mode} (hm : modeOp m = none) : SoloInv t (FirstPc · m) := by
  intro g lg l g' l' obs hG hL hI hs
  have hd := hG.dead_before_head
  -- by program counter (`induction` as in `Step.lean`: a case split without index equations), then by branch
  induction hI with
  | k0 => cases Step.of_step hs; exact .k1 _ _
  | @k1 m _ p =>
    cases Step.of_step hs with
    | k1_live hl =>
      -- `first()` has found the first live node: no marker in these modes …
      cases m with
      | size => exact .goUpd hd _ _ (k := .size (some p)) ⟨rfl, hL.2.2, hl⟩
      | iter =>
        refine .goUpd hd _ _ (k := .iter _) ⟨rfl, fun q hq => ?_, nofun⟩
        cases hq
        exact ⟨Nat.zero_le _, hL.2.1, fun j _ hj => hL.2.2 j hj, hl, rfl⟩
      | _ => cases hm
    | k1_dead => exact .k2 _ _
  | @k2 m =>
    cases Step.of_step hs with
    | k2_nil hn =>
      -- … or that there is none
      have hdn : deadBelow g g.n := by rw [← (hG.last _ hL.2.1).1 hn]; exact hL.2.2
      cases m with
      | size => exact .goUpd hd _ _ (k := .size none) ⟨rfl, hdn⟩
      | iter => exact .goUpd hd _ _ (k := .iter _) ⟨rfl, nofun, fun _ j _ hj => hdn j hj⟩
      | _ => cases hm
    | k2_self => exact .k0
    | k2_adv => exact .k1 _ _
  | u1 _ _ hx =>
    cases Step.of_step hs with
    | u1_cas => exact .u2 _ hx
    | u1_fail => exact .finish hd hx
  | u2 _ hx => cases Step.of_step hs; exact .finish (g := setNext g _ _) hd hx
  | @s1 p c hh hc hlt =>
    cases Step.of_step hs with
    | s1_max hl hsat =>
      have hc1 : c + 1 = (liveIdx (p + 1) g.live).length := by
        rw [liveIdx_succ, hl, List.length_append, ← hc]; rfl
      have := congrArg List.length (liveIdx_append g.live (show p + 1 ≤ g.n from hL))
      rw [List.length_append] at this
      exact .sized (by rw [Nat.min_eq_right (by omega), hsat])
    | s1_count hl hsat => exact .s2 hh (by rw [liveIdx_succ, hl, List.length_append, ← hc]; rfl) (by omega)
    | s1_dead hl => exact .s2 hh (by rw [liveIdx_succ, hl, List.length_append, ← hc]; rfl) hlt
  | @s2 p c hh hc hlt =>
    cases Step.of_step hs with
    | s2_nil hn => exact .sized (by rw [← (hG.last _ hL).1 hn, ← hc, Nat.min_eq_left (by omega)])
    | s2_self hq => have := hG.self_before_head _ hL hq; omega
    | @s2_adv _ _ q hq hne =>
      rcases (hG.fwd _ _ hL hq).2 with e | ⟨e1, e2⟩
      · exact absurd e hne
      · refine .s1 (by omega) ?_ hlt
        rw [hc, liveIdx_append g.live (show p + 1 ≤ q by omega),
          liveIn_dead (fun k h1 h2 => e2 k (by omega) h2), List.append_nil]
  | sized => cases hs
  | iter => cases hs

/-- **Size.**  From a reachable configuration in which `t` is idle (the others do not move), a solo
`Size` returns the number of elements of the abstract queue, saturating at `maxInt32`, and changes
neither the nodes nor their liveness (so the abstract queue is unchanged). -/
theorem solo_size_run {c : Config M} (hc : Reach M c) {t : Tid} (ht : c.l t = .idle) {k : Nat}
    (hk : bound c ≤ k) :
    Reach M (run M c (soloSched t .size k)).1 ∧
    (run M c (soloSched t .size k)).1.l = c.l ∧
    absS (run M c (soloSched t .size k)).1.g = absS c.g ∧
    (run M c (soloSched t .size k)).2 = [(t, .retAux (.int (min (abs c.g).length maxInt32)))] := by
  have hinv : step t c.g (c.l t) .size = some (c.g, .k0 .size, []) := by rw [ht]; rfl
  obtain ⟨lg, hr, r2, r8⟩ := solo_call_aux hc hinv rfl rfl (FirstPc · .size) .k0 (First_step rfl) hk rfl
  generalize hl' : (run M c (soloSched t .size k)).1.l t = l' at r2 r8
  cases r8 with
  | sized hcn =>
    exact ⟨hr.reach, hr.l_eq (hl'.trans ht.symm), hr.absS_eq,
      by rw [hr.log, hcn, hr.n_eq, hr.live_eq, abs_length_live]; rfl⟩
  | _ => cases r2

/-! ## A full iteration returns exactly the live nodes, in link order -/

/-- the iterator object and the position it is about to return, for a thread inside `Next()` -/
def nxOf : L → Option (Iter × Nat)
  | .n0 it p | .n0h it p | .n1 it p _ | .n2 it p _ | .n2h it p _ | .n3 it p _ _ => some (it, p)
  | _ => none

/-- the invariant of a solo `Next()` call of the iterator `it0` that is about to return the element at
position `p`: inside the call nothing has been observed; afterwards the element has been returned and the
cursor is on the first live node after `p` -/
def NxInv (g : G) (p : Nat) (it0 : Iter) (lg : List Obs) (l : L) : Prop :=
  (lg = [] ∧ nxOf l = some (it0, p) ∧ atRest l = false) ∨
  ∃ it, l = .idleIt it ∧ CurOK g (p + 1) it ∧ lg = [.itNext p it0.nextVal, .retAux (.val it0.nextVal)]

theorem Nx_step {t : Tid} {p : Nat} {it0 : Iter} : SoloInv t (NxInv · p it0) := by
  intro g lg l g' l' obs hG hL hI hs
  rcases hI with ⟨rfl, h, _⟩ | ⟨it, rfl, _⟩
  · -- `induction` needs variables as indices, also for the action
    have hst := Step.of_step hs
    generalize Act.tau = a at hst
    induction hst with
    | n0_nil hn =>
      cases h
      have hlast := (hG.last _ hL.1).1 hn
      exact .inr ⟨_, rfl, ⟨nofun, fun _ j h1 h2 => by omega⟩, rfl⟩
    | n1_live hl =>
      cases h
      obtain ⟨hpq, hqn, hdb, _⟩ := hL
      refine .inr ⟨_, rfl, ⟨fun q' hq' => ?_, nofun⟩, rfl⟩
      cases hq'
      exact ⟨hpq, hqn, fun j h1 h2 => hdb j (by omega) h2, hl, rfl⟩
    | n2_nil hn =>
      cases h
      obtain ⟨hpq, hqn, hdb, _⟩ := hL
      have hlast := (hG.last _ hqn).1 hn
      exact .inr ⟨_, rfl, ⟨nofun, fun _ j h1 h2 => hdb j (by omega) (by omega)⟩, rfl⟩
    | n0_self | n0_adv | n0h | n1_dead | n2_self | n2_adv | n2h | n3_cas | n3_fail => exact .inl ⟨rfl, h, rfl⟩
    | _ => cases h
  · cases hs

section
variable {c : Config M} {t : Tid} {r : Config M × List (Tid × M.Obs)}

theorem solo_iterator_run (hc : Reach M c) (ht : c.l t = .idle) {k : Nat} (hk : bound c ≤ k)
    (hr : run M c (soloSched t .iterator k) = r) :
    SoloRO c t r [.retAux .unit] ∧ ∃ it, r.1.l t = .idleIt it ∧ CurOK r.1.g 0 it := by
  have hinv : step t c.g (c.l t) .iterator = some (c.g, .k0 .iter, []) := by rw [ht]; rfl
  obtain ⟨lg, hr, r2, r8⟩ := solo_call_aux hc hinv rfl rfl (FirstPc · .iter) .k0 (First_step rfl) hk hr
  generalize r.1.l t = l' at r2 r8 ⊢
  cases r8 with
  | iter hx => exact ⟨hr, _, rfl, hx⟩
  | _ => cases r2

/-- **`Next()`.**  A solo `Next()` call with the cursor on node `p` returns `p`'s element and moves the
cursor to the first live node after `p`. -/
theorem solo_next_run (hc : Reach M c) {it : Iter} (ht : c.l t = .idleIt it) {p : Nat}
    (hp : it.nextNode = some p) {k : Nat} (hk : bound c ≤ k) (hr : run M c (soloSched t .next k) = r) :
    SoloRO c t r [.itNext p it.nextVal, .retAux (.val it.nextVal)] ∧
    ∃ it', r.1.l t = .idleIt it' ∧ CurOK r.1.g (p + 1) it' := by
  have hinv : step t c.g (c.l t) .next = some (c.g, .n0 { it with lastRet := some p } p, []) := by
    rw [ht]; unfold step; simp only [hp]; rfl
  obtain ⟨lg, hr, r2, r8⟩ := solo_call_aux hc hinv rfl rfl (NxInv · p { it with lastRet := some p })
    (.inl ⟨rfl, rfl, rfl⟩) Nx_step hk hr
  rcases r8 with ⟨_, _, h⟩ | ⟨it', hl, hx, rfl⟩
  · rw [r2] at h; cases h
  · exact ⟨hr, it', hl, hx⟩

end

/-- `m` rounds of `HasNext(); Next()` (each `Next()` with `k` own steps), then a final `HasNext()` -/
def iterLoop (t : Tid) (k : Nat) : Nat → List (Tid × M.Act)
  | 0 => [(t, Act.hasNext)]
  | m + 1 => (t, Act.hasNext) :: (soloSched t .next k ++ iterLoop t k m)

/-- the schedule of a full iteration with `m` elements: `Iterator()`, then the loop -/
def iterSched (t : Tid) (k m : Nat) : List (Tid × M.Act) := soloSched t .iterator k ++ iterLoop t k m

/-- what the loop over the positions `ps` observes: `HasNext() = true`, the element, …, `HasNext() = false` -/
def iterLoopObs (g : G) : List Nat → List Obs
  | [] => [.retAux (.bool false)]
  | p :: ps => .retAux (.bool true) :: .itNext p (g.val p) :: .retAux (.val (g.val p)) :: iterLoopObs g ps

/-- the loop over the remaining live positions `rem`; the values observed are those in `g0`, the state in
which the iteration began -/
theorem solo_loop_run {t : Tid} {k : Nat} {g0 : G} : ∀ (rem : List Nat) {c : Config M} {it : Iter} {a : Nat},
    Reach M c → c.l t = .idleIt it → CurOK c.g a it → rem = liveIn c.g.live a c.g.n → bound c ≤ k →
    c.g.val = g0.val →
    SoloRO c t (run M c (iterLoop t k rem.length)) (iterLoopObs g0 rem) ∧
    ∃ it', (run M c (iterLoop t k rem.length)).1.l t = .idleIt it' ∧ it'.nextNode = none := by
  intro rem
  induction rem with
  | nil =>
    intro c it a hc ht hcur hrem hk _
    have hnone : it.nextNode = none := by
      cases hq : it.nextNode with
      | none => rfl
      | some q => rw [(CurOK_some hcur hq).1] at hrem; cases hrem
    obtain ⟨h1, h2⟩ := solo_step_run hc (a := .hasNext) (by rw [ht]; rfl)
    rw [hnone] at h1
    exact ⟨h1, it, h2, hnone⟩
  | cons p rem ih =>
    intro c it a hc ht hcur hrem hk hv
    obtain ⟨q, hq⟩ : ∃ q, it.nextNode = some q := by
      cases hq : it.nextNode with
      | none => rw [liveIn_dead (hcur.2 hq)] at hrem; cases hrem
      | some q => exact ⟨q, rfl⟩
    obtain ⟨e1, e2⟩ := CurOK_some hcur hq
    rw [e1] at hrem
    obtain ⟨rfl, hrem'⟩ := List.cons.inj hrem
    obtain ⟨h1, h2⟩ := solo_step_run hc (a := .hasNext) (by rw [ht]; rfl)
    obtain ⟨n1, it', n2, n3⟩ := solo_next_run h1.reach h2 hq (k := k) (by rw [h1.bound_eq]; exact hk) rfl
    obtain ⟨m1, m2⟩ := ih n1.reach n2 n3 (by rw [n1.live_eq, n1.n_eq, h1.live_eq, h1.n_eq]; exact hrem')
      (by rw [n1.bound_eq, h1.bound_eq]; exact hk) (n1.val_eq.trans (h1.val_eq.trans hv))
    have e : iterLoop t k (p :: rem).length =
        [((t, Act.hasNext) : Tid × M.Act)] ++ (soloSched t .next k ++ iterLoop t k rem.length) := rfl
    rw [e, run_append, run_append]
    refine ⟨?_, m2⟩
    have := h1.append (n1.append m1)
    rw [hq, e2, hv] at this
    exact this

/-- **Full iteration.**  From a reachable configuration in which `t` is idle (the others do not move):
`Iterator()`, then `HasNext(); Next()` as many times as the abstract queue has elements, then `HasNext()`.
The log is exactly: the iterator is returned; for every live node in link order `HasNext() = true`
and `Next()` returns its element; the final `HasNext()` is false.  Nodes, values and liveness are
unchanged. -/
theorem solo_iteration_run {c : Config M} (hc : Reach M c) {t : Tid} (ht : c.l t = .idle) {k : Nat}
    (hk : bound c ≤ k) :
    SoloRO c t (run M c (iterSched t k (abs c.g).length))
      (.retAux .unit :: iterLoopObs c.g (liveIdx c.g.n c.g.live)) ∧
    ∃ it, (run M c (iterSched t k (abs c.g).length)).1.l t = .idleIt it ∧ it.nextNode = none := by
  obtain ⟨h1, it, h2, h3⟩ := solo_iterator_run hc ht (k := k) hk rfl
  obtain ⟨m1, m2⟩ := solo_loop_run (t := t) (k := k) (liveIdx c.g.n c.g.live) h1.reach h2 h3
    (by rw [h1.n_eq, h1.live_eq, liveIdx_eq_liveIn]) (by rw [h1.bound_eq]; exact hk) h1.val_eq
  unfold iterSched
  rw [abs_length_live, run_append]
  exact ⟨h1.append m1, m2⟩

def Obs.itPair : Obs → Option (Nat × Nat)
  | .itNext p v => some (p, v)
  | _ => none

/-- the result carried by a response outside the sequential specification (`Size`, iterator calls) -/
def Obs.auxRet : Obs → Option Ret
  | .retAux r => some r
  | _ => none

theorem iterLoopObs_itNext (g : G) (ps : List Nat) :
    (iterLoopObs g ps).filterMap Obs.itPair = ps.map (fun i => (i, g.val i)) := by
  induction ps with
  | nil => rfl
  | cons p ps ih => simp only [iterLoopObs, List.filterMap_cons, Obs.itPair, ih, List.map_cons]

/-- the results of the `HasNext()` / `Next()` calls of an iteration over `ps`, read off by any `f` that
takes the result of a `retAux` and skips `itNext` -/
theorem iterLoopObs_results (f : Obs → Option Ret) (hf : ∀ r, f (.retAux r) = some r)
    (hf' : ∀ p v, f (.itNext p v) = none) (g : M.G) (ps : List Nat) :
    (iterLoopObs g ps).filterMap f =
      (ps.map g.val).flatMap (fun v => [Ret.bool true, Ret.val v]) ++ [Ret.bool false] := by
  induction ps with
  | nil => simp only [iterLoopObs, List.filterMap_cons, hf]; rfl
  | cons p ps ih =>
    simp only [iterLoopObs, List.filterMap_cons, hf, hf', ih, List.map_cons, List.flatMap_cons,
      List.cons_append, List.nil_append]

theorem map_snd_tag (t : Tid) (lg : List Obs) : (tag t lg).map (·.2) = lg := by
  induction lg with
  | nil => rfl
  | cons o lg ih => exact congrArg (o :: ·) ih

theorem abs_eq_map_liveIdx (g : M.G) : abs g = (liveIdx g.n g.live).map g.val := by
  rw [abs_eq_items]; exact List.map_map ..


/-- a plain FIFO list of values (no handles): what `Offer`/`Poll`/`Peek`/`IsEmpty` do and return -/
def fifoApply (q : List Nat) : Op → List Nat × Ret
  | .offer v => (q ++ [v], .unit)
  | .poll =>
    match q with
    | [] => ([], .nil)
    | v :: tl => (tl, .val v)
  | .peek =>
    match q with
    | [] => ([], .nil)
    | v :: tl => (v :: tl, .val v)
  | .isEmpty => (q, .bool (decide (q = [])))
  | .removeAt _ => (q, .unit)

/-- a sequence of operations on the plain FIFO list: final content and the results in order -/
def runFifo : List Nat → List Op → List Nat × List Ret
  | q, [] => (q, [])
  | q, op :: ops => ((runFifo (fifoApply q op).1 ops).1, (fifoApply q op).2 :: (runFifo (fifoApply q op).1 ops).2)

theorem specApply_fifo (s : SpecSt) {op : Op} (hp : plain op) :
    (specApply s op).1.items.map (·.2) = (fifoApply (s.items.map (·.2)) op).1 ∧
    (specApply s op).2 = (fifoApply (s.items.map (·.2)) op).2 := by
  obtain ⟨items, nx⟩ := s
  cases op with
  | offer | isEmpty => simp [specApply, fifoApply]
  | poll | peek => rcases items with _ | ⟨⟨p, v⟩, q⟩ <;> simp [specApply, fifoApply]
  | removeAt => exact hp.elim

theorem runSpec_fifo (s : SpecSt) (ops : List Op) (hp : ∀ op ∈ ops, plain op) :
    (runSpec s ops).1.items.map (·.2) = (runFifo (s.items.map (·.2)) ops).1 ∧
    (runSpec s ops).2.map (·.2) = (runFifo (s.items.map (·.2)) ops).2 := by
  induction ops generalizing s with
  | nil => exact ⟨rfl, rfl⟩
  | cons op ops ih =>
    obtain ⟨hpop, hp'⟩ := List.forall_mem_cons.mp hp
    obtain ⟨h1, h2⟩ := specApply_fifo s hpop
    obtain ⟨i1, i2⟩ := ih (specApply s op).1 hp'
    simp only [runSpec, runFifo, List.map_cons]
    rw [← h1, ← h2]
    exact ⟨i1, by rw [i2]⟩

theorem Quiet_of_l_eq {c c' : Config M} (h : c'.l = c.l) (hq : Quiet c) : Quiet c' :=
  fun u => by rw [h]; exact hq u

theorem Quiet_of_others {c c' : Config M} {t : Tid} (h : ∀ u, u ≠ t → c'.l u = c.l u)
    (ht : atRest (c'.l t) = true) (hq : Quiet c) : Quiet c' := by
  intro u
  by_cases hu : u = t
  · subst hu; exact ht
  · rw [h u hu]; exact hq u

/-! ## The abstract content is "offered and not yet removed" -/

theorem filterMap_eq_map_of {α β : Type} (f : α → Option β) (g : α → β) (l : List α)
    (h : ∀ x ∈ l, f x = some (g x)) : l.filterMap f = l.map g := by
  induction l with
  | nil => rfl
  | cons x xs ih =>
    rw [List.filterMap_cons, h x (List.mem_cons_self ..), List.map_cons,
      ih (fun y hy => h y (List.mem_cons_of_mem _ hy))]

/-- in any run from the initial state, the abstract queue consists of the offered values at the live
positions (position `i ≥ 1` is the `i`-th `lpOffer` of the log; position 0 is the dummy) -/
theorem abs_at_live_positions (s : List (Tid × M.Act)) :
    abs (run M (Config.init M) s).1.g =
      (liveIdx (run M (Config.init M) s).1.g.n (run M (Config.init M) s).1.g.live).filterMap
        (fun i => (0 :: offeredVals (run M (Config.init M) s).2)[i]?) := by
  rw [abs_eq_map_liveIdx, ← values_are_offered s]
  symm
  apply filterMap_eq_map_of
  intro i hi
  have hin := (mem_liveIdx hi).1
  unfold nodeVals
  rw [List.getElem?_map, List.getElem?_range hin]; rfl

theorem abs_sublist_offered (s : List (Tid × M.Act)) :
    (abs (run M (Config.init M) s).1.g).Sublist (offeredVals (run M (Config.init M) s).2) := by
  have hr := reach_run M (Config.init M) Reach.init s
  have h0 := (inv2_reach _ hr).live0
  have hpos := (inv2_reach _ hr).inv.1.npos
  have hv := values_are_offered s
  generalize (run M (Config.init M) s).1.g = g at h0 hpos hv ⊢
  -- position 0 is the dummy: it is not live, and its value is not an offered one
  obtain ⟨m, hm⟩ : ∃ m, g.n = m + 1 := ⟨g.n - 1, by omega⟩
  have er : List.range g.n = 0 :: List.range' 1 m := by rw [hm, List.range_eq_range', List.range'_succ]
  unfold nodeVals at hv
  rw [er, List.map_cons] at hv
  rw [abs_eq_map_liveIdx]
  unfold liveIdx
  rw [er, List.filter_cons_of_neg (by simp [h0]), ← (List.cons.inj hv).2]
  exact List.filter_sublist.map _

theorem abs_length_accounting (s : List (Tid × M.Act)) :
    (abs (run M (Config.init M) s).1.g).length + polled (run M (Config.init M) s).2 +
      removed (run M (Config.init M) s).2 = offered (run M (Config.init M) s).2 := by
  rw [abs_length_live]
  exact (accounting s).1.symm

/-! ## Mixed sequences: operations, `Size` and full iterations by one thread -/

inductive Call
  | op (o : Op)      -- `Offer v` / `Poll` / `Peek` / `IsEmpty`
  | size             -- `Size`
  | iterate          -- `Iterator()`, then `HasNext(); Next()` until `HasNext()` is false; the iterator is dropped
deriving Repr, DecidableEq

/-- what a plain FIFO list does on a call: new content and the responses, in order -/
def callApply (q : List Nat) : Call → List Nat × List Ret
  | .op o => ((fifoApply q o).1, [(fifoApply q o).2])
  | .size => (q, [.int (min q.length maxInt32)])
  | .iterate => (q, .unit :: (q.flatMap (fun v => [Ret.bool true, Ret.val v]) ++ [Ret.bool false]))

def runCalls : List Nat → List Call → List Nat × List Ret
  | q, [] => (q, [])
  | q, cl :: cls => ((runCalls (callApply q cl).1 cls).1, (callApply q cl).2 ++ (runCalls (callApply q cl).1 cls).2)

/-- the schedule of one call; an iteration over a list with `q.length` elements makes that many rounds -/
def callSched (t : Tid) (k : Nat) (q : List Nat) : Call → List (Tid × M.Act)
  | .op o => soloSched t (opAct o) k
  | .size => soloSched t .size k
  | .iterate => iterSched t k q.length ++ [((t, Act.drop) : Tid × M.Act)]

/-- the schedule of a sequence of calls (the number of rounds of an iteration is the one the plain FIFO
list prescribes) -/
def callsSched (t : Tid) (k : Nat) : List Nat → List Call → List (Tid × M.Act)
  | _, [] => []
  | q, cl :: cls => callSched t k q cl ++ callsSched t k (callApply q cl).1 cls

def Call.plain : Call → Prop
  | .op o => Garr.Props.C01.plain o
  | _ => True

theorem solo_call_fifo {c : Config M} (hc : Reach M c) {t : Tid} (ht : c.l t = .idle) (cl : Call)
    (hp : cl.plain) {q : List Nat} (hq : abs c.g = q) {k : Nat} (hk : bound c ≤ k) :
    Reach M (run M c (callSched t k q cl)).1 ∧
    (run M c (callSched t k q cl)).1.l = c.l ∧
    (run M c (callSched t k q cl)).1.g.n ≤ c.g.n + 1 ∧
    abs (run M c (callSched t k q cl)).1.g = (callApply q cl).1 ∧
    ∃ lg, (run M c (callSched t k q cl)).2 = tag t lg ∧ resps lg = (callApply q cl).2 := by
  subst hq
  cases cl with
  | op o =>
    obtain ⟨h1, h2, h3, lg, h4, _, h5⟩ := solo_op_matches_spec hc ht (invOp_opAct hp) hk
    obtain ⟨e1, e2⟩ := specApply_fifo (absS c.g) hp
    refine ⟨h1, h2, ?_, ?_, lg, h4, ?_⟩
    · have := specApply_next_le (absS c.g) o
      rw [← h3] at this; exact this
    · show abs (run M c (soloSched t (opAct o) k)).1.g = _
      rw [abs_eq_items, h3, e1, ← abs_eq_items]; rfl
    · rw [h5, e2, ← abs_eq_items]; rfl
  | size =>
    obtain ⟨h1, h2, h3, h4⟩ := solo_size_run hc ht hk
    refine ⟨h1, h2, ?_, ?_, [.retAux (.int (min (abs c.g).length maxInt32))], h4, rfl⟩
    · exact Nat.le_succ_of_le (Nat.le_of_eq (congrArg SpecSt.next h3))
    · show abs (run M c (soloSched t .size k)).1.g = _
      rw [abs_eq_items, h3, ← abs_eq_items]; rfl
  | iterate =>
    obtain ⟨hr, it, h3, _⟩ := solo_iteration_run hc ht hk
    obtain ⟨hd, h4⟩ := solo_step_run hr.reach (a := .drop) (l1 := .idle) (obs := []) (by rw [h3]; rfl)
    have e : callSched t k (abs c.g) Call.iterate = iterSched t k (abs c.g).length ++ [((t, Act.drop) : Tid × M.Act)] := rfl
    rw [e, run_append]
    have h := hr.append hd
    refine ⟨h.reach, h.toSoloRun.l_eq (h4.trans ht.symm), Nat.le_succ_of_le (Nat.le_of_eq h.n_eq), ?_, _, h.log, ?_⟩
    · rw [abs_eq_items, h.absS_eq, ← abs_eq_items]; rfl
    · rw [List.append_nil]
      show Ret.unit :: resps (iterLoopObs c.g (liveIdx c.g.n c.g.live)) = _
      rw [resps, iterLoopObs_results _ (fun _ => rfl) (fun _ _ => rfl), ← abs_eq_map_liveIdx]
      rfl

/-- **Single-threaded use.**  From a reachable configuration in which `t` is idle (the others do not
move), `t` performs any sequence of `Offer`/`Poll`/`Peek`/`IsEmpty`/`Size` calls and full iterations.
All responses, in order, are exactly those of the plain FIFO list started with `abs c.g`, and the abstract
queue ends as the plain FIFO list does. -/
theorem calls_behave_like_fifo_list {t : Tid} {k : Nat} (cls : List Call) (hp : ∀ cl ∈ cls, cl.plain) :
    ∀ {c : Config M} {q : List Nat}, Reach M c → c.l t = .idle → abs c.g = q →
    16 * (c.g.n + cls.length) + 15 ≤ k →
    Reach M (run M c (callsSched t k q cls)).1 ∧
    (run M c (callsSched t k q cls)).1.l = c.l ∧
    abs (run M c (callsSched t k q cls)).1.g = (runCalls q cls).1 ∧
    ∃ lg, (run M c (callsSched t k q cls)).2 = tag t lg ∧ resps lg = (runCalls q cls).2 := by
  induction cls with
  | nil => intro c q hc _ hq _; exact ⟨hc, rfl, hq, [], rfl, rfl⟩
  | cons cl cls ih =>
    intro c q hc ht hq hk
    have hk1 : bound c ≤ k := by simp only [bound, List.length_cons] at hk ⊢; omega
    obtain ⟨hpcl, hp'⟩ := List.forall_mem_cons.mp hp
    obtain ⟨a1, a2, a3, a4, lg1, a5, a6⟩ := solo_call_fifo hc ht cl hpcl hq hk1
    obtain ⟨b1, b2, b3, lg2, b4, b5⟩ := ih hp' a1
      (by rw [a2]; exact ht) a4 (by simp only [List.length_cons] at hk; omega)
    have e : callsSched t k q (cl :: cls) = callSched t k q cl ++ callsSched t k (callApply q cl).1 cls := rfl
    rw [e, run_append]
    refine ⟨b1, b2.trans a2, b3, lg1 ++ lg2, ?_, ?_⟩
    · show _ ++ _ = _
      rw [a5, b4]; exact (List.map_append ..).symm
    · rw [resps_append, a6, b5]; rfl

end Garr.Queue
