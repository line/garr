import Garr.Queue.Model
/-!
# The transition relation of the queue model, branch by branch

`Step g l a g' l' obs` has one constructor per branch of `Garr.Queue.step`, carrying the condition
under which the branch is taken (`Step.of_step`).  Every fact about single steps is proved by cases
on `Step`, or from the coarser views below: `Step.write` (what a step may do to the shared state)
and `Step.nontau` (calls start only from `idle` / `idleIt` and touch nothing).
Where all indices of `h : Step …` are variables, `induction h with` stands for `cases h with` (same goals, no index equations to solve).
-/
namespace Garr.Queue
open Garr.Conc

theorem goUpd_ind {P : L × List Obs → Prop} (h tgt : Nat) (k : Cont)
    (hfin : P (finish k)) (hupd : P (.u1 h tgt k, [])) : P (goUpd h tgt k) := by
  unfold goUpd; split
  · exact hfin
  · exact hupd

theorem finish_ind {P : L × List Obs → Prop} (hret : ∀ r, P (.idle, [.ret r]))
    (hzero : P (.idle, [.retAux (.int 0)])) (hsize : ∀ p, P (.s1 p 0, []))
    (hiter : ∀ it, P (.idleIt it, [.retAux .unit])) : ∀ k, P (finish k)
  | .ret r => hret r
  | .size none => hzero
  | .size (some p) => hsize p
  | .iter it => hiter it

inductive Step (g : G) : L → Act → G → L → List Obs → Prop
  | offer (v : Nat) : Step g .idle (.offer v) g (.o0 v) []
  | poll : Step g .idle .poll g .p0 []
  | peek : Step g .idle .peek g (.k0 .peek) []
  | isEmpty : Step g .idle .isEmpty g (.k0 .isEmpty) []
  | size : Step g .idle .size g (.k0 .size) []
  | iterator : Step g .idle .iterator g (.k0 .iter) []
  | o0 {v : Nat} : Step g (.o0 v) .tau g (.o1 v g.tail g.tail) []
  | o1_nil {v t p : Nat} : g.next p = none → Step g (.o1 v t p) .tau g (.o2 v t p) []
  | o1_self {v t p : Nat} : g.next p = some p → Step g (.o1 v t p) .tau g (.o4 v t p) []
  | o1_off {v t p q : Nat} : g.next p = some q → q ≠ p → p ≠ t → Step g (.o1 v t p) .tau g (.o5 v t p q) []
  | o1_adv {v t p q : Nat} : g.next p = some q → q ≠ p → p = t → Step g (.o1 v t p) .tau g (.o1 v t q) []
  | o2_link {v t p : Nat} : g.next p = none → p ≠ t →
      Step g (.o2 v t p) .tau (link g p v) (.o3 t g.n) [.lpOffer v]
  | o2_link_ret {v t p : Nat} : g.next p = none → p = t →
      Step g (.o2 v t p) .tau (link g p v) .idle [.lpOffer v, .ret .unit]
  | o2_fail {v t p : Nat} : g.next p ≠ none → Step g (.o2 v t p) .tau g (.o1 v t p) []
  | o3_swing {t nw : Nat} : g.tail = t → Step g (.o3 t nw) .tau { g with tail := nw } .idle [.ret .unit]
  | o3_skip {t nw : Nat} : g.tail ≠ t → Step g (.o3 t nw) .tau g .idle [.ret .unit]
  | o4_moved {v t p : Nat} : g.tail ≠ t → Step g (.o4 v t p) .tau g (.o1 v g.tail g.tail) []
  | o4_same {v t p : Nat} : g.tail = t → Step g (.o4 v t p) .tau g (.o4b v g.tail) []
  | o4b {v t : Nat} : Step g (.o4b v t) .tau g (.o1 v t g.head) []
  | o5_moved {v t p q : Nat} : g.tail ≠ t → Step g (.o5 v t p q) .tau g (.o1 v g.tail g.tail) []
  | o5_same {v t p q : Nat} : g.tail = t → Step g (.o5 v t p q) .tau g (.o1 v g.tail q) []
  | p0 : Step g .p0 .tau g (.p1 g.head g.head) []
  | p1_live {h p : Nat} : g.live p = true → Step g (.p1 h p) .tau g (.p2 h p) []
  | p1_dead {h p : Nat} : g.live p = false → Step g (.p1 h p) .tau g (.p4 h p) []
  | p2_kill {h p : Nat} : g.live p = true → p ≠ h →
      Step g (.p2 h p) .tau (kill g p) (.p3 h p (g.val p)) [.lpPoll (.val (g.val p))]
  | p2_kill_ret {h p : Nat} : g.live p = true → p = h →
      Step g (.p2 h p) .tau (kill g p) .idle [.lpPoll (.val (g.val p)), .ret (.val (g.val p))]
  | p2_dead {h p : Nat} : g.live p = false → Step g (.p2 h p) .tau g (.p4 h p) []
  | p3_some {h p v q : Nat} : g.next p = some q →
      Step g (.p3 h p v) .tau g (goUpd h q (.ret (.val v))).1 (goUpd h q (.ret (.val v))).2
  | p3_nil {h p v : Nat} : g.next p = none →
      Step g (.p3 h p v) .tau g (goUpd h p (.ret (.val v))).1 (goUpd h p (.ret (.val v))).2
  | p4_nil {h p : Nat} : g.next p = none →
      Step g (.p4 h p) .tau g (goUpd h p (.ret .nil)).1 (.lpPoll .nil :: (goUpd h p (.ret .nil)).2)
  | p4_self {h p : Nat} : g.next p = some p → Step g (.p4 h p) .tau g .p0 []
  | p4_adv {h p q : Nat} : g.next p = some q → q ≠ p → Step g (.p4 h p) .tau g (.p1 h q) []
  | k0 {m : Mode} : Step g (.k0 m) .tau g (.k1 m g.head g.head) []
  | k1_live {m : Mode} {h p : Nat} : g.live p = true →
      Step g (.k1 m h p) .tau g (goUpd h p (foundLive m p (g.val p)).2).1
        ((foundLive m p (g.val p)).1 ++ (goUpd h p (foundLive m p (g.val p)).2).2)
  | k1_dead {m : Mode} {h p : Nat} : g.live p = false → Step g (.k1 m h p) .tau g (.k2 m h p) []
  | k2_nil {m : Mode} {h p : Nat} : g.next p = none →
      Step g (.k2 m h p) .tau g (goUpd h p (foundNone m).2).1 ((foundNone m).1 ++ (goUpd h p (foundNone m).2).2)
  | k2_self {m : Mode} {h p : Nat} : g.next p = some p → Step g (.k2 m h p) .tau g (.k0 m) []
  | k2_adv {m : Mode} {h p q : Nat} : g.next p = some q → q ≠ p → Step g (.k2 m h p) .tau g (.k1 m h q) []
  | u1_cas {h tgt : Nat} {k : Cont} : g.head = h → Step g (.u1 h tgt k) .tau { g with head := tgt } (.u2 h k) []
  | u1_fail {h tgt : Nat} {k : Cont} : g.head ≠ h → Step g (.u1 h tgt k) .tau g (finish k).1 (finish k).2
  | u2 {h : Nat} {k : Cont} : Step g (.u2 h k) .tau (setNext g h (some h)) (finish k).1 (finish k).2
  | s1_max {p c : Nat} : g.live p = true → c + 1 = maxInt32 →
      Step g (.s1 p c) .tau g .idle [.retAux (.int (c + 1))]
  | s1_count {p c : Nat} : g.live p = true → c + 1 ≠ maxInt32 → Step g (.s1 p c) .tau g (.s2 p (c + 1)) []
  | s1_dead {p c : Nat} : g.live p = false → Step g (.s1 p c) .tau g (.s2 p c) []
  | s2_nil {p c : Nat} : g.next p = none → Step g (.s2 p c) .tau g .idle [.retAux (.int c)]
  | s2_self {p c : Nat} : g.next p = some p → Step g (.s2 p c) .tau g (.k0 .size) []
  | s2_adv {p c q : Nat} : g.next p = some q → q ≠ p → Step g (.s2 p c) .tau g (.s1 q c) []
  | hasNext {it : Iter} : Step g (.idleIt it) .hasNext g (.idleIt it) [.retAux (.bool it.nextNode.isSome)]
  | drop {it : Iter} : Step g (.idleIt it) .drop g .idle []
  | next_nil {it : Iter} : it.nextNode = none → Step g (.idleIt it) .next g (.idleIt it) [.retAux .nil]
  | next_some {it : Iter} {pred : Nat} : it.nextNode = some pred →
      Step g (.idleIt it) .next g (.n0 { it with lastRet := some pred } pred) []
  | n0_nil {it : Iter} {pred : Nat} : g.next pred = none →
      Step g (.n0 it pred) .tau g (.idleIt { it with nextNode := none, prev := some pred })
        [.itNext pred it.nextVal, .retAux (.val it.nextVal)]
  | n0_self {it : Iter} {pred : Nat} : g.next pred = some pred → Step g (.n0 it pred) .tau g (.n0h it pred) []
  | n0_adv {it : Iter} {pred q : Nat} : g.next pred = some q → q ≠ pred →
      Step g (.n0 it pred) .tau g (.n1 it pred q) []
  | n0h {it : Iter} {pred : Nat} : Step g (.n0h it pred) .tau g (.n1 it pred g.head) []
  | n1_live {it : Iter} {pred p : Nat} : g.live p = true →
      Step g (.n1 it pred p) .tau g (.idleIt { it with nextNode := some p, nextVal := g.val p, prev := some pred })
        [.itNext pred it.nextVal, .retAux (.val it.nextVal)]
  | n1_dead {it : Iter} {pred p : Nat} : g.live p = false → Step g (.n1 it pred p) .tau g (.n2 it pred p) []
  | n2_nil {it : Iter} {pred p : Nat} : g.next p = none →
      Step g (.n2 it pred p) .tau g (.idleIt { it with nextNode := none, prev := some pred })
        [.itNext pred it.nextVal, .retAux (.val it.nextVal)]
  | n2_self {it : Iter} {pred p : Nat} : g.next p = some p → Step g (.n2 it pred p) .tau g (.n2h it pred p) []
  | n2_adv {it : Iter} {pred p q : Nat} : g.next p = some q → q ≠ p →
      Step g (.n2 it pred p) .tau g (.n3 it pred p q) []
  | n2h {it : Iter} {pred p : Nat} : Step g (.n2h it pred p) .tau g (.n3 it pred p g.head) []
  | n3_cas {it : Iter} {pred p q : Nat} : g.next pred = some p →
      Step g (.n3 it pred p q) .tau (setNext g pred (some q)) (.n1 it pred q) []
  | n3_fail {it : Iter} {pred p q : Nat} : g.next pred ≠ some p → Step g (.n3 it pred p q) .tau g (.n1 it pred q) []
  | remove_nil {it : Iter} : it.lastRet = none → Step g (.idleIt it) .remove g (.idleIt it) [.retAux .unit]
  | remove_some {it : Iter} {l : Nat} : it.lastRet = some l → Step g (.idleIt it) .remove g (.r0 it l) []
  | r0 {it : Iter} {l : Nat} :
      Step g (.r0 it l) .tau (kill g l) (.idleIt { it with lastRet := none }) [.lpRemove l (g.live l), .ret .unit]

theorem Step.of_step {t : Tid} {g g' : G} {l l' : L} {a : Act} {obs : List Obs}
    (hs : step t g l a = some (g', l', obs)) : Step g l a g' l' obs := by
  -- one goal per line of `step`, in its order; the last is the disabled combinations
  unfold step at hs
  split at hs
  · cases hs; exact .offer _
  · cases hs; exact .poll
  · cases hs; exact .peek
  · cases hs; exact .isEmpty
  · cases hs; exact .size
  · cases hs; exact .iterator
  · cases hs; exact .o0
  · split at hs
    · cases hs; exact .o1_nil ‹_›
    · rename_i q hq
      split at hs
      · rename_i e; subst e; cases hs; exact .o1_self hq
      · split at hs <;> cases hs
        · exact .o1_off hq ‹_› ‹_›
        · exact .o1_adv hq ‹_› (Decidable.of_not_not ‹_›)
  · split at hs
    · split at hs <;> cases hs
      · exact .o2_link ‹_› ‹_›
      · exact .o2_link_ret ‹_› (Decidable.of_not_not ‹_›)
    · cases hs; exact .o2_fail ‹_›
  · cases hs
    split
    · exact .o3_swing ‹_›
    · exact .o3_skip ‹_›
  · split at hs <;> cases hs
    · exact .o4_moved ‹_›
    · exact .o4_same (Decidable.of_not_not ‹_›)
  · cases hs; exact .o4b
  · split at hs <;> cases hs
    · exact .o5_moved ‹_›
    · exact .o5_same (Decidable.of_not_not ‹_›)
  · cases hs; exact .p0
  · split at hs <;> cases hs
    · exact .p1_live ‹_›
    · exact .p1_dead (Bool.eq_false_iff.2 ‹_›)
  · split at hs
    · split at hs <;> cases hs
      · exact .p2_kill ‹_› ‹_›
      · exact .p2_kill_ret ‹_› (Decidable.of_not_not ‹_›)
    · cases hs; exact .p2_dead (Bool.eq_false_iff.2 ‹_›)
  · split at hs <;> cases hs
    · exact .p3_some ‹_›
    · exact .p3_nil ‹_›
  · split at hs
    · cases hs; exact .p4_nil ‹_›
    · rename_i q hq
      split at hs <;> cases hs
      · rename_i e; subst e; exact .p4_self hq
      · exact .p4_adv hq ‹_›
  · cases hs; exact .k0
  · split at hs <;> cases hs
    · exact .k1_live ‹_›
    · exact .k1_dead (Bool.eq_false_iff.2 ‹_›)
  · split at hs
    · cases hs; exact .k2_nil ‹_›
    · rename_i q hq
      split at hs <;> cases hs
      · rename_i e; subst e; exact .k2_self hq
      · exact .k2_adv hq ‹_›
  · split at hs <;> cases hs
    · exact .u1_cas ‹_›
    · exact .u1_fail ‹_›
  · cases hs; exact .u2
  · split at hs
    · split at hs <;> cases hs
      · exact .s1_max ‹_› ‹_›
      · exact .s1_count ‹_› ‹_›
    · cases hs; exact .s1_dead (Bool.eq_false_iff.2 ‹_›)
  · split at hs
    · cases hs; exact .s2_nil ‹_›
    · rename_i q hq
      split at hs <;> cases hs
      · rename_i e; subst e; exact .s2_self hq
      · exact .s2_adv hq ‹_›
  · cases hs; exact .hasNext
  · cases hs; exact .drop
  · split at hs <;> cases hs
    · exact .next_nil ‹_›
    · exact .next_some ‹_›
  · split at hs
    · cases hs; exact .n0_nil ‹_›
    · rename_i q hq
      split at hs <;> cases hs
      · rename_i e; subst e; exact .n0_self hq
      · exact .n0_adv hq ‹_›
  · cases hs; exact .n0h
  · split at hs <;> cases hs
    · exact .n1_live ‹_›
    · exact .n1_dead (Bool.eq_false_iff.2 ‹_›)
  · split at hs
    · cases hs; exact .n2_nil ‹_›
    · rename_i q hq
      split at hs <;> cases hs
      · rename_i e; subst e; exact .n2_self hq
      · exact .n2_adv hq ‹_›
  · cases hs; exact .n2h
  · cases hs
    split
    · exact .n3_cas ‹_›
    · exact .n3_fail ‹_›
  · split at hs <;> cases hs
    · exact .remove_nil ‹_›
    · exact .remove_some ‹_›
  · cases hs; exact .r0
  · cases hs

/-- the writes to the shared state, each with the program counter that performs it -/
inductive Write (g : G) : L → G → Prop
  | link {v t p : Nat} : g.next p = none → Write g (.o2 v t p) (link g p v)
  | tail {t nw : Nat} : g.tail = t → Write g (.o3 t nw) { g with tail := nw }
  | poll {h p : Nat} : g.live p = true → Write g (.p2 h p) (kill g p)
  | head {h tgt : Nat} {k : Cont} : g.head = h → Write g (.u1 h tgt k) { g with head := tgt }
  | selflink {h : Nat} {k : Cont} : Write g (.u2 h k) (setNext g h (some h))
  | unlink {it : Iter} {pred p q : Nat} : g.next pred = some p →
      Write g (.n3 it pred p q) (setNext g pred (some q))
  | remove {it : Iter} {l : Nat} : Write g (.r0 it l) (kill g l)

theorem Step.write {g g' : G} {l l' : L} {a : Act} {obs : List Obs} (h : Step g l a g' l' obs) :
    g' = g ∨ Write g l g' := by
  induction h with
  | o2_link hn | o2_link_ret hn => exact .inr (.link hn)
  | o3_swing ht => exact .inr (.tail ht)
  | p2_kill hl | p2_kill_ret hl => exact .inr (.poll hl)
  | u1_cas hh => exact .inr (.head hh)
  | u2 => exact .inr .selflink
  | n3_cas hn => exact .inr (.unlink hn)
  | r0 => exact .inr .remove
  | _ => exact .inl rfl

theorem Step.nontau {g g' : G} {l l' : L} {a : Act} {obs : List Obs} (h : Step g l a g' l' obs)
    (ha : a ≠ .tau) : g' = g ∧ (l = .idle ∨ ∃ it, l = .idleIt it) := by
  induction h with
  | offer | poll | peek | isEmpty | size | iterator => exact ⟨rfl, .inl rfl⟩
  | hasNext | drop | next_nil | next_some | remove_nil | remove_some => exact ⟨rfl, .inr ⟨_, rfl⟩⟩
  | _ => exact absurd rfl ha

theorem Write.n_le {g g' : G} {l : L} (h : Write g l g') : g.n ≤ g'.n := by
  cases h with
  | link => exact Nat.le_succ _
  | _ => exact Nat.le_refl _

theorem Write.val_eq {g g' : G} {l : L} (h : Write g l g') {k : Nat} (hk : k < g.n) : g'.val k = g.val k := by
  cases h with
  | link => exact if_neg (Nat.ne_of_lt hk)
  | _ => rfl

end Garr.Queue
