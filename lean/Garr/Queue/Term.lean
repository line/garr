import Garr.Queue.Inv
/-!
# C07: every queue operation terminates within a bounded number of its own steps

From ANY reachable configuration (the other threads suspended wherever they happen to be inside
their operations), a thread that runs alone finishes its current operation within `bound c` of its
own steps, `bound` an explicit linear function of the number of linked nodes.  No step of any
operation ever waits for another thread (`nonblocking`), so a stalled thread blocks nobody.

The proof is by an explicit measure `mu : G → L → Nat` of the shape
`[t ≠ tail]·(8n+8) + 8·(n − position) + phase`, `0` between operations, which strictly decreases on
every own step (`mu_dec`); the structural invariant `GInv` (`fwd`, `self_before_head`)
supplies "a non-self `next` points strictly forward" and "a self-linked node is before `head`".
-/
namespace Garr.Queue
open Garr.Conc

/-- the thread is between operations -/
def atRest : L → Bool
  | .idle => true
  | .idleIt _ => true
  | _ => false

/-- one own step of thread `t` (the internal action `.tau`); configurations at rest (or with no
    enabled step) stay put -/
def soloStep (t : Tid) (c : Config M) : Config M :=
  match step t c.g (c.l t) .tau with
  | some (g', l', _) => ⟨g', upd c.l t l'⟩
  | none => c

/-- `k` own steps of thread `t`, stopping as soon as `t` is at rest -/
def solo (t : Tid) : Nat → Config M → Config M
  | 0, c => c
  | k + 1, c => if atRest (c.l t) then c else solo t k (soloStep t c)

/-- explicit bound on the number of own steps: a function of the number of linked nodes only -/
def bound (c : Config M) : Nat := 16 * c.g.n + 15

/-- weight of the continuation of `updateHead` (`n` the number of linked nodes) -/
def contMu (n : Nat) : Cont → Nat
  | .size (some p) => 8 * (n - p) + 2
  | _ => 0

/-- `Offer` still holds a stale snapshot `t` of `tail`.  When it notices (`o4_moved`, `o5_moved`) it
    starts over at `o1 v tail tail`, whose weight can be as much as `8n + 5`; `8n + 8` exceeds every
    weight `8·(n − position) + phase`, so giving up the flag pays for the restart. -/
def flag (g : G) (t : Nat) : Nat := if t = g.tail then 0 else 8 * g.n + 8

/-- the termination measure: `8·(n − position) + phase`, plus `flag` while `Offer` holds a snapshot
    of `tail`.  At `o2` the link CAS succeeds iff `g.next p = none`: then only `o3` (weight `1`) is
    left, so `2`; otherwise the step falls back to `o1` at the same node (weight `5`), so `6`. -/
def mu (g : G) : L → Nat
  | .idle => 0
  | .idleIt _ => 0
  | .o0 _ => 8 * g.n + 6
  | .o1 _ t p => 8 * (g.n - p) + 5 + flag g t
  | .o2 _ t p => 8 * (g.n - p) + (if g.next p = none then 2 else 6) + flag g t
  | .o3 _ _ => 1
  | .o4 _ t _ => 8 * (g.n - g.head) + 7 + flag g t
  | .o4b _ t => 8 * (g.n - g.head) + 6 + flag g t
  | .o5 _ t _ q => 8 * (g.n - q) + 6 + flag g t
  | .p0 => 8 * (g.n - g.head) + 7
  | .p1 _ p => 8 * (g.n - p) + 6
  | .p2 _ p => 8 * (g.n - p) + 5
  | .p3 _ p _ => 8 * (g.n - p) + 3
  | .p4 _ p => 8 * (g.n - p) + 4
  | .k0 _ => 8 * (g.n - g.head) + 7
  | .k1 _ _ p => 8 * (g.n - p) + 6
  | .k2 _ _ p => 8 * (g.n - p) + 5
  | .u1 _ _ k => contMu g.n k + 2
  | .u2 _ k => contMu g.n k + 1
  | .s1 p _ => 8 * (g.n - p) + 2
  | .s2 p _ => 8 * (g.n - p) + 1
  | .n0 _ pred => 8 * (g.n - pred) + 2
  | .n0h _ pred => 8 * (g.n - pred) + 1
  | .n1 _ _ p => 8 * (g.n - p) + 5
  | .n2 _ _ p => 8 * (g.n - p) + 4
  | .n2h _ _ p => 8 * (g.n - p) + 3
  | .n3 _ _ p _ => 8 * (g.n - p) + 2
  | .r0 _ _ => 1

@[simp] theorem kill_n (g : G) (p : Nat) : (kill g p).n = g.n := rfl
@[simp] theorem setNext_n (g : G) (i : Nat) (x : Option Nat) : (setNext g i x).n = g.n := rfl
@[simp] theorem link_n (g : G) (p v : Nat) : (link g p v).n = g.n + 1 := rfl

theorem flag_tail (g : G) : flag g g.tail = 0 := if_pos rfl

theorem flag_ne {g : G} {t : Nat} (h : g.tail ≠ t) : flag g t = 8 * g.n + 8 := if_neg fun e => h e.symm

theorem flag_le (g : G) (t : Nat) : flag g t ≤ 8 * g.n + 8 := by
  unfold flag; split <;> omega

theorem contMu_le (n : Nat) : ∀ k : Cont, contMu n k ≤ 8 * n + 2
  | .size (some p) => by simp only [contMu]; omega
  | .ret _ | .size none | .iter _ => Nat.zero_le _

theorem mu_finish (g : G) : ∀ k : Cont, mu g (finish k).1 = contMu g.n k
  | .ret _ | .size none | .size (some _) | .iter _ => rfl

theorem mu_goUpd (g : G) (h tgt : Nat) (k : Cont) : mu g (goUpd h tgt k).1 ≤ contMu g.n k + 2 :=
  goUpd_ind (P := fun x => mu g x.1 ≤ contMu g.n k + 2) h tgt k
    (Nat.le_trans (Nat.le_of_eq (mu_finish g k)) (Nat.le_add_right _ 2)) (Nat.le_refl _)

theorem mu_le (g : G) (l : L) : mu g l ≤ 16 * g.n + 15 := by
  have pos : ∀ p c, c ≤ 7 → 8 * (g.n - p) + c ≤ 16 * g.n + 15 := fun p c h => by omega
  have off : ∀ t p c, c ≤ 7 → 8 * (g.n - p) + c + flag g t ≤ 16 * g.n + 15 := fun t p c h => by
    have := flag_le g t; omega
  cases l with
  | o1 | o4 | o4b | o5 => exact off _ _ _ (by decide)
  | o2 v t p => have := off t p 6 (by decide); simp only [mu]; split <;> omega
  | u1 h tgt k | u2 h k => have := contMu_le g.n k; simp only [mu]; omega
  | idle | idleIt | o0 | o3 | r0 => simp only [mu]; omega
  | _ => exact pos _ _ (by decide)

theorem rest_no_tau {t : Tid} {g : G} {l : L} (h : atRest l = true) : step t g l .tau = none := by
  cases l with
  | idle | idleIt => rfl
  | _ => exact nomatch h

theorem tau_not_rest {t : Tid} {g : G} {l : L} {r : G × L × List Obs}
    (hs : step t g l .tau = some r) : atRest l = false :=
  Bool.eq_false_iff.2 fun h => nomatch (rest_no_tau h).symm.trans hs

/-- a thread inside an operation always has an enabled own step, whatever the shared state -/
theorem nonblocking : ∀ (t : Tid) (g : G) (l : L), atRest l = false → ∃ r, step t g l .tau = some r := by
  intro t g l h
  cases l with
  | idle | idleIt => exact nomatch h
  | _ => dsimp only [step]; (repeat' split) <;> exact ⟨_, rfl⟩

/-- the traversal moved forward from `p` to `q`: that pays for any change of phase (phases are `< 8`) -/
theorem hop_lt {n p q a : Nat} (b : Nat) (hpq : p < q ∧ q < n) (ha : a < 8) :
    8 * (n - q) + a < 8 * (n - p) + b := by omega

theorem fwd_lt {g : G} (hG : GInv g) {i j : Nat} (hi : i < g.n) (hn : g.next i = some j) (hne : ¬ j = i) :
    i < j ∧ j < g.n :=
  ⟨((hG.fwd i j hi hn).2.resolve_left hne).1, (hG.fwd i j hi hn).1⟩

theorem mu_dec {t : Tid} {g g' : G} {l l' : L} {obs : List Obs}
    (hG : GInv g) (hL : LInv g l) (hs : step t g l .tau = some (g', l', obs)) : mu g' l' < mu g l := by
  have hhead := hG.head_lt
  have h := Step.of_step hs
  -- with the action a variable, `induction` applies (see `Step`); the constructors for invocations
  -- and iterator calls carry an action other than `.tau`, so `cases ha` closes them
  generalize ha : Act.tau = a at h
  induction h with
  | offer | poll | peek | isEmpty | size | iterator | hasNext | drop | next_nil | next_some | remove_nil
  | remove_some => cases ha
  -- the operation returns: the measure is `0` at rest and positive elsewhere
  | o2_link_ret hn => simp only [mu, if_pos hn]; omega
  | o3_swing | o3_skip | p2_kill_ret | s1_max | s2_nil | n0_nil | n1_live | n2_nil | r0 => exact Nat.succ_pos _
  -- `Offer`: the snapshot of `tail`
  | o0 => simp only [mu, flag_tail]; omega
  | o1_nil hn | o2_link hn => simp only [mu, if_pos hn]; omega
  | o2_fail hnn => simp only [mu, if_neg hnn]; omega
  | o4_moved hne | o5_moved hne => simp only [mu, flag_tail, flag_ne hne]; omega
  | o4_same | o5_same => simp only [mu, flag_tail]; omega
  | o4b => exact Nat.add_lt_add_right (Nat.add_lt_add_left (by decide) _) _
  -- a self-link sends the traversal back to `head`, which lies ahead
  | o1_self hq => exact Nat.add_lt_add_right (hop_lt _ ⟨hG.self_before_head _ hL.2 hq, hhead⟩ (by decide)) _
  | p4_self hq | k2_self hq => exact hop_lt _ ⟨hG.self_before_head _ hL.2.1 hq, hhead⟩ (by decide)
  | s2_self hq => exact hop_lt _ ⟨hG.self_before_head _ hL hq, hhead⟩ (by decide)
  | n0h => exact hop_lt _ ⟨hL.1, hhead⟩ (by decide)
  -- one node forward
  | o1_off hq hne | o1_adv hq hne => exact Nat.add_lt_add_right (hop_lt _ (fwd_lt hG hL.2 hq hne) (by decide)) _
  | p4_adv hq hne | k2_adv hq hne => exact hop_lt _ (fwd_lt hG hL.2.1 hq hne) (by decide)
  | s2_adv hq hne => exact hop_lt _ (fwd_lt hG hL hq hne) (by decide)
  | n0_adv hq hne => exact hop_lt _ (fwd_lt hG hL.1 hq hne) (by decide)
  | n3_cas | n3_fail => exact hop_lt _ ⟨hL.2.1, hL.2.2.1⟩ (by decide)
  -- `updateHead`: entered with weight `contMu + 2`, left with `contMu`
  | p3_some | p3_nil | p4_nil => exact Nat.lt_of_le_of_lt (mu_goUpd ..) (by simp only [mu, contMu]; omega)
  | @k1_live m h p =>
    have : contMu g.n (foundLive m p (g.val p)).2 ≤ 8 * (g.n - p) + 2 := by cases m <;> simp [foundLive, contMu]
    exact Nat.lt_of_le_of_lt (mu_goUpd ..) (by simp only [mu]; omega)
  | @k2_nil m =>
    have : contMu g.n (foundNone m).2 = 0 := by cases m <;> rfl
    exact Nat.lt_of_le_of_lt (mu_goUpd ..) (by simp only [mu]; omega)
  | u1_fail | u2 => exact Nat.lt_of_le_of_lt (Nat.le_of_eq (mu_finish ..)) (Nat.lt_add_of_pos_right (by decide))
  -- same node, next phase
  | _ => exact Nat.add_lt_add_left (by decide) _

/-- a solo run is an ordinary run of the machine under the schedule "`t` takes `k` internal steps" -/
theorem solo_eq_run (t : Tid) : ∀ (k : Nat) (c : Config M),
    solo t k c = (run M c (List.replicate k (t, Act.tau))).1 := by
  intro k
  induction k with
  | zero => intro c; rfl
  | succ k ih =>
    intro c
    simp only [solo, List.replicate_succ, run]
    cases hr : atRest (c.l t) with
    | true =>
      have hnone : M.step t c.g (c.l t) Act.tau = none := rest_no_tau (t := t) hr
      simp only [hnone]
      rw [← ih]
      cases k with
      | zero => rfl
      | succ k => simp [solo, hr]
    | false =>
      obtain ⟨⟨g', l', obs⟩, hs⟩ := nonblocking t c.g (c.l t) hr
      have hs' : M.step t c.g (c.l t) Act.tau = some (g', l', obs) := hs
      simp only [hs']
      rw [← ih]
      simp [soloStep, hs]

theorem solo_reach {t : Tid} {k : Nat} {c : Config M} : Reach M c → Reach M (solo t k c) :=
  fun h => solo_eq_run t k c ▸ reach_run M c h _

theorem solo_bound_aux (t : Tid) : ∀ (m : Nat) (c : Config M), Reach M c → mu c.g (c.l t) < m →
    ∃ k, k < m ∧ atRest ((solo t k c).l t) = true := by
  intro m
  induction m with
  | zero => intro c _ hm; exact absurd hm (Nat.not_lt_zero _)
  | succ m ih =>
    intro c hc hm
    cases hr : atRest (c.l t) with
    | true => exact ⟨0, Nat.succ_pos _, hr⟩
    | false =>
      obtain ⟨⟨g', l', obs⟩, hs⟩ := nonblocking t c.g (c.l t) hr
      have hinv := inv_reach c hc
      have hdec := mu_dec hinv.1 (hinv.2 t) hs
      obtain ⟨k, hk, hrest⟩ := ih ⟨g', upd c.l t l'⟩ (Reach.step (M := M) (a := Act.tau) hc hs)
        (Nat.lt_of_le_of_lt (Nat.le_of_eq (congrArg (mu g') (upd_same c.l t l'))) (by omega))
      exact ⟨k + 1, Nat.succ_lt_succ hk, by simpa [solo, hr, soloStep, hs] using hrest⟩

/-- **C07**: from every reachable configuration, thread `t` running alone reaches rest (completes
    its operation) within `bound c = 16·n + 15` own steps (`n` = number of linked nodes at the
    start) — wherever the other threads are suspended. -/
theorem C07_solo_bound : ∀ (c : Config M) (t : Tid), Reach M c →
    ∃ k, k ≤ bound c ∧ atRest ((solo t k c).l t) = true := by
  intro c t hc
  obtain ⟨k, hk, h⟩ := solo_bound_aux t _ c hc (Nat.lt_succ_self _)
  exact ⟨k, Nat.le_trans (Nat.le_of_lt_succ hk) (mu_le c.g (c.l t)), h⟩

/-- the same with the coarser bound `24·n + 40` -/
theorem C07_solo_bound_coarse : ∀ (c : Config M) (t : Tid), Reach M c →
    ∃ k, k ≤ 24 * c.g.n + 40 ∧ atRest ((solo t k c).l t) = true := by
  intro c t hc
  obtain ⟨k, hk, h⟩ := C07_solo_bound c t hc
  exact ⟨k, by unfold bound at hk; omega, h⟩

theorem soloStep_others {t u : Tid} (hu : u ≠ t) (c : Config M) : (soloStep t c).l u = c.l u := by
  unfold soloStep
  split
  · exact upd_other _ _ _ _ hu
  · rfl

theorem solo_others {t u : Tid} (hu : u ≠ t) : ∀ (k : Nat) (c : Config M), (solo t k c).l u = c.l u := by
  intro k
  induction k with
  | zero => intro c; rfl
  | succ k ih =>
    intro c
    simp only [solo]
    split
    · rfl
    · rw [ih, soloStep_others hu]

/-- a solo run of `t` depends only on the shared state and `t`'s own local state -/
theorem solo_indep {t : Tid} : ∀ (k : Nat) (c₁ c₂ : Config M), c₁.g = c₂.g → c₁.l t = c₂.l t →
    (solo t k c₁).g = (solo t k c₂).g ∧ (solo t k c₁).l t = (solo t k c₂).l t := by
  intro k
  induction k with
  | zero => intro c₁ c₂ hg hl; exact ⟨hg, hl⟩
  | succ k ih =>
    intro c₁ c₂ hg hl
    simp only [solo, hl]
    split
    · exact ⟨hg, hl⟩
    · -- the next own step is the same on both sides
      apply ih <;> simp only [soloStep, hg, hl] <;> split
      · rfl
      · exact hg
      · exact (upd_same c₁.l t _).trans (upd_same c₂.l t _).symm
      · exact hl

/-- the bound holds whatever the other threads' local states are, and the solo run leaves them
    exactly where they were: a stalled thread never blocks anybody -/
theorem frozen_others_irrelevant : ∀ (c : Config M) (t : Tid), Reach M c →
    ∃ k, k ≤ bound c ∧ atRest ((solo t k c).l t) = true ∧ ∀ u, u ≠ t → (solo t k c).l u = c.l u := by
  intro c t hc
  obtain ⟨k, hk, h⟩ := C07_solo_bound c t hc
  exact ⟨k, hk, h, fun u hu => solo_others hu k c⟩

end Garr.Queue
