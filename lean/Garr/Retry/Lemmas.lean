import Garr.Retry.Model
/-!
# Helper lemmas for the retry model that need no float arithmetic

`int64` wrap-around, the bounded random helpers, what each constructor accepts, and the equations
of `next` layer by layer (the jitter layer through `jitterPick`, the integer part of its
computation).
-/
namespace Garr.Retry

theorem wrap64_id {x : Int} (h : inI64 x) : wrap64 x = x :=
  wrap_id h.1 (Int.lt_add_one_iff.2 h.2)

theorem wrap64_of_nonneg {x : Int} (h0 : 0 ≤ x) (h1 : x ≤ maxI64) : wrap64 x = x :=
  wrap64_id ⟨Int.le_trans (by decide) h0, h1⟩

theorem randomInt64_nonneg (u1 u2 : Nat) : 0 ≤ randomInt64 u1 u2 := Int.natCast_nonneg _

theorem randomInt64_lt (u1 u2 : Nat) : randomInt64 u1 u2 < 2^63 := by
  unfold randomInt64
  omega

/-- the rejection test of `nextRandomInt64IncludingZero` is never true: one draw suffices -/
theorem no_reject {bound u : Int} (hb : 0 < bound) (hu : 0 ≤ u) : ¬ (u < u % bound - (bound - 1)) := by
  have h1 : u % bound < bound := Int.emod_lt_of_pos u hb
  omega

theorem rejLoop_eq {bound u : Int} (hb : 0 < bound) (hu : 0 ≤ u) (ws : List Nat) :
    rejLoop bound (bound - 1) ws u = (u % bound, ws) := by
  have hn := no_reject hb hu
  unfold rejLoop
  split <;> simp only [hn, if_false]

theorem nrIncl_nonpos {bound : Int} (hb : bound ≤ 0) (ws : List Nat) : nrIncl bound ws = (bound, ws) :=
  if_pos hb

/-- `nextRandomInt64IncludingZero(bound)` for `bound > 0` with at least one draw available:
result in `[0, bound-1]`, exactly two words consumed -/
theorem nrIncl_range {bound : Int} (hb : 0 < bound) (u1 u2 : Nat) (rest : List Nat) :
    0 ≤ (nrIncl bound (u1 :: u2 :: rest)).1 ∧ (nrIncl bound (u1 :: u2 :: rest)).1 ≤ bound - 1 ∧
    (nrIncl bound (u1 :: u2 :: rest)).2 = rest := by
  rw [nrIncl, if_neg (Int.not_le.2 hb)]
  simp only []
  split
  · -- power of two: mask
    exact ⟨Int.natCast_nonneg _, Int.le_trans (Int.ofNat_le.2 Nat.and_le_right)
      (Int.le_of_eq (Int.toNat_of_nonneg (Int.le_sub_one_of_lt hb))), rfl⟩
  · rw [rejLoop_eq hb (Int.ediv_nonneg (randomInt64_nonneg u1 u2) (by decide))]
    exact ⟨Int.emod_nonneg _ (Int.ne_of_gt hb), Int.le_sub_one_of_lt (Int.emod_lt_of_pos _ hb), rfl⟩

/-- the model returns 0 when fewer than two words are left -/
theorem nrIncl_range_any {bound : Int} (hb : 0 < bound) (ws : List Nat) :
    0 ≤ (nrIncl bound ws).1 ∧ (nrIncl bound ws).1 ≤ bound - 1 := by
  match ws with
  | u1 :: u2 :: rest => exact ⟨(nrIncl_range hb u1 u2 rest).1, (nrIncl_range hb u1 u2 rest).2.1⟩
  | [_] | [] =>
    unfold nrIncl
    rw [if_neg (Int.not_le.2 hb)]
    exact ⟨Int.le_refl 0, Int.le_sub_one_of_lt hb⟩

theorem nr_fst {bound : Int} (hb : 0 < bound) (ws : List Nat) :
    (nr bound ws).1 = wrap64 ((nrIncl (bound - 1) ws).1 + 1) := by
  unfold nr; rw [if_neg (Int.not_le.2 hb)]

/-- `nextRandomInt64(bound)` for an `int64` `bound > 0` returns a value in its documented range
`[1, bound]` (for `bound ≥ 2` the value `bound` itself is never drawn) -/
theorem nr_range {bound : Int} (hb : 0 < bound) (hb' : bound ≤ maxI64) (ws : List Nat) :
    1 ≤ (nr bound ws).1 ∧ (nr bound ws).1 ≤ bound := by
  have hr : 0 ≤ (nrIncl (bound - 1) ws).1 ∧ (nrIncl (bound - 1) ws).1 ≤ bound - 1 := by
    by_cases h1 : bound - 1 ≤ 0
    · rw [nrIncl_nonpos h1]; exact ⟨Int.le_sub_one_of_lt hb, Int.le_refl _⟩
    · have := nrIncl_range_any (Int.not_le.1 h1) ws
      exact ⟨this.1, Int.le_trans this.2 (Int.sub_le_self _ (by decide))⟩
  rw [nr_fst hb, wrap64_of_nonneg (Int.add_nonneg hr.1 (by decide))
    (Int.le_trans (Int.add_le_of_le_sub_right hr.2) hb')]
  exact ⟨Int.le_add_of_nonneg_left hr.1, Int.add_le_of_le_sub_right hr.2⟩

theorem mkFixed_iff (d : Int) (b : Backoff) : mkFixed d = some b ↔ 0 ≤ d ∧ b = .fixed d := by
  unfold mkFixed
  rw [Option.ite_none_right_eq_some, Option.some.injEq, eq_comm]

theorem mkRandom_iff (lo hi : Int) (b : Backoff) :
    mkRandom lo hi = some b ↔ 0 ≤ lo ∧ lo ≤ hi ∧ b = .random lo hi := by
  unfold mkRandom
  rw [Option.ite_none_left_eq_some, Option.ite_none_left_eq_some, Option.some.injEq, Int.not_lt,
    Int.not_lt, eq_comm]

theorem mkExpo_iff (i m : Int) (mu : F64) (b : Backoff) :
    mkExpo i m mu = some b ↔ F64.lt F64.one mu = true ∧ 0 ≤ i ∧ i ≤ m ∧ b = .expo i m mu := by
  unfold mkExpo
  rw [Option.ite_none_left_eq_some, Option.ite_none_left_eq_some, Option.ite_none_left_eq_some,
    Option.some.injEq, Int.not_lt, Int.not_lt, Bool.not_eq_true, Bool.not_eq_false',
    eq_comm (a := b)]

theorem mkJitter_iff (b j : Backoff) (lo hi : F64) :
    mkJitter (some b) lo hi = some j ↔
      F64.le (F64.neg F64.one) lo = true ∧ F64.le lo F64.one = true ∧
      F64.le (F64.neg F64.one) hi = true ∧ F64.le hi F64.one = true ∧ F64.lt hi lo = false ∧
      j = .jitter b lo hi := by
  unfold mkJitter
  simp only [Option.ite_none_left_eq_some, Option.some.injEq, Bool.not_eq_true, Bool.not_eq_false',
    Bool.and_eq_true, and_assoc, eq_comm (a := j)]

theorem mkLimit_iff (b j : Backoff) (k : Int) :
    mkLimit (some b) k = some j ↔ 0 < k ∧ j = .limit b k := by
  unfold mkLimit
  simp only []
  rw [Option.ite_none_left_eq_some, Option.some.injEq, Int.not_le, eq_comm]

theorem ne_nan_of_le {a b : F64} (h : F64.le a b = true) : a ≠ .nan ∧ b ≠ .nan := by
  constructor
  · rintro rfl; cases b <;> cases h
  · rintro rfl; cases a <;> cases h

theorem ne_nan_of_lt {a b : F64} (h : F64.lt a b = true) : a ≠ .nan ∧ b ≠ .nan := by
  constructor
  · rintro rfl; cases b <;> cases h
  · rintro rfl; cases a <;> cases h

/-! ## `next` layer by layer

The equations are taken from the unfolding equation `next.eq_def`: rewriting with `next` itself makes Lean
generate its per-constructor equations, and the one for `jitter` is very slow to check. -/

theorem next_limit (pw : F64) (n k : Int) (b : Backoff) (ws : List Nat) :
    next pw n (.limit b k) ws = if n ≥ k then (-1, ws) else next pw n b ws := rfl

theorem next_random (pw : F64) (n lo hi : Int) (ws : List Nat) :
    (next pw n (.random lo hi) ws).1 =
      if lo ≠ hi then wrap64 ((nr (wrap64 (hi - lo)) ws).1 + lo) else lo := by
  rw [next.eq_def]; dsimp only; split <;> rfl

theorem ite_gt_eq_min (d m : Int) : (if d > m then m else d) = min d m := by
  rw [Int.min_def]
  by_cases h : d ≤ m
  · rw [if_pos h, if_neg (Int.not_lt.2 h)]
  · rw [if_neg h, if_pos (Int.not_le.1 h)]

theorem next_expo (pw : F64) (n i m : Int) (mu : F64) (ws : List Nat) :
    (next pw n (.expo i m mu) ws).1 = if n = 1 then i else min (satMul i pw) m := by
  rw [next.eq_def]; dsimp only; split
  · rfl
  · exact ite_gt_eq_min ..

theorem le_next_expo {pw : F64} {n i m L : Int} (hi : L ≤ i) (hs : L ≤ satMul i pw) (hm : L ≤ m)
    (mu : F64) (ws : List Nat) : L ≤ (next pw n (.expo i m mu) ws).1 := by
  rw [next_expo]; split
  · exact hi
  · exact Int.le_min.2 ⟨hs, hm⟩

theorem next_expo_le {n i m U : Int} (hi : i ≤ U) (hm : m ≤ U) (pw mu : F64) (ws : List Nat) :
    (next pw n (.expo i m mu) ws).1 ≤ U := by
  rw [next_expo]; split
  · exact hi
  · exact Int.le_trans (Int.min_le_right ..) hm

/-- the delay is monotone in the saturated product, across attempts that are both the first or
both later ones -/
theorem next_expo_mono {pw pw' : F64} {n n' i : Int} (hn : n = 1 ↔ n' = 1)
    (h : satMul i pw ≤ satMul i pw') (m : Int) (mu : F64) (ws ws' : List Nat) :
    (next pw n (.expo i m mu) ws).1 ≤ (next pw' n' (.expo i m mu) ws').1 := by
  rw [next_expo, next_expo]
  by_cases h1 : n = 1
  · rw [if_pos h1, if_pos (hn.1 h1)]; exact Int.le_refl _
  · rw [if_neg h1, if_neg (mt hn.2 h1)]
    exact Int.le_min.2 ⟨Int.le_trans (Int.min_le_left ..) h, Int.min_le_right ..⟩

/-- the integer part of the jitter computation: a draw from `[minJ, maxJ]`, negative results
replaced by 0 -/
def jitterPick (minJ maxJ : Int) (ws : List Nat) : Int × List Nat :=
  let p := nrIncl (wrap64 (wrap64 (maxJ - minJ) + 1)) ws
  let d := wrap64 (minJ + p.1)
  (if d < 0 then 0 else d, p.2)

theorem next_jitter (pw : F64) (n : Int) (b : Backoff) (lo hi : F64) (ws : List Nat) :
    next pw n (.jitter b lo hi) ws =
      if (next pw n b ws).1 ≤ 0 then next pw n b ws else
        jitterPick (satMul (next pw n b ws).1 (F64.add F64.one lo))
          (satMul (next pw n b ws).1 (F64.add F64.one hi)) (next pw n b ws).2 := by
  rw [next.eq_def]; rfl

theorem jitterDraw_range {minJ maxJ : Int} (h1 : minJ ≤ maxJ) (ws : List Nat) :
    0 ≤ (nrIncl (maxJ - minJ + 1) ws).1 ∧ (nrIncl (maxJ - minJ + 1) ws).1 ≤ maxJ - minJ := by
  have := nrIncl_range_any (Int.lt_add_one_iff.2 (Int.sub_nonneg_of_le h1)) ws
  rwa [Int.add_sub_cancel] at this

theorem jitterPick_nonneg (minJ maxJ : Int) (ws : List Nat) : 0 ≤ (jitterPick minJ maxJ ws).1 := by
  simp only [jitterPick]; split
  · exact Int.le_refl 0
  · exact Int.not_lt.1 ‹_›

/-- no `int64` wrap-around happens anywhere when `maxJ - minJ + 1` fits: the sum is exactly
`minJ + draw` -/
theorem jitterSum_eq {minJ maxJ : Int} (h0 : 0 ≤ minJ) (h1 : minJ ≤ maxJ) (h2 : maxJ ≤ maxI64)
    (h : maxJ - minJ + 1 ≤ maxI64) (ws : List Nat) :
    wrap64 (minJ + (nrIncl (wrap64 (wrap64 (maxJ - minJ) + 1)) ws).1) =
      minJ + (nrIncl (maxJ - minJ + 1) ws).1 := by
  have := jitterDraw_range h1 ws
  rw [wrap64_add, wrap64_of_nonneg (Int.le_of_lt (Int.lt_add_one_iff.2 (Int.sub_nonneg_of_le h1))) h,
    wrap64_of_nonneg (Int.add_nonneg h0 this.1) (Int.le_trans (Int.add_le_of_le_sub_left this.2) h2)]

theorem jitterPick_fst {minJ maxJ : Int} (h0 : 0 ≤ minJ) (h1 : minJ ≤ maxJ) (h2 : maxJ ≤ maxI64)
    (h : maxJ - minJ + 1 ≤ maxI64) (ws : List Nat) :
    (jitterPick minJ maxJ ws).1 = minJ + (nrIncl (maxJ - minJ + 1) ws).1 := by
  simp only [jitterPick]
  rw [jitterSum_eq h0 h1 h2 h, if_neg (Int.not_lt.2 (Int.add_nonneg h0 (jitterDraw_range h1 ws).1))]

theorem jitter_overflow_eq {minJ maxJ : Int} (h0 : 0 ≤ minJ) (h2 : maxJ ≤ maxI64)
    (h : maxI64 < maxJ - minJ + 1) : minJ = 0 ∧ maxJ = maxI64 := by
  omega

/-- in the overflow case the bound passed to the random helper is `MinInt64`, which it returns as
the "draw", and the negative sum becomes 0 -/
theorem jitterPick_overflow {minJ maxJ : Int} (h0 : 0 ≤ minJ) (h2 : maxJ ≤ maxI64)
    (h : maxI64 < maxJ - minJ + 1) (ws : List Nat) : (jitterPick minJ maxJ ws).1 = 0 := by
  obtain ⟨rfl, rfl⟩ := jitter_overflow_eq h0 h2 h
  have e : wrap64 (wrap64 (maxI64 - 0) + 1) = -(2^63) := by decide
  simp only [jitterPick]
  rw [e, nrIncl_nonpos (by decide)]
  exact if_pos (show wrap64 (0 + -(2^63)) < 0 by decide)

theorem jitterPick_band {minJ maxJ : Int} (h0 : 0 ≤ minJ) (h1 : minJ ≤ maxJ) (h2 : maxJ ≤ maxI64)
    (ws : List Nat) : minJ ≤ (jitterPick minJ maxJ ws).1 ∧ (jitterPick minJ maxJ ws).1 ≤ maxJ := by
  by_cases h : maxJ - minJ + 1 ≤ maxI64
  · have := jitterDraw_range h1 ws
    rw [jitterPick_fst h0 h1 h2 h]
    exact ⟨Int.le_add_of_nonneg_right this.1, Int.add_le_of_le_sub_left this.2⟩
  · rw [jitterPick_overflow h0 h2 (Int.not_le.1 h)]
    exact ⟨Int.le_of_eq (jitter_overflow_eq h0 h2 (Int.not_le.1 h)).1, Int.le_trans h0 h1⟩

/-- the integer part of the jitter computation in one statement: given `0 ≤ minJ ≤ maxJ ≤ MaxInt64`,
the returned delay is in `[minJ, maxJ]` — also when `maxJ - minJ + 1` overflows (`minJ = 0`,
`maxJ = MaxInt64`), where it is 0 -/
theorem jitter_core (minJ maxJ : Int) (ws1 : List Nat) (h0 : 0 ≤ minJ) (h1 : minJ ≤ maxJ)
    (h2 : maxJ ≤ maxI64) :
    let d := wrap64 (minJ + (nrIncl (wrap64 (wrap64 (maxJ - minJ) + 1)) ws1).1)
    minJ ≤ (if d < 0 then 0 else d) ∧ (if d < 0 then 0 else d) ≤ maxJ ∧
      (maxJ - minJ + 1 ≤ maxI64 →
        d = minJ + (nrIncl (maxJ - minJ + 1) ws1).1 ∧ 0 ≤ (nrIncl (maxJ - minJ + 1) ws1).1 ∧
          (nrIncl (maxJ - minJ + 1) ws1).1 ≤ maxJ - minJ) ∧
      (maxI64 < maxJ - minJ + 1 → (if d < 0 then 0 else d) = 0) :=
  ⟨(jitterPick_band h0 h1 h2 ws1).1, (jitterPick_band h0 h1 h2 ws1).2,
    fun h => ⟨jitterSum_eq h0 h1 h2 h ws1, jitterDraw_range h1 ws1⟩,
    fun h => jitterPick_overflow h0 h2 h ws1⟩

end Garr.Retry
