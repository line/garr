import Garr.Retry.Lemmas
import Garr.Num.F64Lemmas
/-!
# Helper lemmas for the retry model (float side and whole-stack helpers)

`saturatedMultiply` in terms of `F64.sat`, `build` unfolding.
(Proof file; uses `Garr/Num/F64Lemmas.lean`.)
-/
namespace Garr.Retry
open Garr

/-- `saturatedMultiply` is "convert, multiply, guarded truncation" -/
theorem satMul_eq_sat (left : Int) (right : F64) :
    satMul left right = if left = 0 then 0 else F64.sat (F64.mul (F64.ofInt left) right) := by
  unfold satMul F64.sat maxI64; rfl

theorem satMul_of_pos {left : Int} (h : 0 < left) (right : F64) :
    satMul left right = F64.sat (F64.mul (F64.ofInt left) right) := by
  rw [satMul_eq_sat, if_neg (Int.ne_of_gt h)]

theorem build_cons_limit (acc : Option Backoff) (k : Int) (ls : List Layer) :
    build acc (.limit k :: ls) = build (mkLimit acc k) ls := rfl

theorem build_cons_jitter (acc : Option Backoff) (lo hi : F64) (ls : List Layer) :
    build acc (.jitter lo hi :: ls) = build (mkJitter acc lo hi) ls := rfl

theorem build_none (ls : List Layer) : build none ls = none := by
  induction ls with
  | nil => rfl
  | cons l ls ih =>
    cases l with
    | limit k => rw [build_cons_limit]; exact ih
    | jitter lo hi => rw [build_cons_jitter]; exact ih

end Garr.Retry
