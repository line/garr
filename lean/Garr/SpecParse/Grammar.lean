import Garr.SpecParse.Model
import Garr.Retry.Lemmas
/-!
# A declarative grammar for back-off specifications, and its equivalence with `parse`

`InGrammar pf s b` says, without reference to the parser's control flow (no `splitEq`,
`splitColon`, `parseInt`, `intField`), that the byte string `s` is a well-formed specification
denoting the back-off `b`.  The main theorem `parse_iff_grammar` states
`parse pf s = some b ↔ InGrammar pf s b`.

Totality of `parse` is by construction: it is a total Lean function into `Option Backoff`
(`none` = the Go function returned a non-nil error), so "fails with an error for everything else"
is `parse_fails_otherwise`.
-/
namespace Garr.SpecParse
open Garr Garr.Retry

/-- positional (big-endian) value of a digit string: `decVal (ds ++ [d]) = decVal ds * 10 + (d - '0')`
(see `decVal_nil`, `decVal_snoc`) -/
def decVal (ds : Bytes) : Nat := ds.foldl (fun acc d => acc * 10 + (d - 48)) 0

/-- every byte is an ASCII digit `'0'..'9'` -/
def AllDigits (ds : Bytes) : Prop := ∀ d ∈ ds, 48 ≤ d ∧ d ≤ 57

instance (ds : Bytes) : Decidable (AllDigits ds) := by unfold AllDigits; infer_instance

/-- `f` is a decimal integer literal denoting `v`: optional '+'/'-', then one or more ASCII digits
(leading zeros allowed), value in int64 range (`-2^63 ≤ v ≤ 2^63 - 1`). -/
inductive IsIntLit : Bytes → Int → Prop
  | unsigned (ds : Bytes) : ds ≠ [] → AllDigits ds → decVal ds < 2^63 → IsIntLit ds (decVal ds : Int)
  | plus (ds : Bytes) : ds ≠ [] → AllDigits ds → decVal ds < 2^63 → IsIntLit (bPlus :: ds) (decVal ds : Int)
  | minus (ds : Bytes) : ds ≠ [] → AllDigits ds → decVal ds ≤ 2^63 → IsIntLit (bMinus :: ds) (-(decVal ds : Int))

def IntField (f : Bytes) (dflt v : Int) : Prop := (f = [] ∧ v = dflt) ∨ IsIntLit f v

def NoByte (b : Nat) (f : Bytes) : Prop := b ∉ f

/-- the float field: empty ⇒ 2.0, otherwise whatever `strconv.ParseFloat` (the parameter) returns -/
def FloatField (pf : Option F64) (f : Bytes) (mu : F64) : Prop :=
  (f = [] ∧ mu = defaultMult) ∨ (f ≠ [] ∧ pf = some mu)

/-- The declarative grammar of back-off specifications.  The integer defaults are written as numerals (the values
in `retry/consts.go`), not through the parser's `default*` constants, so that the grammar does not lean on the
parser; 2.0 has no numeral in `F64`, hence `defaultMult`. -/
inductive InGrammar (pf : Option F64) : Bytes → Backoff → Prop
  | fixed (f : Bytes) (d : Int) :
      IntField f 200 d → 0 ≤ d →
      InGrammar pf (kFixed ++ [bEq] ++ f) (.fixed d)
  | random (f0 f1 : Bytes) (lo hi : Int) :
      NoByte bColon f0 → NoByte bColon f1 →
      IntField f0 0 lo → IntField f1 10000 hi → 0 ≤ lo → lo ≤ hi →
      InGrammar pf (kRandom ++ [bEq] ++ f0 ++ [bColon] ++ f1) (.random lo hi)
  | expo (f0 f1 f2 : Bytes) (i m : Int) (mu : F64) :
      NoByte bColon f0 → NoByte bColon f1 → NoByte bColon f2 →
      IntField f0 200 i → IntField f1 10000 m → FloatField pf f2 mu →
      F64.lt F64.one mu = true → 0 ≤ i → i ≤ m →
      InGrammar pf (kExpo ++ [bEq] ++ f0 ++ [bColon] ++ f1 ++ [bColon] ++ f2) (.expo i m mu)

theorem decVal_nil : decVal [] = 0 := rfl

theorem decVal_snoc (ds : Bytes) (d : Nat) : decVal (ds ++ [d]) = decVal ds * 10 + (d - 48) := by
  simp [decVal, List.foldl_append]

theorem all_isDigit_iff (ds : Bytes) : ds.all isDigit = true ↔ AllDigits ds := by
  simp [AllDigits, isDigit, List.all_eq_true]

/-- the shape shared by the three branches of `parseInt`: a digit string whose value passes the
range test `p` -/
theorem digitsRanged_iff (p : Nat → Prop) [DecidablePred p] (g : Nat → Int) (ds : Bytes) (w : Int) :
    (match digitsVal ds with
      | some v => if p v then some (g v) else none
      | none => none) = some w ↔ ds ≠ [] ∧ AllDigits ds ∧ p (decVal ds) ∧ g (decVal ds) = w := by
  cases ds with
  | nil => exact ⟨nofun, fun e => absurd rfl e.1⟩
  | cons c rest =>
    have e : digitsVal (c :: rest) =
        if (c :: rest).all isDigit = true then some (decVal (c :: rest)) else none := rfl
    rw [e]
    by_cases hd : (c :: rest).all isDigit = true
    · rw [if_pos hd]
      have hd' := (all_isDigit_iff _).1 hd
      by_cases hp : p (decVal (c :: rest)) <;> simp [hd', hp]
    · rw [if_neg hd]
      exact ⟨nofun, fun e => absurd ((all_isDigit_iff _).2 e.2.1) hd⟩

theorem parseInt_iff (f : Bytes) (v : Int) : parseInt f = some v ↔ IsIntLit f v := by
  constructor
  · intro h
    cases f with
    | nil => cases h
    | cons c rest =>
      rw [parseInt] at h
      by_cases hm : c = bMinus
      · rw [if_pos hm] at h
        obtain ⟨h0, h1, h2, rfl⟩ := (digitsRanged_iff _ _ _ _).1 h
        exact hm ▸ .minus rest h0 h1 h2
      · rw [if_neg hm] at h
        by_cases hp : c = bPlus
        · rw [if_pos hp] at h
          obtain ⟨h0, h1, h2, rfl⟩ := (digitsRanged_iff _ _ _ _).1 h
          exact hp ▸ .plus rest h0 h1 h2
        · rw [if_neg hp] at h
          obtain ⟨h0, h1, h2, rfl⟩ := (digitsRanged_iff _ _ _ _).1 h
          exact .unsigned _ h0 h1 h2
  · intro h
    cases h with
    | unsigned ds h0 h1 h2 =>
      cases f with
      | nil => exact absurd rfl h0
      | cons c rest =>
        have hc := (h1 c (List.mem_cons_self ..)).1
        have hm : c ≠ bMinus := fun e => absurd (e ▸ hc) (by decide)
        have hp : c ≠ bPlus := fun e => absurd (e ▸ hc) (by decide)
        rw [parseInt, if_neg hm, if_neg hp]
        exact (digitsRanged_iff _ _ _ _).2 ⟨h0, h1, h2, rfl⟩
    | plus ds h0 h1 h2 =>
      have hm : bPlus ≠ bMinus := by decide
      rw [parseInt, if_neg hm, if_pos rfl]
      exact (digitsRanged_iff _ _ _ _).2 ⟨h0, h1, h2, rfl⟩
    | minus ds h0 h1 h2 =>
      rw [parseInt, if_pos rfl]
      exact (digitsRanged_iff _ _ _ _).2 ⟨h0, h1, h2, rfl⟩

theorem IsIntLit.ne_nil {f : Bytes} {v : Int} (h : IsIntLit f v) : f ≠ [] := by
  induction h with
  | unsigned ds h0 _ _ => exact h0
  | plus ds _ _ _ => exact List.cons_ne_nil _ _
  | minus ds _ _ _ => exact List.cons_ne_nil _ _

theorem IsIntLit.inI64 {f : Bytes} {v : Int} (h : IsIntLit f v) : inI64 v := by
  unfold Retry.inI64 minI64 maxI64
  cases h <;> omega

theorem IsIntLit.unique {f : Bytes} {v w : Int} (h : IsIntLit f v) (h' : IsIntLit f w) : v = w :=
  Option.some.inj (((parseInt_iff f v).2 h).symm.trans ((parseInt_iff f w).2 h'))

theorem IsIntLit.bytes {f : Bytes} {v : Int} (h : IsIntLit f v) :
    ∀ c ∈ f, c = bPlus ∨ c = bMinus ∨ (48 ≤ c ∧ c ≤ 57) := by
  induction h with
  | unsigned ds _ h1 _ => exact fun c hc => Or.inr (Or.inr (h1 c hc))
  | plus ds _ h1 _ => exact List.forall_mem_cons.2 ⟨Or.inl rfl, fun c hc => Or.inr (Or.inr (h1 c hc))⟩
  | minus ds _ h1 _ => exact List.forall_mem_cons.2 ⟨Or.inr (Or.inl rfl), fun c hc => Or.inr (Or.inr (h1 c hc))⟩

theorem IsIntLit.noColon {f : Bytes} {v : Int} (h : IsIntLit f v) : NoByte bColon f := by
  intro hc
  have := h.bytes _ hc
  simp only [bColon, bPlus, bMinus] at this
  omega

theorem IsIntLit.noEq {f : Bytes} {v : Int} (h : IsIntLit f v) : NoByte bEq f := by
  intro hc
  have := h.bytes _ hc
  simp only [bEq, bPlus, bMinus] at this
  omega

theorem ite_nil_eq_some {α : Type} (f : Bytes) (d v : α) (o : Option α) :
    (if f = [] then some d else o) = some v ↔ (f = [] ∧ v = d) ∨ (f ≠ [] ∧ o = some v) := by
  split
  · next hf => simp [hf, eq_comm]
  · next hf => simp [hf]

theorem intField_iff (f : Bytes) (dflt v : Int) : intField f dflt = some v ↔ IntField f dflt v := by
  unfold intField IntField
  rw [ite_nil_eq_some, parseInt_iff]
  exact or_congr_right ⟨And.right, fun h => ⟨h.ne_nil, h⟩⟩

theorem IntField.noColon {f : Bytes} {dflt v : Int} (h : IntField f dflt v) : NoByte bColon f := by
  rcases h with ⟨h, _⟩ | h
  · subst h; exact List.not_mem_nil
  · exact h.noColon

/-- derived rule: the colon-freeness of INTEGER fields is implied (`IntField.noColon`); only the
float field, whose syntax is left to `strconv.ParseFloat`, needs the side condition -/
theorem InGrammar.random_of {pf : Option F64} (f0 f1 : Bytes) (lo hi : Int)
    (h0 : IntField f0 0 lo) (h1 : IntField f1 10000 hi) (g0 : 0 ≤ lo) (g1 : lo ≤ hi) :
    InGrammar pf (kRandom ++ [bEq] ++ f0 ++ [bColon] ++ f1) (.random lo hi) :=
  InGrammar.random f0 f1 lo hi h0.noColon h1.noColon h0 h1 g0 g1

theorem InGrammar.expo_of {pf : Option F64} (f0 f1 f2 : Bytes) (i m : Int) (mu : F64)
    (c2 : NoByte bColon f2) (h0 : IntField f0 200 i) (h1 : IntField f1 10000 m)
    (h2 : FloatField pf f2 mu) (g0 : F64.lt F64.one mu = true) (g1 : 0 ≤ i) (g2 : i ≤ m) :
    InGrammar pf (kExpo ++ [bEq] ++ f0 ++ [bColon] ++ f1 ++ [bColon] ++ f2) (.expo i m mu) :=
  InGrammar.expo f0 f1 f2 i m mu h0.noColon h1.noColon c2 h0 h1 h2 g0 g1 g2

theorem splitEq_append (k v : Bytes) (hk : bEq ∉ k) : splitEq (k ++ [bEq] ++ v) = some (k, v) := by
  induction k with
  | nil => simp [splitEq]
  | cons c k ih =>
    have ih := ih (List.not_mem_of_not_mem_cons hk)
    simp only [List.cons_append, List.append_assoc] at ih ⊢
    unfold splitEq
    rw [if_neg (List.ne_of_not_mem_cons hk).symm, ih]

theorem splitEq_some {s k v : Bytes} (h : splitEq s = some (k, v)) : s = k ++ [bEq] ++ v ∧ bEq ∉ k := by
  induction s generalizing k with
  | nil => cases h
  | cons c s ih =>
    unfold splitEq at h
    split at h
    · next hc => cases h; exact ⟨congrArg (· :: _) hc, List.not_mem_nil⟩
    · next hc =>
      split at h
      · next k' v' e =>
        cases h
        exact ⟨congrArg (c :: ·) (ih e).1, List.not_mem_cons_of_ne_of_not_mem (Ne.symm hc) (ih e).2⟩
      · cases h

theorem splitEq_iff (s k v : Bytes) : splitEq s = some (k, v) ↔ s = k ++ [bEq] ++ v ∧ bEq ∉ k :=
  ⟨splitEq_some, fun ⟨h1, h2⟩ => h1 ▸ splitEq_append k v h2⟩

theorem splitEq_none_iff (s : Bytes) : splitEq s = none ↔ bEq ∉ s := by
  induction s with
  | nil => exact iff_of_true rfl List.not_mem_nil
  | cons c s ih =>
    unfold splitEq
    rw [List.mem_cons, not_or, ← ih, eq_comm (a := bEq)]
    split
    · next hc => exact iff_of_false nofun fun h => h.1 hc
    · next hc => cases splitEq s <;> simp [hc]

/-- `strings.Join(fs, ":")` is `List.intercalate [bColon] fs`; its two equations -/
theorem join_single (f : Bytes) : List.intercalate [bColon] [f] = f := by
  simp [List.intercalate]

theorem join_cons_cons (f g : Bytes) (fs : List Bytes) :
    List.intercalate [bColon] (f :: g :: fs) = f ++ bColon :: List.intercalate [bColon] (g :: fs) := by
  simp [List.intercalate]

theorem splitColon_ne_nil (s : Bytes) : splitColon s ≠ [] := by
  cases s with
  | nil => simp [splitColon]
  | cons b rest =>
    unfold splitColon
    split
    · simp
    · split <;> simp

theorem splitColon_append (f r : Bytes) (hf : bColon ∉ f) :
    splitColon (f ++ bColon :: r) = f :: splitColon r := by
  induction f with
  | nil =>
    simp only [List.nil_append]
    rw [splitColon]
    cases e : splitColon r with
    | nil => exact absurd e (splitColon_ne_nil r)
    | cons g gs => simp
  | cons c f ih =>
    simp only [List.cons_append]
    rw [splitColon, ih (List.not_mem_of_not_mem_cons hf)]
    simp [(List.ne_of_not_mem_cons hf).symm]

theorem splitColon_noColon (f : Bytes) (hf : bColon ∉ f) : splitColon f = [f] := by
  induction f with
  | nil => simp [splitColon]
  | cons c f ih =>
    rw [splitColon, ih (List.not_mem_of_not_mem_cons hf)]
    simp [(List.ne_of_not_mem_cons hf).symm]

theorem splitColon_join (fs : List Bytes) (h0 : fs ≠ []) (h1 : ∀ f ∈ fs, bColon ∉ f) :
    splitColon (List.intercalate [bColon] fs) = fs := by
  induction fs with
  | nil => exact absurd rfl h0
  | cons f fs ih =>
    obtain ⟨hf, hfs⟩ := List.forall_mem_cons.1 h1
    cases fs with
    | nil => rw [join_single]; exact splitColon_noColon f hf
    | cons g fs => rw [join_cons_cons, splitColon_append f _ hf, ih (List.cons_ne_nil _ _) hfs]

theorem join_cons_head (b : Nat) (f : Bytes) (fs : List Bytes) :
    List.intercalate [bColon] ((b :: f) :: fs) = b :: List.intercalate [bColon] (f :: fs) := by
  cases fs
  · rw [join_single, join_single]
  · rw [join_cons_cons, join_cons_cons]; rfl

theorem splitColon_spec (s : Bytes) :
    s = List.intercalate [bColon] (splitColon s) ∧ ∀ f ∈ splitColon s, bColon ∉ f := by
  induction s with
  | nil => exact ⟨rfl, List.forall_mem_cons.2 ⟨List.not_mem_nil, nofun⟩⟩
  | cons b rest ih =>
    rw [splitColon]
    cases e : splitColon rest with
    | nil => exact absurd e (splitColon_ne_nil rest)
    | cons f fs =>
      rw [e] at ih
      obtain ⟨ih1, ih2⟩ := ih
      obtain ⟨hf, hfs⟩ := List.forall_mem_cons.1 ih2
      dsimp only
      split
      · next hb => exact ⟨by rw [hb, join_cons_cons, ← ih1]; rfl, List.forall_mem_cons.2 ⟨List.not_mem_nil, ih2⟩⟩
      · next hb =>
        exact ⟨by rw [join_cons_head, ← ih1],
          List.forall_mem_cons.2 ⟨List.not_mem_cons_of_ne_of_not_mem (Ne.symm hb) hf, hfs⟩⟩

/-- `strings.Split(s, ":") = fs` iff `fs` is a non-empty list of colon-free fields whose
`strings.Join(·, ":")` is `s` -/
theorem splitColon_iff (s : Bytes) (fs : List Bytes) :
    splitColon s = fs ↔ s = List.intercalate [bColon] fs ∧ (∀ f ∈ fs, bColon ∉ f) ∧ fs ≠ [] := by
  constructor
  · intro h
    subst h
    exact ⟨(splitColon_spec s).1, (splitColon_spec s).2, splitColon_ne_nil s⟩
  · rintro ⟨h1, h2, h3⟩
    subst h1
    exact splitColon_join fs h3 h2

theorem splitColon_two (s f0 f1 : Bytes) :
    splitColon s = [f0, f1] ↔ s = f0 ++ [bColon] ++ f1 ∧ bColon ∉ f0 ∧ bColon ∉ f1 := by
  rw [splitColon_iff]
  simp only [join_cons_cons, join_single, List.forall_mem_cons, List.not_mem_nil, false_imp_iff, implies_true, ne_eq,
    reduceCtorEq, not_false_eq_true, and_true, List.append_assoc, List.cons_append, List.nil_append]

theorem splitColon_three (s f0 f1 f2 : Bytes) :
    splitColon s = [f0, f1, f2] ↔
      s = f0 ++ [bColon] ++ f1 ++ [bColon] ++ f2 ∧ bColon ∉ f0 ∧ bColon ∉ f1 ∧ bColon ∉ f2 := by
  rw [splitColon_iff]
  simp only [join_cons_cons, join_single, List.forall_mem_cons, List.not_mem_nil, false_imp_iff, implies_true, ne_eq,
    reduceCtorEq, not_false_eq_true, and_true, List.append_assoc, List.cons_append, List.nil_append]

theorem floatField_iff (pf : Option F64) (f : Bytes) (mu : F64) :
    (if f = [] then some defaultMult else pf) = some mu ↔ FloatField pf f mu :=
  ite_nil_eq_some ..

theorem kFixed_noEq : bEq ∉ kFixed := by decide
theorem kRandom_noEq : bEq ∉ kRandom := by decide
theorem kExpo_noEq : bEq ∉ kExpo := by decide

/-! ## `parse` by cases

`parse` splits at the first '=', dispatches on the key, and (for `random`, `exponential`) splits the
values at ':'.  One lemma per outcome of the first two steps; the number of fields stays a `match`
and the field parsers an `Option.bind` chain, so each equation covers success and failure of the
fields alike. -/

section
variable (pf : Option F64) {s key v f0 f1 f2 : Bytes}

theorem parse_noEq (hs : splitEq s = none) : parse pf s = none := by
  unfold parse; rw [hs]

theorem parse_badKey (hs : splitEq s = some (key, v)) (h1 : key ≠ kExpo) (h2 : key ≠ kFixed)
    (h3 : key ≠ kRandom) : parse pf s = none := by
  unfold parse
  rw [hs]
  dsimp only
  rw [if_neg h1, if_neg h2, if_neg h3]

theorem kFixed_ne : kFixed ≠ kExpo := by decide
theorem kRandom_ne : kRandom ≠ kExpo ∧ kRandom ≠ kFixed := by decide

theorem parse_kFixed (hs : splitEq s = some (kFixed, v)) :
    parse pf s = (intField v defaultDelay).bind mkFixed := by
  unfold parse
  rw [hs]
  dsimp only
  rw [if_neg kFixed_ne, if_pos rfl]
  cases intField v defaultDelay <;> rfl

theorem parse_kRandom (hs : splitEq s = some (kRandom, v)) :
    parse pf s = match splitColon v with
      | [f0, f1] => (intField f0 defaultMin).bind fun lo => (intField f1 defaultMax).bind (mkRandom lo)
      | _ => none := by
  unfold parse
  rw [hs]
  dsimp only
  rw [if_neg kRandom_ne.1, if_neg kRandom_ne.2, if_pos rfl]
  generalize splitColon v = fs
  split
  · next f0 f1 =>
    dsimp only
    cases intField f0 defaultMin with
    | none => rfl
    | some lo => cases intField f1 defaultMax <;> rfl
  · next hne =>
    split
    · exact (hne _ _ rfl).elim
    · rfl

theorem parse_kExpo (hs : splitEq s = some (kExpo, v)) :
    parse pf s = match splitColon v with
      | [f0, f1, f2] => (intField f0 defaultInitial).bind fun i => (intField f1 defaultMax).bind fun m =>
          (if f2 = [] then some defaultMult else pf).bind (mkExpo i m)
      | _ => none := by
  unfold parse
  rw [hs]
  dsimp only
  rw [if_pos rfl]
  generalize splitColon v = fs
  split
  · next f0 f1 f2 =>
    dsimp only
    cases intField f0 defaultInitial with
    | none => rfl
    | some i =>
      cases intField f1 defaultMax with
      | none => rfl
      | some m => cases (if f2 = [] then some defaultMult else pf) <;> rfl
  · next hne =>
    split
    · exact (hne _ _ _ rfl).elim
    · rfl

end

/-! ## On a syntactically well-formed specification the parser IS the constructor

These three equations hold whether or not the constructor accepts the numbers: for a string of the
right shape, `parse` returns exactly what `mkFixed` / `mkRandom` / `mkExpo` returns on the numbers
the fields denote (success and validation failure alike). -/

theorem parse_fixed (pf : Option F64) (f : Bytes) (d : Int) (hf : IntField f 200 d) :
    parse pf (kFixed ++ [bEq] ++ f) = mkFixed d := by
  rw [parse_kFixed pf (splitEq_append _ _ kFixed_noEq), (intField_iff _ defaultDelay _).2 hf]
  rfl

theorem parse_random (pf : Option F64) (f0 f1 : Bytes) (lo hi : Int)
    (c0 : NoByte bColon f0) (c1 : NoByte bColon f1)
    (h0 : IntField f0 0 lo) (h1 : IntField f1 10000 hi) :
    parse pf (kRandom ++ [bEq] ++ f0 ++ [bColon] ++ f1) = mkRandom lo hi := by
  rw [List.append_assoc (_ ++ [bEq]), List.append_assoc (_ ++ [bEq]),
    parse_kRandom pf (splitEq_append _ _ kRandom_noEq), (splitColon_two _ _ _).2 ⟨rfl, c0, c1⟩]
  dsimp only
  rw [(intField_iff _ defaultMin _).2 h0, (intField_iff _ defaultMax _).2 h1]
  rfl

theorem parse_expo (pf : Option F64) (f0 f1 f2 : Bytes) (i m : Int) (mu : F64)
    (c0 : NoByte bColon f0) (c1 : NoByte bColon f1) (c2 : NoByte bColon f2)
    (h0 : IntField f0 200 i) (h1 : IntField f1 10000 m) (h2 : FloatField pf f2 mu) :
    parse pf (kExpo ++ [bEq] ++ f0 ++ [bColon] ++ f1 ++ [bColon] ++ f2) = mkExpo i m mu := by
  rw [List.append_assoc (_ ++ [bEq]), List.append_assoc (_ ++ [bEq]), List.append_assoc (_ ++ [bEq]),
    List.append_assoc (_ ++ [bEq]),
    parse_kExpo pf (splitEq_append _ _ kExpo_noEq), (splitColon_three _ _ _ _).2 ⟨rfl, c0, c1, c2⟩]
  dsimp only
  rw [(intField_iff _ defaultInitial _).2 h0, (intField_iff _ defaultMax _).2 h1, (floatField_iff _ _ _).2 h2]
  rfl

theorem parse_iff_grammar (pf : Option F64) (s : Bytes) (b : Backoff) :
    parse pf s = some b ↔ InGrammar pf s b := by
  constructor
  · intro h
    cases hs : splitEq s with
    | none => rw [parse_noEq pf hs] at h; cases h
    | some kv =>
      obtain ⟨key, v⟩ := kv
      obtain ⟨rfl, -⟩ := splitEq_some hs
      by_cases k1 : key = kExpo
      · subst k1
        rw [parse_kExpo pf hs] at h
        split at h
        · next f0 f1 f2 hv =>
          simp only [Option.bind_eq_some_iff, intField_iff, floatField_iff, mkExpo_iff] at h
          obtain ⟨i, h0, m, h1, mu, h2, g0, g1, g2, rfl⟩ := h
          obtain ⟨rfl, c0, c1, c2⟩ := (splitColon_three _ _ _ _).1 hv
          simp only [← List.append_assoc]
          exact .expo f0 f1 f2 i m mu c0 c1 c2 h0 h1 h2 g0 g1 g2
        · cases h
      · by_cases k2 : key = kFixed
        · subst k2
          rw [parse_kFixed pf hs] at h
          simp only [Option.bind_eq_some_iff, intField_iff, mkFixed_iff] at h
          obtain ⟨d, hd, g0, rfl⟩ := h
          exact .fixed v d hd g0
        · by_cases k3 : key = kRandom
          · subst k3
            rw [parse_kRandom pf hs] at h
            split at h
            · next f0 f1 hv =>
              simp only [Option.bind_eq_some_iff, intField_iff, mkRandom_iff] at h
              obtain ⟨lo, h0, hi, h1, g0, g1, rfl⟩ := h
              obtain ⟨rfl, c0, c1⟩ := (splitColon_two _ _ _).1 hv
              simp only [← List.append_assoc]
              exact .random f0 f1 lo hi c0 c1 h0 h1 g0 g1
            · cases h
          · rw [parse_badKey pf hs k1 k2 k3] at h
            cases h
  · intro h
    induction h with
    | fixed f d hf hd =>
      rw [parse_fixed pf f d hf]
      exact (mkFixed_iff _ _).2 ⟨hd, rfl⟩
    | random f0 f1 lo hi c0 c1 h0 h1 g0 g1 =>
      rw [parse_random pf f0 f1 lo hi c0 c1 h0 h1]
      exact (mkRandom_iff _ _ _).2 ⟨g0, g1, rfl⟩
    | expo f0 f1 f2 i m mu c0 c1 c2 h0 h1 h2 g0 g1 g2 =>
      rw [parse_expo pf f0 f1 f2 i m mu c0 c1 c2 h0 h1 h2]
      exact (mkExpo_iff _ _ _ _).2 ⟨g0, g1, g2, rfl⟩

theorem parse_fails_otherwise (pf : Option F64) (s : Bytes) (h : ¬ ∃ b, InGrammar pf s b) :
    parse pf s = none := by
  cases e : parse pf s with
  | none => rfl
  | some b => exact absurd ⟨b, (parse_iff_grammar pf s b).1 e⟩ h

theorem InGrammar.unique {pf : Option F64} {s : Bytes} {b b' : Backoff}
    (h : InGrammar pf s b) (h' : InGrammar pf s b') : b = b' :=
  Option.some.inj (((parse_iff_grammar pf s b).2 h).symm.trans ((parse_iff_grammar pf s b').2 h'))

instance (pf : Option F64) (s : Bytes) (b : Backoff) : Decidable (InGrammar pf s b) :=
  decidable_of_iff _ (parse_iff_grammar pf s b)

end Garr.SpecParse
